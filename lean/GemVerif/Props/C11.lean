/-
  C11 — Kernel, metric and GEMINI choices are forwarded faithfully; precomputed = named.

  The objects: `Gen.Forwarding.tables` / `.estimators` are regenerated from /repo on every check
  (translator/forwarding.py); `Model.Forwarding` interprets them (`resolveGemini` = `Est(**hyper).get_gemini()`,
  `estAffinity` = `get_gemini().compute_affinity(X, y)`, `estOwnKernel` = `_compute_kernel`).

  `Spec.Forwarding` below is hand-written from the docstrings of the 18 estimators and of the GEMINI classes: it says
  what the documentation promises.  The table theorems compare the two by kernel evaluation over every estimator and
  every representative hyperparameter assignment of `Lemmas.Forwarding`; the dispatch theorems hold for an arbitrary
  interpretation `ops` of scikit-learn's pairwise functions and user callables, and range over `namedKernels` /
  `namedMetrics` of `Lemmas.Forwarding`: the documented names written out a second time, without "precomputed"
  (`mmdKernels = namedKernels ++ ["precomputed"]` and likewise for the metrics hold by `rfl`; no theorem needs it).

  Not a theorem here (validated bitwise on the real code by harness/props/c11.py): that `fit`, `path` and `score`
  depend on the kernel/metric hyperparameters only through the affinity matrix and the resolved GEMINI.
-/
import GemVerif.Lemmas.Forwarding
import GemVerif.Gen.Registry

namespace GemVerif.Spec.Forwarding
open GemVerif.Model.Forwarding

/-- `MMDGEMINI` / `*MMD` docstrings: "kernel: {'additive_chi2', 'chi2', 'cosine','linear','poly','polynomial',
    'rbf','laplacian','sigmoid', 'precomputed'}, default='linear'" -/
def mmdKernels : List String :=
  ["additive_chi2", "chi2", "cosine", "linear", "poly", "polynomial", "rbf", "laplacian", "sigmoid", "precomputed"]

/-- `WassersteinGEMINI` / `*Wasserstein` docstrings: "metric: {'cosine', 'euclidean', 'l2','l1','manhattan',
    'cityblock', 'precomputed'}, default='euclidean'" -/
def wassMetrics : List String := ["cosine", "euclidean", "l2", "l1", "manhattan", "cityblock", "precomputed"]

/-- every GEMINI class: "epsilon: float, default=1e-12" -/
def defaultEps : String := "1e-12"

def given (h : Hyper) (k : String) (dflt : Atom) : Val := (lookup h k).getD (.atom dflt)

/-- "kernel_params: dict, default=None — a dictionary of keyword arguments to pass to the chosen kernel function" -/
def paramsDoc : Val → Option (Option Params)
  | .atom .none => some none
  | .atom (.dict d) => some (some d)
  | _ => none

/-- the affinity a `kernel` / `metric` value names: a callable, the user's matrix, or one of the documented
    names; anything else is outside the documentation (`none`) -/
def affDoc (names : List String) (k : Val) (p : Option Params) : Option AffKind :=
  match k with
  | .atom (.fn f) => some (.callable f p)
  | .atom (.str s) =>
      if s = "precomputed" then some (.precomputed p) else if s ∈ names then some (.named s p) else none
  | _ => none

/-- `LinearMMD`, `MLPMMD`, `SparseLinearMMD`, `SparseMLPMMD`, `CategoricalMMD`: "maximisation of the MMD GEMINI";
    "ovo: bool, default=False — MMD OvA (False) or MMD OvO (True)"; kernel and kernel_params as above. -/
def mmdDoc (h : Hyper) : Except Unit GeminiDoc :=
  match given h "ovo" (.bool false), paramsDoc (given h "kernel_params" .none) with
  | .atom (.bool ovo), some p =>
      match affDoc mmdKernels (given h "kernel" (.str "linear")) p with
      | some a => .ok ⟨"MMDGEMINI", ovo, a, defaultEps⟩
      | none => .error ()
  | _, _ => .error ()

/-- `LinearWasserstein`, `MLPWasserstein`, `CategoricalWasserstein`: "maximisation of the Wasserstein GEMINI";
    "ovo: bool, default=False"; "metric … default='euclidean'"; "metric_params: dict, default=None".
    The docstrings list no callable, and `WassersteinGEMINI` documents none: a callable metric is outside the
    documentation. -/
def wassDoc (h : Hyper) : Except Unit GeminiDoc :=
  match given h "ovo" (.bool false), paramsDoc (given h "metric_params" .none), given h "metric" (.str "euclidean") with
  | .atom (.bool ovo), some p, .atom (.str s) =>
      match affDoc wassMetrics (.atom (.str s)) p with
      | some a => .ok ⟨"WassersteinGEMINI", ovo, a, defaultEps⟩
      | none => .error ()
  | _, _, _ => .error ()

/-- `RIM`, `KernelRIM`: "maximisation of the classical mutual information"; `SparseLinearMI`: "the MI GEMINI
    (KL one-vs-all)".  No affinity. -/
def miDoc : GeminiDoc := ⟨"KLGEMINI", false, .notNeeded, defaultEps⟩

/-- the 13 names of `gemclus.gemini.AVAILABLE_GEMINIS`: "Default GEMINIs involve the Euclidean metric or linear
    kernel"; `mi` is the KL one-vs-all GEMINI -/
def nameDoc : List (String × GeminiDoc) := [
  ("mmd_ova", ⟨"MMDGEMINI", false, .named "linear" none, defaultEps⟩),
  ("mmd_ovo", ⟨"MMDGEMINI", true, .named "linear" none, defaultEps⟩),
  ("wasserstein_ova", ⟨"WassersteinGEMINI", false, .named "euclidean" none, defaultEps⟩),
  ("wasserstein_ovo", ⟨"WassersteinGEMINI", true, .named "euclidean" none, defaultEps⟩),
  ("kl_ova", ⟨"KLGEMINI", false, .notNeeded, defaultEps⟩),
  ("kl_ovo", ⟨"KLGEMINI", true, .notNeeded, defaultEps⟩),
  ("mi", ⟨"KLGEMINI", false, .notNeeded, defaultEps⟩),
  ("tv_ova", ⟨"TVGEMINI", false, .notNeeded, defaultEps⟩),
  ("tv_ovo", ⟨"TVGEMINI", true, .notNeeded, defaultEps⟩),
  ("hellinger_ova", ⟨"HellingerGEMINI", false, .notNeeded, defaultEps⟩),
  ("hellinger_ovo", ⟨"HellingerGEMINI", true, .notNeeded, defaultEps⟩),
  ("chi2_ova", ⟨"ChiSquareGEMINI", false, .notNeeded, defaultEps⟩),
  ("chi2_ovo", ⟨"ChiSquareGEMINI", true, .notNeeded, defaultEps⟩)]

/-- "gemini: str, GEMINI instance or None, default=<dflt> … a GEMINI can also be passed as an instance.  If set to
    None, the GEMINI will be MMD OvA with linear kernel." -/
def genericDoc (dflt : String) (h : Hyper) : Except Unit GeminiDoc :=
  match given h "gemini" (.str dflt) with
  | .atom .none => .ok ⟨"MMDGEMINI", false, .named "linear" none, defaultEps⟩
  | .atom (.str s) => match lookup nameDoc s with
      | some d => .ok d
      | none => .error ()
  | .gem g => match describe g with
      | some d => .ok d
      | none => .error ()
  | _ => .error ()

/-- the documented forwarding table: estimator, hyperparameters ↦ the GEMINI it trains and scores with -/
def forwardingDoc (est : String) (h : Hyper) : Except Unit GeminiDoc :=
  if est ∈ ["LinearMMD", "MLPMMD", "SparseLinearMMD", "SparseMLPMMD", "CategoricalMMD"] then mmdDoc h
  else if est ∈ ["LinearWasserstein", "MLPWasserstein", "CategoricalWasserstein"] then wassDoc h
  else if est ∈ ["RIM", "KernelRIM", "SparseLinearMI"] then .ok miDoc
  else if est ∈ ["LinearModel", "MLPModel", "SparseLinearModel", "SparseMLPModel", "CategoricalModel"] then
    genericDoc "mmd_ova" h
  else if est = "Douglas" then genericDoc "wasserstein_ova" h     -- "gemini: … default='wasserstein_ova'"
  else .error ()

/-- the scikit-learn function a GEMINI class evaluates its named affinity with -/
def pairwiseFn (cls : String) : String :=
  if cls = "MMDGEMINI" then "pairwise_kernels" else "pairwise_distances"

/-- the documented affinity of a documented GEMINI, as a symbolic matrix: the named scikit-learn kernel/metric of
    `X` "evaluated with the given kernel_params/metric_params", the output of the callable on `X`, the user's
    matrix — "a missing matrix is an error" — or nothing (f-divergences) -/
def affinityDoc (d : GeminiDoc) (y : Option Sym) : Except Unit (Option Sym) :=
  match d.aff with
  | .notNeeded => .ok none
  | .named s p => .ok (some (.pairwise (pairwiseFn d.cls) [.X] (.name s) (p.getD [])))
  | .callable f _ => .ok (some (.call f [.X]))
  | .precomputed _ => match y with
      | some m => .ok (some m)
      | none => .error ()

end GemVerif.Spec.Forwarding

namespace GemVerif.Props.C11
open GemVerif.Model.Forwarding GemVerif.Lemmas.Forwarding
open GemVerif.Gen.Forwarding (tables estimators aff_MMDGEMINI aff_WassersteinGEMINI)
open GemVerif.Spec.Forwarding

/-- The translator found exactly the 18 estimators, in the order of the property text. -/
theorem estimators_complete :
    estimators.map (·.name) =
      ["LinearModel", "LinearMMD", "LinearWasserstein", "RIM", "KernelRIM", "MLPModel", "MLPMMD", "MLPWasserstein",
       "SparseLinearModel", "SparseLinearMMD", "SparseLinearMI", "SparseMLPModel", "SparseMLPMMD",
       "CategoricalModel", "CategoricalMMD", "CategoricalWasserstein", "Douglas", "Kauri"] := by
  decide +kernel

/-- The estimator described by `est rep` forwards `h` as `doc` says: `get_gemini()` is the documented GEMINI, and its
    affinity is the documented one with and without a user matrix `y` (or both sides reject).  Stated for
    `slim (est rep)`, the description without the attribute bindings that `get_gemini` does not read, so that an
    evaluation binds one to three attributes, not a dozen. -/
structure Forwards (rep : String) (doc : Hyper → Except Unit GeminiDoc) (h : Hyper) : Prop where
  gemini : docOf (resolveGemini tables (slim (est rep)) h) = doc h
  affinity : ∀ y ∈ [none, some Sym.user],
    okOrRejected (estAffinity tables symOps (slim (est rep)) h y).res = (doc h >>= (affinityDoc · y))

instance (rep : String) (doc : Hyper → Except Unit GeminiDoc) (h : Hyper) : Decidable (Forwards rep doc h) :=
  decidable_of_iff (_ ∧ _) ⟨fun ⟨a, b⟩ => ⟨a, b⟩, fun f => ⟨f.gemini, f.affinity⟩⟩

/-- Every comparison of the translated tables with the documented ones, as one decidable proposition, so that one
    kernel evaluation (`all_forward`) evaluates the tables and their strings once and computes the affinity from the
    `get_gemini()` already resolved for the same assignment.  The MMD and the Wasserstein estimators are evaluated
    once per family, on `LinearMMD` / `LinearWasserstein`: every member resolves like these on every assignment of the
    family's keywords (`families_alike`, `resolveGemini_alike`), and `forwardingDoc` does not tell the members apart.
    The table theorems below are read off the fields through these lemmas. -/
structure AllForward : Prop where
  mmd : ∀ h ∈ mmdHypers, keysIn mmdKeys h = true ∧ Forwards "LinearMMD" mmdDoc h
  wass : ∀ h ∈ wassHypers, keysIn wassKeys h = true ∧ Forwards "LinearWasserstein" wassDoc h
  generic : ∀ h ∈ geminiHypers, keysIn ["gemini"] h = true ∧ ∀ e ∈ genericEstimators, Forwards e (forwardingDoc e) h
  /-- the error for a missing matrix -/
  missing :
    (∀ o ∈ ovoVals, ∀ p ∈ paramVals, keysIn mmdKeys (mmdHyper o (some (.str "precomputed")) p) = true ∧
      (estAffinity tables symOps (slim (est "LinearMMD")) (mmdHyper o (some (.str "precomputed")) p) none).res
        = .error "ValueError") ∧
    (∀ o ∈ ovoVals, ∀ p ∈ paramVals, keysIn wassKeys (wassHyper o (some (.str "precomputed")) p) = true ∧
      (estAffinity tables symOps (slim (est "LinearWasserstein")) (wassHyper o (some (.str "precomputed")) p) none).res
        = .error "ValueError") ∧
    (∀ e ∈ genericEstimators, ∀ g ∈ instances, (describe g).any (fun d => d.aff matches .precomputed _) →
      (estAffinity tables symOps (slim (est e)) [("gemini", .gem g)] none).res = .error "ValueError")
  /-- the three mutual-information estimators -/
  mi : ∀ e ∈ miEstimators, docOf (resolveGemini tables (est e) []) = .ok miDoc ∧
    docOf (resolveGemini tables (est e) []) = forwardingDoc e []
  kernelRim : ∀ h ∈ miHypers, docOf (resolveGemini tables (est "KernelRIM") h) = .ok miDoc
  miAffinity : ∀ e ∈ miEstimators, ∀ y ∈ [none, some Sym.user],
    (estAffinity tables symOps (est e) [] y) = ⟨0, .ok none⟩
  registry : ∀ r ∈ GemVerif.Gen.registry,
    docOf (strToGemini tables r.1) =
      .ok ⟨r.2.1, r.2.2.1, if r.2.2.2 = "" then .notNeeded else .named r.2.2.2 none, defaultEps⟩

instance : Decidable AllForward :=
  decidable_of_iff (_ ∧ _ ∧ _ ∧ _ ∧ _ ∧ _ ∧ _ ∧ _)
    ⟨fun ⟨a, b, c, d, e, f, g, h⟩ => ⟨a, b, c, d, e, f, g, h⟩,
     fun h => ⟨h.mmd, h.wass, h.generic, h.missing, h.mi, h.kernelRim, h.miAffinity, h.registry⟩⟩

/-- The translated tables forward as documented (`AllForward`), by one kernel evaluation. -/
theorem all_forward : AllForward := by
  decide +kernel

/-- MMD estimators (Linear, MLP, SparseLinear, SparseMLP, Categorical): for every representative assignment of
    `ovo` (omitted / False / True), `kernel` (omitted, named, "precomputed", callable, undocumented name) and
    `kernel_params` (omitted / None / two dictionaries) `get_gemini()` is the documented MMD GEMINI — same OvA/OvO
    mode, same kernel, the same parameter dictionary, default epsilon — or both reject the value. -/
theorem mmd_estimators_forward :
    ∀ e ∈ mmdEstimators, ∀ h ∈ mmdHypers, docOf (resolveGemini tables (est e) h) = forwardingDoc e h :=
  fun e he h hh => by
    have ⟨hk, f⟩ := all_forward.mmd h hh
    rw [resolveGemini_alike tables (families_alike.1 e he) hk, f.gemini]
    -- the first test of `forwardingDoc` is `e ∈ mmdEstimators`, the second `e ∈ wassEstimators`
    exact (if_pos he).symm

/-- Wasserstein estimators (Linear, MLP, Categorical): same statement with `metric` / `metric_params`; callables
    and names outside the documented list are rejected by both. -/
theorem wasserstein_estimators_forward :
    ∀ e ∈ wassEstimators, ∀ h ∈ wassHypers, docOf (resolveGemini tables (est e) h) = forwardingDoc e h :=
  fun e he h hh => by
    have ⟨hk, f⟩ := all_forward.wass h hh
    rw [resolveGemini_alike tables (families_alike.2.1 e he) hk, f.gemini]
    exact ((if_neg (wass_not_mmd e he)).trans (if_pos he)).symm

/-- RIM, KernelRIM and SparseLinearMI constructed with their defaults train with the KL one-vs-all GEMINI (mutual
    information), as documented. -/
theorem mi_estimators_forward :
    ∀ e ∈ miEstimators, docOf (resolveGemini tables (est e) []) = .ok miDoc ∧
      docOf (resolveGemini tables (est e) []) = forwardingDoc e [] :=
  all_forward.mi

/-- `KernelRIM`'s `base_kernel` / `base_kernel_params` do not leak into its GEMINI. -/
theorem kernelrim_gemini_ignores_base_kernel :
    ∀ h ∈ miHypers, docOf (resolveGemini tables (est "KernelRIM") h) = .ok miDoc :=
  all_forward.kernelRim

/-- Generic estimators (LinearModel, MLPModel, SparseLinearModel, SparseMLPModel, CategoricalModel, Douglas):
    `gemini` omitted ↦ the documented default ("mmd_ova"; Douglas "wasserstein_ova"), `None` ↦ MMD one-vs-all with
    the linear kernel, each of the 13 names ↦ its documented GEMINI, an unknown name ↦ rejected, an instance ↦ that
    very instance. -/
theorem generic_estimators_forward :
    ∀ e ∈ genericEstimators, ∀ h ∈ geminiHypers, docOf (resolveGemini tables (est e) h) = forwardingDoc e h :=
  fun e he h hh => by
    have ⟨hk, f⟩ := all_forward.generic h hh
    rw [resolveGemini_alike tables (families_alike.2.2 e he) hk, (f e he).gemini]

/-- A GEMINI instance is returned untouched (object identity in the model: the same `GeminiObj`). -/
theorem instance_is_itself :
    ∀ e ∈ genericEstimators, ∀ g ∈ instances, resolveGemini tables (est e) [("gemini", .gem g)] = .ok g :=
  fun e he g _ => generic_est_keeps_instance g e he

/-- The registry as this translator reads it (constructor calls, resolved through the constructors) agrees with
    the registry table of C01 (`Gen.registry`, produced by translator/tables.py): class, mode, kernel/metric. -/
theorem registry_consistent :
    ∀ r ∈ GemVerif.Gen.registry,
      docOf (strToGemini tables r.1) =
        .ok ⟨r.2.1, r.2.2.1, if r.2.2.2 = "" then .notNeeded else .named r.2.2.2 none, defaultEps⟩ :=
  all_forward.registry

/-- For every MMD estimator and every representative assignment, with and without a user matrix `y`: the affinity
    `get_gemini().compute_affinity(X, y)` is the documented one — `pairwise_kernels` of `X` with the named kernel
    and exactly the given parameter dictionary, `f(X)` for a callable, `y` itself for "precomputed", an error when
    that `y` is missing. -/
theorem mmd_affinity_as_documented :
    ∀ e ∈ mmdEstimators, ∀ h ∈ mmdHypers, ∀ y ∈ [none, some Sym.user],
      okOrRejected (estAffinity tables symOps (est e) h y).res = (forwardingDoc e h >>= (affinityDoc · y)) :=
  fun e he h hh y hy => by
    have ⟨hk, f⟩ := all_forward.mmd h hh
    rw [estAffinity_alike tables symOps (families_alike.1 e he) hk, f.affinity y hy]
    exact congrArg (· >>= (affinityDoc · y)) (if_pos he).symm

/-- Wasserstein estimators: `pairwise_distances` of `X` with the named metric and exactly the given dictionary,
    `y` itself for "precomputed", an error when it is missing. -/
theorem wasserstein_affinity_as_documented :
    ∀ e ∈ wassEstimators, ∀ h ∈ wassHypers, ∀ y ∈ [none, some Sym.user],
      okOrRejected (estAffinity tables symOps (est e) h y).res = (forwardingDoc e h >>= (affinityDoc · y)) :=
  fun e he h hh y hy => by
    have ⟨hk, f⟩ := all_forward.wass h hh
    rw [estAffinity_alike tables symOps (families_alike.2.1 e he) hk, f.affinity y hy]
    exact congrArg (· >>= (affinityDoc · y)) ((if_neg (wass_not_mmd e he)).trans (if_pos he)).symm

/-- Generic estimators: the affinity of the resolved GEMINI (default, `None`, name or instance); `None` for the
    f-divergences. -/
theorem generic_affinity_as_documented :
    ∀ e ∈ genericEstimators, ∀ h ∈ geminiHypers, ∀ y ∈ [none, some Sym.user],
      okOrRejected (estAffinity tables symOps (est e) h y).res = (forwardingDoc e h >>= (affinityDoc · y)) :=
  fun e he h hh y hy => by
    have ⟨hk, f⟩ := all_forward.generic h hh
    rw [estAffinity_alike tables symOps (families_alike.2.2 e he) hk, (f e he).affinity y hy]

/-- RIM, KernelRIM, SparseLinearMI: no affinity (`None`), with or without `y`. -/
theorem mi_affinity_is_none :
    ∀ e ∈ miEstimators, ∀ y ∈ [none, some Sym.user], (estAffinity tables symOps (est e) [] y) = ⟨0, .ok none⟩ :=
  all_forward.miAffinity

/-- "(a missing matrix is an error)": every GEMINI-based estimator asked for a precomputed affinity and given no
    matrix raises `ValueError` — for each MMD / Wasserstein estimator, both modes, any parameter value, and for the
    generic estimators holding a precomputed instance. -/
theorem missing_matrix_is_error :
    (∀ e ∈ mmdEstimators, ∀ o ∈ ovoVals, ∀ p ∈ paramVals,
      (estAffinity tables symOps (est e) (mmdHyper o (some (.str "precomputed")) p) none).res = .error "ValueError") ∧
    (∀ e ∈ wassEstimators, ∀ o ∈ ovoVals, ∀ p ∈ paramVals,
      (estAffinity tables symOps (est e) (wassHyper o (some (.str "precomputed")) p) none).res = .error "ValueError") ∧
    (∀ e ∈ genericEstimators, ∀ g ∈ instances, (describe g).any (fun d => d.aff matches .precomputed _) →
      (estAffinity tables symOps (est e) [("gemini", .gem g)] none).res = .error "ValueError") := by
  obtain ⟨hm, hw, hg⟩ := all_forward.missing
  refine ⟨fun e he o ho p hp => ?_, fun e he o ho p hp => ?_, fun e he g hg' hpre => ?_⟩
  · rw [estAffinity_alike tables symOps (families_alike.1 e he) (hm o ho p hp).1]
    exact (hm o ho p hp).2
  · rw [estAffinity_alike tables symOps (families_alike.2.1 e he) (hw o ho p hp).1]
    exact (hw o ho p hp).2
  · rw [estAffinity_alike tables symOps (families_alike.2.2 e he) rfl]
    exact hg e he g hg' hpre

section generic
variable {M : Type} (ops : Ops M)

/-- MMD estimators: handing `kernel="precomputed"` the matrix `pairwise_kernels(X, metric=s, **params)` gives the
    same outcome of `compute_affinity` (matrix, number of warnings) as naming the kernel `s` with
    `kernel_params=params` — whatever scikit-learn computes (`ops` arbitrary), for every documented name, both modes,
    any dictionary, and whatever `y` the named call receives. -/
theorem mmd_precomputed_eq_named :
    ∀ e ∈ mmdEstimators, ∀ ovo : Bool, ∀ s ∈ namedKernels, ∀ (p : Option Params) (y : Option M),
      estAffinity tables ops (est e) (mmdHyper (some ovo) (some (.str "precomputed")) (some .none))
          (some (ops.pairwise "pairwise_kernels" [.X] (.name s) (p.getD [])))
        = estAffinity tables ops (est e) (mmdHyper (some ovo) (some (.str s)) (some (optAtom p))) y := by
  intro e he ovo s hs p y
  have hne := ne_precomputed s (List.mem_append_left _ hs)
  rw [estAffinity_eq ops (mmd_est_obj ovo .none (Or.inl rfl) e he "precomputed" (List.mem_cons_self ..)),
    estAffinity_eq ops (mmd_est_obj ovo _ (optAtom_cases p) e he s (List.mem_cons_of_mem _ hs))]
  simp only [computeAffinity_mmdObj, aff_MMDGEMINI_eq, ← paramsOf_optAtom]
  exact affTree_precomputed_eq_named ops _ _ s (optAtom p) y rfl hne rfl (optAtom_cases p) rfl

/-- … and the two estimators resolve to the same GEMINI class, mode and epsilon (they differ only in the
    attributes that name the affinity). -/
theorem mmd_precomputed_same_objective :
    ∀ e ∈ mmdEstimators, ∀ ovo : Bool, ∀ s ∈ namedKernels, ∀ p : Option Params,
      docOf (resolveGemini tables (est e) (mmdHyper (some ovo) (some (.str "precomputed")) (some .none)))
          = .ok ⟨"MMDGEMINI", ovo, .precomputed none, "1e-12"⟩ ∧
      docOf (resolveGemini tables (est e) (mmdHyper (some ovo) (some (.str s)) (some (optAtom p))))
          = .ok ⟨"MMDGEMINI", ovo, .named s p, "1e-12"⟩ := by
  intro e he ovo s hs p
  have hne := ne_precomputed s (List.mem_append_left _ hs)
  rw [mmd_est_obj ovo .none (Or.inl rfl) e he "precomputed" (List.mem_cons_self ..),
    mmd_est_obj ovo _ (optAtom_cases p) e he s (List.mem_cons_of_mem _ hs)]
  refine ⟨rfl, ?_⟩
  -- `describe` reads the four attributes of `mmdObj` back; `hne` makes the kernel `.named s`
  simp [docOf, describe, mmdObj, lookup, optParams_optAtom, hne]

/-- Wasserstein estimators: same statement with `pairwise_distances` and `metric_params`. -/
theorem wasserstein_precomputed_eq_named :
    ∀ e ∈ wassEstimators, ∀ ovo : Bool, ∀ s ∈ namedMetrics, ∀ (p : Option Params) (y : Option M),
      estAffinity tables ops (est e) (wassHyper (some ovo) (some (.str "precomputed")) (some .none))
          (some (ops.pairwise "pairwise_distances" [.X] (.name s) (p.getD [])))
        = estAffinity tables ops (est e) (wassHyper (some ovo) (some (.str s)) (some (optAtom p))) y := by
  intro e he ovo s hs p y
  have hne := ne_precomputed s (List.mem_append_right _ hs)
  rw [estAffinity_eq ops (wass_est_obj ovo .none (Or.inl rfl) e he "precomputed" (List.mem_cons_self ..)),
    estAffinity_eq ops (wass_est_obj ovo _ (optAtom_cases p) e he s (List.mem_cons_of_mem _ hs))]
  simp only [computeAffinity_wassObj, aff_WassersteinGEMINI_eq, ← paramsOf_optAtom]
  exact affTree_precomputed_eq_named ops _ _ s (optAtom p) y rfl hne rfl (optAtom_cases p) rfl

/-- Wasserstein estimators: the estimator with `metric="precomputed"` and the one with a documented metric name `s`
    and `metric_params=params` resolve to the same GEMINI class, mode and epsilon; they differ only in the attributes
    that name the affinity. -/
theorem wasserstein_precomputed_same_objective :
    ∀ e ∈ wassEstimators, ∀ ovo : Bool, ∀ s ∈ namedMetrics, ∀ p : Option Params,
      docOf (resolveGemini tables (est e) (wassHyper (some ovo) (some (.str "precomputed")) (some .none)))
          = .ok ⟨"WassersteinGEMINI", ovo, .precomputed none, "1e-12"⟩ ∧
      docOf (resolveGemini tables (est e) (wassHyper (some ovo) (some (.str s)) (some (optAtom p))))
          = .ok ⟨"WassersteinGEMINI", ovo, .named s p, "1e-12"⟩ := by
  intro e he ovo s hs p
  have hne := ne_precomputed s (List.mem_append_right _ hs)
  rw [wass_est_obj ovo .none (Or.inl rfl) e he "precomputed" (List.mem_cons_self ..),
    wass_est_obj ovo _ (optAtom_cases p) e he s (List.mem_cons_of_mem _ hs)]
  refine ⟨rfl, ?_⟩
  -- `describe` reads the four attributes of `wassObj` back; `hne` makes the metric `.named s`
  simp [docOf, describe, wassObj, lookup, optParams_optAtom, hne]

/-- A callable kernel is used as `f(X)`: for every MMD estimator, both modes, with or without a parameter
    dictionary (which is ignored), with or without `y`. -/
theorem mmd_callable_is_f_of_X :
    ∀ e ∈ mmdEstimators, ∀ (ovo : Bool) (f : String) (p : Option Params) (y : Option M),
      (estAffinity tables ops (est e) (mmdHyper (some ovo) (some (.fn f)) (some (optAtom p))) y).res
        = .ok (some (ops.call f [.X])) := by
  intro e he ovo f p y
  rw [estAffinity_eq ops ((mmd_est_builds ovo _ _ e he).trans (buildMMD_fn ovo f p)), computeAffinity_mmdObj]
  exact affTree_callable ops _ f (optAtom p) y rfl rfl

/-- `Kauri(kernel=s)._compute_kernel(X, y)` is `pairwise_kernels(X, metric=s)` with no parameters (Kauri documents
    none: "all kernel parameters are the default ones"), so `Kauri(kernel="precomputed")` given that matrix
    computes with the same kernel.  Any string `s` other than "precomputed". -/
theorem kauri_precomputed_eq_named (s : String) (hs : s ≠ "precomputed") (y : Option M) :
    estOwnKernel ops (est "Kauri") [("kernel", .atom (.str "precomputed"))]
        (some (ops.pairwise "pairwise_kernels" [.X] (.name s) []))
      = estOwnKernel ops (est "Kauri") [("kernel", .atom (.str s))] y := by
  rw [estOwnKernel_eq ops rfl rfl, estOwnKernel_eq ops rfl rfl]
  exact (kauri_precomputed ops _ _ rfl).trans (kauri_named ops _ s y rfl hs).symm

/-- Kauri's documented fall-back (DESIGN §12: modelled as the code does, not reported): `kernel="precomputed"`
    without a matrix warns once and uses the linear kernel. -/
theorem kauri_missing_matrix_falls_back_to_linear :
    estOwnKernel ops (est "Kauri") [("kernel", .atom (.str "precomputed"))] none
      = ⟨1, .ok (some (ops.pairwise "pairwise_kernels" [.X] (.name "linear") []))⟩ := by
  rw [estOwnKernel_eq ops rfl rfl]
  exact kauri_precomputed_missing ops _ rfl

/-- `KernelRIM._compute_kernel`: the named kernel between the points and the training points with exactly
    `base_kernel_params`, or `f(X, input_data_)` for a callable. -/
theorem kernelrim_kernel_between_new_and_training (s : String) (p : Option Params) (f : String) (y : Option M) :
    estOwnKernel ops (est "KernelRIM") [("base_kernel", .atom (.str s)), ("base_kernel_params", .atom (optAtom p))] y
        = ⟨0, .ok (some (ops.pairwise "pairwise_kernels" [.X, .train] (.name s) (p.getD [])))⟩ ∧
    (estOwnKernel ops (est "KernelRIM") [("base_kernel", .atom (.fn f)), ("base_kernel_params", .atom (optAtom p))] y).res
        = .ok (some (ops.call f [.X, .train])) := by
  rw [estOwnKernel_eq ops rfl rfl, estOwnKernel_eq ops rfl rfl, ← paramsOf_optAtom]
  exact ⟨kernelrim_named ops _ s _ y rfl rfl (optAtom_cases p), kernelrim_callable ops _ f _ y rfl rfl⟩

/-- `MMDGEMINI.compute_affinity`, for any kernel string and any attribute list: a matrix equal to the named kernel
    given to "precomputed" is the affinity the named kernel yields. -/
theorem mmd_dispatch_precomputed_eq_named (aN aP : List (String × Atom)) (s : String) (pa : Atom) (y : Option M)
    (hN : lookup aN "kernel" = some (.str s)) (hs : s ≠ "precomputed")
    (hp : lookup aN "kernel_params" = some pa) (hpa : pa = .none ∨ ∃ d, pa = .dict d)
    (hP : lookup aP "kernel" = some (.str "precomputed")) :
    runAff ops aP (some (ops.pairwise "pairwise_kernels" [.X] (.name s) (paramsOf pa))) aff_MMDGEMINI
      = runAff ops aN y aff_MMDGEMINI :=
  affTree_precomputed_eq_named ops aN aP s pa y hN hs hp hpa hP

/-- `WassersteinGEMINI.compute_affinity`, likewise. -/
theorem wasserstein_dispatch_precomputed_eq_named (aN aP : List (String × Atom)) (s : String) (pa : Atom)
    (y : Option M) (hN : lookup aN "metric" = some (.str s)) (hs : s ≠ "precomputed")
    (hp : lookup aN "metric_params" = some pa) (hpa : pa = .none ∨ ∃ d, pa = .dict d)
    (hP : lookup aP "metric" = some (.str "precomputed")) :
    runAff ops aP (some (ops.pairwise "pairwise_distances" [.X] (.name s) (paramsOf pa))) aff_WassersteinGEMINI
      = runAff ops aN y aff_WassersteinGEMINI :=
  affTree_precomputed_eq_named ops aN aP s pa y hN hs hp hpa hP

/-- The hypotheses above are satisfiable (a named object and a precomputed one exist). -/
example : ∃ (aN aP : List (String × Atom)) (s : String) (pa : Atom),
    lookup aN "kernel" = some (.str s) ∧ s ≠ "precomputed" ∧ lookup aN "kernel_params" = some pa ∧
    (pa = .none ∨ ∃ d, pa = .dict d) ∧ lookup aP "kernel" = some (.str "precomputed") :=
  ⟨[("kernel", .str "rbf"), ("kernel_params", .dict [("gamma", "0.3")])], [("kernel", .str "precomputed")], "rbf",
   .dict [("gamma", "0.3")], rfl, by decide, rfl, Or.inr ⟨_, rfl⟩, rfl⟩

end generic

end GemVerif.Props.C11
