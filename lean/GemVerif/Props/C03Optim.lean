/-
  C03 (companion) — what "follows the gradient" means once the gradient has been handed to the optimiser.
  `DiscriminativeModel.fit` gives the exact gradient (Props/C03.lean) to scikit-learn's `SGDOptimizer` / `AdamOptimizer`
  (`Model/Optim.lean`, per coordinate).  Proved here, for every history length and every real gradient value:
  the step is a descent step for that gradient (SGD from rest, Adam along its first moment), coordinates whose gradient has
  always been exactly zero never move (a hypothesis on the gradient history: it is not derived from the feature being
  eliminated — the linear model's gradient `linearGradW` does not depend on `W`), Adam's second
  moment stays non-negative (its square root is defined), its first step from rest is shorter than the learning rate, and the
  `learning_rate` attribute the sparse models read for their threshold is the documented positive number.
-/
import GemVerif.Model.Sparse
import GemVerif.Lemmas.OptimC03

namespace GemVerif.Props.C03Optim
open GemVerif GemVerif.Model.Optim GemVerif.Model.Prox

/-- Adam's `beta ** t`, modelled by the iterated product `powNat`, is the power over ℝ. -/
theorem powNat_eq (b : ℝ) (t : ℕ) : powNat b t = b ^ t :=
  powNat_eq_pow b t

/-- SGD from rest (velocity 0), Nesterov momentum: the update is `-(1+μ)·lr·g`. -/
theorem sgd_first_step_nesterov (lr mu g : ℝ) :
    (sgdStep { lr := lr, momentum := mu, nesterov := true } 0 g).2 = -((1 + mu) * lr * g) := by
  rw [sgdStep_snd, if_pos rfl, if_pos rfl]
  ring

/-- SGD from rest, classical momentum: the update is `-lr·g`. -/
theorem sgd_first_step_plain (lr mu g : ℝ) :
    (sgdStep { lr := lr, momentum := mu, nesterov := false } 0 g).2 = -(lr * g) := by
  rw [sgdStep_snd, if_neg Bool.false_ne_true, if_neg Bool.false_ne_true]
  ring

/-- SGD from rest is a strict descent step for the gradient it was given (any momentum ≥ 0, either variant). -/
theorem sgd_first_step_descent (c : SgdCfg ℝ) (g : ℝ) (hlr : 0 < c.lr) (hmu : 0 ≤ c.momentum) (hg : g ≠ 0) :
    (sgdStep c 0 g).2 * g < 0 := by
  rw [sgdStep_snd, mul_zero, zero_sub, neg_mul, neg_lt_zero, mul_assoc, mul_assoc]
  exact mul_pos (sgdStep_snd_coeff_pos c hmu) (mul_pos hlr (mul_self_pos.mpr hg))

/-- with momentum 0 and no Nesterov look-ahead the run is plain gradient descent: `w − lr·Σg`. -/
theorem sgd_plain_run (lr : ℝ) (gs : List ℝ) (w v : ℝ) :
    (sgdRun { lr := lr, momentum := 0, nesterov := false } gs (w, v)).1 = w - lr * gs.sum := by
  induction gs generalizing w v with
  | nil => rw [sgdRun_nil, List.sum_nil, mul_zero, sub_zero]
  | cons g gs ih =>
    rw [sgdRun_cons, ih, sgdStep_snd, List.sum_cons]
    simp only [Bool.false_eq_true, if_false]
    ring

/-- a coordinate whose gradient has been exactly zero at every step never moves under SGD. -/
theorem sgd_zero_history_fixed (c : SgdCfg ℝ) (gs : List ℝ) (w : ℝ) (h : ∀ g ∈ gs, g = 0) :
    sgdRun c gs (w, 0) = (w, 0) := by
  induction gs with
  | nil => rfl
  | cons g gs ih =>
    rw [h g List.mem_cons_self, sgdRun_cons, sgdStep_zero, add_zero]
    exact ih fun x hx => h x (List.mem_cons_of_mem _ hx)

/-- Adam's second moment stays non-negative (so `np.sqrt(v)` is defined at every step). -/
theorem adam_v_nonneg (c : AdamCfg ℝ) (s : AdamSt ℝ) (g : ℝ) (h2 : 0 ≤ c.beta2) (h2' : c.beta2 ≤ 1) (hv : 0 ≤ s.v) :
    0 ≤ (adamStep c s g).1.v := by
  rw [adamStep_v]
  exact add_nonneg (mul_nonneg h2 hv) (mul_nonneg (sub_nonneg.mpr h2') (mul_self_nonneg g))

/-- the `learning_rate` attribute after step `t ≥ 1` is `lr0·√(1−β₂ᵗ)/(1−β₁ᵗ)` and it is positive:
    the threshold `alpha * optimiser_.learning_rate` of the sparse models is a genuine (positive) penalty weight. -/
theorem adam_lr_pos (c : AdamCfg ℝ) (t : ℕ) (ht : 1 ≤ t) (hlr : 0 < c.lr0)
    (h1 : 0 ≤ c.beta1) (h1' : c.beta1 < 1) (h2 : 0 ≤ c.beta2) (h2' : c.beta2 < 1) :
    adamLr c t = c.lr0 * Real.sqrt (1 - c.beta2 ^ t) / (1 - c.beta1 ^ t) ∧ 0 < adamLr c t := by
  refine ⟨adamLr_eq c t, ?_⟩
  rw [adamLr_eq]
  have ht0 : t ≠ 0 := Nat.one_le_iff_ne_zero.mp ht
  exact div_pos (mul_pos hlr (Real.sqrt_pos.mpr (sub_pos.mpr (pow_lt_one₀ h2 h2' ht0))))
    (sub_pos.mpr (pow_lt_one₀ h1 h1' ht0))

/-- Adam moves every coordinate against its (new) first moment, strictly when that moment is non-zero. -/
theorem adam_step_descent (c : AdamCfg ℝ) (s : AdamSt ℝ) (g : ℝ) (hlr : 0 < c.lr0)
    (h1 : 0 ≤ c.beta1) (h1' : c.beta1 < 1) (h2 : 0 ≤ c.beta2) (h2' : c.beta2 < 1) (he : 0 < c.eps)
    (hm : (adamStep c s g).1.m ≠ 0) :
    (adamStep c s g).2 * (adamStep c s g).1.m < 0 := by
  have hl := (adam_lr_pos c (s.t + 1) (Nat.le_add_left 1 _) hlr h1 h1' h2 h2').2
  have hd : 0 < Real.sqrt (adamStep c s g).1.v + c.eps := add_pos_of_nonneg_of_pos (Real.sqrt_nonneg _) he
  rw [adamStep_snd, neg_mul, neg_lt_zero, div_mul_eq_mul_div, mul_assoc]
  exact div_pos (mul_pos hl (mul_self_pos.mpr hm)) hd

/-- Adam from rest moves against the gradient itself (first step: `m₁ = (1−β₁) g`). -/
theorem adam_first_step_descent (c : AdamCfg ℝ) (g : ℝ) (hlr : 0 < c.lr0)
    (h1 : 0 ≤ c.beta1) (h1' : c.beta1 < 1) (h2 : 0 ≤ c.beta2) (h2' : c.beta2 < 1) (he : 0 < c.eps) (hg : g ≠ 0) :
    (adamStep c adamInit g).2 * g < 0 := by
  have hb : 0 < 1 - c.beta1 := sub_pos.mpr h1'
  have hm : (adamStep c adamInit g).1.m = (1 - c.beta1) * g := by
    rw [adamStep_m]
    simp only [adamInit, mul_zero, zero_add]
  have h := adam_step_descent c adamInit g hlr h1 h1' h2 h2' he (hm ▸ mul_ne_zero hb.ne' hg)
  rw [hm, mul_left_comm] at h
  exact (pos_iff_neg_of_mul_neg h).mp hb

/-- a coordinate whose gradient has been exactly zero at every step never moves under Adam, and its moments stay zero
    (no hypothesis on the hyperparameters: `0 / x = 0` also in floating point unless `x` is 0 or NaN, and `√0 + ε = ε`). -/
theorem adam_zero_history_fixed (c : AdamCfg ℝ) (gs : List ℝ) (w : ℝ) (t : ℕ) (h : ∀ g ∈ gs, g = 0) :
    adamRun c gs (w, { t := t, m := 0, v := 0 }) = (w, { t := t + gs.length, m := 0, v := 0 }) := by
  induction gs generalizing t with
  | nil => rfl
  | cons g gs ih =>
    rw [h g List.mem_cons_self, adamRun_cons, adamStep_zero, add_zero,
      ih (t + 1) fun x hx => h x (List.mem_cons_of_mem _ hx), List.length_cons, Nat.add_right_comm, Nat.add_assoc]

/-- the proximal threshold of the sparse estimators, `self.alpha * self.optimiser_.learning_rate`, read after the `t`-th Adam
    update (`Model/Sparse.lean: threshold`): it is `alpha·lr0·√(1−β₂ᵗ)/(1−β₁ᵗ)`, strictly positive for `alpha > 0` and zero for
    `alpha = 0` — never negative, so the proximal operators of C05 are always called inside their domain. -/
theorem sparse_threshold_adam (c : AdamCfg ℝ) (alpha : ℝ) (t : ℕ) (ht : 1 ≤ t) (hlr : 0 < c.lr0)
    (h1 : 0 ≤ c.beta1) (h1' : c.beta1 < 1) (h2 : 0 ≤ c.beta2) (h2' : c.beta2 < 1) :
    GemVerif.Model.Sparse.threshold alpha (adamLr c t)
        = alpha * (c.lr0 * Real.sqrt (1 - c.beta2 ^ t) / (1 - c.beta1 ^ t))
      ∧ (0 < alpha → 0 < GemVerif.Model.Sparse.threshold alpha (adamLr c t))
      ∧ (alpha = 0 → GemVerif.Model.Sparse.threshold alpha (adamLr c t) = 0) := by
  obtain ⟨e, hp⟩ := adam_lr_pos c t ht hlr h1 h1' h2 h2'
  -- `threshold alpha lr` is `alpha * lr` by definition
  exact ⟨congrArg (alpha * ·) e, fun ha => mul_pos ha hp, fun ha => (congrArg (· * adamLr c t) ha).trans (zero_mul _)⟩

/-- Adam's `learning_rate` attribute after the first update: `lr0·√(1−β₂)/(1−β₁)`. -/
theorem adam_lr_first (c : AdamCfg ℝ) : adamLr c 1 = c.lr0 * Real.sqrt (1 - c.beta2) / (1 - c.beta1) := by
  rw [adamLr_eq, pow_one, pow_one]

/-- Adam's first step from rest is shorter than the learning rate: `|Δw| < lr0`, whatever the size of the gradient
    (the scale invariance the method is known for; here for the exact expression scikit-learn evaluates). -/
theorem adam_first_step_bounded (c : AdamCfg ℝ) (g : ℝ) (hlr : 0 < c.lr0)
    (h1' : c.beta1 < 1) (h2' : c.beta2 < 1) (he : 0 < c.eps) :
    |(adamStep c adamInit g).2| < c.lr0 := by
  have hb1 : 0 < 1 - c.beta1 := sub_pos.mpr h1'
  have hb2 : 0 < 1 - c.beta2 := sub_pos.mpr h2'
  have hs : 0 < Real.sqrt (1 - c.beta2) := Real.sqrt_pos.mpr hb2
  have hd : 0 < Real.sqrt (1 - c.beta2) * |g| + c.eps :=
    add_pos_of_nonneg_of_pos (mul_nonneg hs.le (abs_nonneg g)) he
  -- `lr₁·m₁ = lr0·√(1−β₂)·g`: the bias correction `1−β₁` cancels; and `√v₁ = √(1−β₂)·|g|`
  have hnum : adamLr c 1 * ((1 - c.beta1) * g) = c.lr0 * (Real.sqrt (1 - c.beta2) * g) := by
    rw [adam_lr_first, ← mul_assoc, div_mul_cancel₀ _ hb1.ne', mul_assoc]
  rw [adamStep_snd, adamStep_m, adamStep_v]
  simp only [adamInit, mul_zero, zero_add]
  rw [hnum, Real.sqrt_mul hb2.le, Real.sqrt_mul_self_eq_abs, abs_neg, abs_div, abs_of_pos hd, abs_mul, abs_mul,
    abs_of_pos hlr, abs_of_pos hs, div_lt_iff₀ hd]
  exact mul_lt_mul_of_pos_left (lt_add_of_pos_right _ he) hlr

/-- momentum never reverses a consistent direction: if every gradient of the history is ≥ 0 (and the velocity starts ≤ 0, e.g. at
    rest), then after the run the weight is ≤ its starting value and the velocity is still ≤ 0 — for every history length,
    with or without Nesterov. -/
theorem sgd_consistent_sign (c : SgdCfg ℝ) (gs : List ℝ) (w v : ℝ) (hlr : 0 ≤ c.lr) (hmu : 0 ≤ c.momentum)
    (hv : v ≤ 0) (hg : ∀ g ∈ gs, 0 ≤ g) :
    (sgdRun c gs (w, v)).1 ≤ w ∧ (sgdRun c gs (w, v)).2 ≤ 0 := by
  induction gs generalizing w v with
  | nil => exact ⟨le_rfl, hv⟩
  | cons g gs ih =>
    have hg0 : 0 ≤ c.lr * g := mul_nonneg hlr (hg g List.mem_cons_self)
    have hv' : (sgdStep c v g).1 ≤ 0 :=
      sub_nonpos.mpr ((mul_nonpos_of_nonneg_of_nonpos hmu hv).trans hg0)
    have hu : (sgdStep c v g).2 ≤ 0 := by
      rw [sgdStep_snd]
      exact sub_nonpos.mpr ((mul_nonpos_of_nonneg_of_nonpos (sgdStep_snd_coeff_nonneg c hmu) hv).trans
        (mul_nonneg (sgdStep_snd_coeff_pos c hmu).le hg0))
    obtain ⟨a, b⟩ := ih (w + (sgdStep c v g).2) (sgdStep c v g).1 hv' fun x hx => hg x (List.mem_cons_of_mem _ hx)
    exact ⟨a.trans (add_le_of_nonpos_right hu), b⟩

/-- a weight row that is exactly zero, and whose coordinates all have an all-zero gradient history, is still exactly
    zero after any number of Adam updates followed by the group-lasso proximal step of the sparse linear model — for every
    threshold.  The all-zero history is assumed, not derived: no theorem says that an eliminated feature's row has zero
    gradient (`linearGradW` does not depend on `W`; C06 assumes nothing about gradients), so in general the optimiser
    moves a zero row and it is the proximal step that decides whether it returns to zero (C05, C06). -/
theorem eliminated_row_stays_zero_adam {h : ℕ} (c : AdamCfg ℝ) (gs : Fin h → List ℝ) (t : ℕ) (al : ℝ)
    (hz : ∀ j, ∀ g ∈ gs j, g = 0) :
    linearProxRow (fun j => (adamRun c (gs j) (0, { t := t, m := 0, v := 0 })).1) al = fun _ => 0 := by
  funext j
  -- the row entry `w j`, a factor of the numerator of `linearProxRow`, is still `0` (`adam_zero_history_fixed`)
  simp only [linearProxRow, adam_zero_history_fixed c _ 0 t (hz _), mul_zero, zero_div]

/-- the same under SGD (momentum and Nesterov included). -/
theorem eliminated_row_stays_zero_sgd {h : ℕ} (c : SgdCfg ℝ) (gs : Fin h → List ℝ) (al : ℝ)
    (hz : ∀ j, ∀ g ∈ gs j, g = 0) :
    linearProxRow (fun j => (sgdRun c (gs j) (0, 0)).1) al = fun _ => 0 := by
  funext j
  simp only [linearProxRow, sgd_zero_history_fixed c _ 0 (hz _), mul_zero, zero_div]

/-- hypotheses of the theorems above hold at scikit-learn's defaults as GemClus uses them (non-vacuity). -/
example : (0 : ℝ) < 1e-3 ∧ (0 : ℝ) ≤ 0.9 ∧ (0.9 : ℝ) < 1 ∧ (0 : ℝ) ≤ 0.999 ∧ (0.999 : ℝ) < 1 ∧ (0 : ℝ) < 1e-8 := by
  norm_num

end GemVerif.Props.C03Optim
