/-
  C13 for the Wasserstein GEMINI (`WassersteinGEMINI.evaluate`, model `wassScore` / `wassGrad`) —
  invariances, bounds and degenerate cases, modulo explicit hypotheses on POT's `ot.emd2`, which is
  the parameter `emd2 : (Fin n → ℝ) → (Fin n → ℝ) → Emd ℝ n` (value, potentials `u`, `v`; the cost
  matrix lives inside it).  The hypotheses on the solver are the `def`s `WassCalls`, `Emd…At` (at one pair of
  marginals) and `Emd…` (on the open probability simplex) of `GemVerif/Lemmas/GeminiWassC13.lean`, documented there.
  Each theorem comes in a pointwise form (hypothesis only at the calls actually made; every `n`, `K`,
  `ε`, `P`) and, where useful, in a global form (hypothesis on the open simplex; `0 < ε < 1`).
-/
import GemVerif.Lemmas.GeminiWassC13

namespace GemVerif.Props.C13Wass
open Model GemVerif.C13 GemVerif.WassC13

variable {n K : ℕ}

/-- Wasserstein score, both modes: reorder the samples by `σ` (rows of `y_pred`; rows and columns of
    the cost matrix, i.e. replace the solver by `emd2'`).  If on every pair of marginals `(a, b)` the
    code calls `ot.emd2` on, `emd2'` returns on `(a∘σ, b∘σ)` the value `emd2` returns on `(a, b)`,
    then the score is unchanged.  Every `n`, `K`, `ε`, `P`. -/
theorem wass_sample_perm (emd2 emd2' : (Fin n → ℝ) → (Fin n → ℝ) → Emd ℝ n) (ε : ℝ) (ovo : Bool)
    (P : Fin n → Fin K → ℝ) (σ : Equiv.Perm (Fin n))
    (h : ∀ a b, WassCalls ε ovo P a b → EmdPermValueAt emd2 emd2' σ a b) :
    wassScore emd2' ε ovo (fun i k => P (σ i) k) = wassScore emd2 ε ovo P := by
  rw [wassScore_eq, wassScore_eq]
  simp only [wassWeights_sperm]
  cases ovo
  · refine wassScoreT_ova_reindex _ _ _ _ ε P σ (Equiv.refl _) fun k => ?_
    exact h _ _ (wassCalls_ova ε P k)
  · refine wassScoreT_ovo_reindex _ _ _ _ ε P σ (Equiv.refl _) (wPairT_congr fun a b hab => ?_)
    exact h _ _ (wassCalls_ovo ε P hab)

/-- Wasserstein gradient, both modes: if moreover `emd2'` returns the permuted dual potentials, up
    to additive constants (which the code's centring removes), the gradient rows are permuted along
    with the samples. -/
theorem wass_grad_sample_perm (emd2 emd2' : (Fin n → ℝ) → (Fin n → ℝ) → Emd ℝ n) (ε : ℝ) (ovo : Bool)
    (P : Fin n → Fin K → ℝ) (σ : Equiv.Perm (Fin n))
    (h : ∀ a b, WassCalls ε ovo P a b → EmdPermValueAt emd2 emd2' σ a b)
    (hp : ∀ a b, WassCalls ε ovo P a b → EmdPermPotAt emd2 emd2' σ a b) (i : Fin n) (k : Fin K) :
    wassGrad emd2' ε ovo (fun i k => P (σ i) k) i k = wassGrad emd2 ε ovo P (σ i) k := by
  rw [wassGrad_eq, wassGrad_eq]
  simp only [wassWeights_sperm]
  cases ovo
  · refine wassGradT_ova_reindex _ _ _ _ ε P σ (Equiv.refl _) (fun k => ?_) (fun k => ?_) i k
    · exact h _ _ (wassCalls_ova ε P k)
    · exact (hp _ _ (wassCalls_ova ε P k)).u
  · refine wassGradT_ovo_reindex _ _ _ _ ε P σ (Equiv.refl _) (wPairT_congr fun a b hab => ?_)
      (potT_sperm σ (fun a b hab => ?_) (fun a b hab => ?_)) i k
    · exact h _ _ (wassCalls_ovo ε P hab)
    · exact (hp _ _ (wassCalls_ovo ε P hab)).u
    · exact (hp _ _ (wassCalls_ovo ε P hab)).v

/-- For `0 < ε < 1` (all legal `epsilon`) every marginal handed to `ot.emd2` has positive entries
    and total mass 1, for every real matrix `P` (one-hot rows included). -/
theorem wass_calls_in_open_simplex (hn : 0 < n) {ε : ℝ} (h0 : 0 < ε) (h1 : ε < 1) (ovo : Bool)
    (P : Fin n → Fin K → ℝ) (a b : Fin n → ℝ) (h : WassCalls ε ovo P a b) :
    OpenSimplex a ∧ OpenSimplex b :=
  wassCalls_openSimplex hn h0 h1 h

/-- Global form of `wass_sample_perm`: hypothesis on the open probability simplex only. -/
theorem wass_sample_perm_of_global (emd2 emd2' : (Fin n → ℝ) → (Fin n → ℝ) → Emd ℝ n) {ε : ℝ}
    (h0 : 0 < ε) (h1 : ε < 1) (ovo : Bool) (P : Fin n → Fin K → ℝ) (σ : Equiv.Perm (Fin n))
    (h : EmdPermValue emd2 emd2' σ) :
    wassScore emd2' ε ovo (fun i k => P (σ i) k) = wassScore emd2 ε ovo P := by
  rcases Nat.eq_zero_or_pos n with rfl | hn
  · rw [wassScore_n0, wassScore_n0]
  · exact wass_sample_perm emd2 emd2' ε ovo P σ (wassCalls_of_global hn h0 h1 h)

/-- Global form of `wass_grad_sample_perm`. -/
theorem wass_grad_sample_perm_of_global (emd2 emd2' : (Fin n → ℝ) → (Fin n → ℝ) → Emd ℝ n) {ε : ℝ}
    (h0 : 0 < ε) (h1 : ε < 1) (ovo : Bool) (P : Fin n → Fin K → ℝ) (σ : Equiv.Perm (Fin n))
    (h : EmdPermValue emd2 emd2' σ) (hp : EmdPermPot emd2 emd2' σ) (i : Fin n) (k : Fin K) :
    wassGrad emd2' ε ovo (fun i k => P (σ i) k) i k = wassGrad emd2 ε ovo P (σ i) k := by
  have hn : 0 < n := Fin.pos i
  exact wass_grad_sample_perm emd2 emd2' ε ovo P σ (wassCalls_of_global hn h0 h1 h)
    (wassCalls_of_global hn h0 h1 hp) i k

/-- One-vs-all: the score is invariant under a relabelling of the clusters and the gradient columns
    are permuted accordingly — for every solver, with no hypothesis at all. -/
theorem wass_ova_cluster_perm (emd2 : (Fin n → ℝ) → (Fin n → ℝ) → Emd ℝ n) (ε : ℝ)
    (P : Fin n → Fin K → ℝ) (τ : Equiv.Perm (Fin K)) :
    wassScore emd2 ε false (fun i k => P i (τ k)) = wassScore emd2 ε false P ∧
    ∀ i k, wassGrad emd2 ε false (fun i k => P i (τ k)) i k = wassGrad emd2 ε false P i (τ k) := by
  rw [wassScore_eq, wassScore_eq]
  simp only [wassGrad_eq, wassWeights_cperm]
  exact ⟨wassScoreT_ova_reindex _ _ _ (fun k => emd2 (wassWeights ε P k) (fun _ => 1 / (n : ℝ))) ε P
      (Equiv.refl _) τ fun _ => rfl,
    wassGradT_ova_reindex _ _ _ (fun k => emd2 (wassWeights ε P k) (fun _ => 1 / (n : ℝ))) ε P
      (Equiv.refl _) τ (fun _ => rfl) fun _ => EqUpToConst.rfl⟩

/-- One-vs-one score: the code solves only the pairs `k1 < k2` and mirrors the value, so a
    relabelling may reverse a pair.  If the solver's value is symmetric at every pair
    `(wy[x], wy[y])`, `x < y`, the score is invariant under every relabelling of the clusters. -/
theorem wass_ovo_cluster_perm (emd2 : (Fin n → ℝ) → (Fin n → ℝ) → Emd ℝ n) (ε : ℝ)
    (P : Fin n → Fin K → ℝ) (τ : Equiv.Perm (Fin K))
    (hs : ∀ x y : Fin K, x.val < y.val →
      EmdSymmValueAt emd2 (wassWeights ε P x) (wassWeights ε P y)) :
    wassScore emd2 ε true (fun i k => P i (τ k)) = wassScore emd2 ε true P := by
  rw [wassScore_eq, wassScore_eq]
  simp only [wassWeights_cperm]
  exact wassScoreT_ovo_reindex _ (fun a b => emd2 (wassWeights ε P a) (wassWeights ε P b)) _ _ ε P
    (Equiv.refl _) τ (wPairT_cperm (symm_value_of_lt hs) τ)

/-- One-vs-one gradient: column `k1` of a call `(k1, k2)` receives `u`, column `k2` receives `v`.  If
    moreover the solver swaps `u` and `v` (up to additive constants) when the marginals are swapped,
    at every pair of distinct clusters, the gradient columns are permuted along with the clusters. -/
theorem wass_ovo_grad_cluster_perm (emd2 : (Fin n → ℝ) → (Fin n → ℝ) → Emd ℝ n) (ε : ℝ)
    (P : Fin n → Fin K → ℝ) (τ : Equiv.Perm (Fin K))
    (hs : ∀ x y : Fin K, x.val < y.val →
      EmdSymmValueAt emd2 (wassWeights ε P x) (wassWeights ε P y))
    (hp : ∀ x y : Fin K, x ≠ y → EmdSymmPotAt emd2 (wassWeights ε P x) (wassWeights ε P y))
    (i : Fin n) (k : Fin K) :
    wassGrad emd2 ε true (fun i k => P i (τ k)) i k = wassGrad emd2 ε true P i (τ k) := by
  rw [wassGrad_eq, wassGrad_eq]
  simp only [wassWeights_cperm]
  exact wassGradT_ovo_reindex _ (fun a b => emd2 (wassWeights ε P a) (wassWeights ε P b)) _ _ ε P
    (Equiv.refl _) τ (wPairT_cperm (symm_value_of_lt hs) τ)
    (fun k o hko i => congrFun (potT_cperm hp τ k o hko) i) i k

/-- Global form, one-vs-one score: a solver whose value is symmetric on the open simplex. -/
theorem wass_ovo_cluster_perm_of_global (emd2 : (Fin n → ℝ) → (Fin n → ℝ) → Emd ℝ n) {ε : ℝ}
    (h0 : 0 < ε) (h1 : ε < 1) (P : Fin n → Fin K → ℝ) (τ : Equiv.Perm (Fin K))
    (hs : EmdSymmValue emd2) :
    wassScore emd2 ε true (fun i k => P i (τ k)) = wassScore emd2 ε true P := by
  rcases Nat.eq_zero_or_pos n with rfl | hn
  · rw [wassScore_n0, wassScore_n0]
  · exact wass_ovo_cluster_perm emd2 ε P τ fun x y _ =>
      hs _ _ (wassWeights_openSimplex hn h0 h1 P x) (wassWeights_openSimplex hn h0 h1 P y)

/-- Global form, one-vs-one gradient. -/
theorem wass_ovo_grad_cluster_perm_of_global (emd2 : (Fin n → ℝ) → (Fin n → ℝ) → Emd ℝ n) {ε : ℝ}
    (h0 : 0 < ε) (h1 : ε < 1) (P : Fin n → Fin K → ℝ) (τ : Equiv.Perm (Fin K))
    (hs : EmdSymmValue emd2) (hp : EmdSymmPot emd2) (i : Fin n) (k : Fin K) :
    wassGrad emd2 ε true (fun i k => P i (τ k)) i k = wassGrad emd2 ε true P i (τ k) := by
  have hn : 0 < n := Fin.pos i
  exact wass_ovo_grad_cluster_perm emd2 ε P τ
    (fun x y _ => hs _ _ (wassWeights_openSimplex hn h0 h1 P x) (wassWeights_openSimplex hn h0 h1 P y))
    (fun x y _ => hp _ _ (wassWeights_openSimplex hn h0 h1 P x) (wassWeights_openSimplex hn h0 h1 P y))
    i k

/-- If the solver returns a non-negative value on every call the code makes, the Wasserstein score
    is non-negative, in both modes, for every real matrix `P` and `0 ≤ ε ≤ 1` (the cluster
    proportions are means of clipped, hence non-negative, predictions). -/
theorem wass_nonneg (emd2 : (Fin n → ℝ) → (Fin n → ℝ) → Emd ℝ n) {ε : ℝ} (h0 : 0 ≤ ε) (h1 : ε ≤ 1)
    (ovo : Bool) (P : Fin n → Fin K → ℝ)
    (h : ∀ a b, WassCalls ε ovo P a b → 0 ≤ (emd2 a b).value) : 0 ≤ wassScore emd2 ε ovo P := by
  have hπ := mean0_nonneg (clipP_nonneg h0 h1 P)
  rw [wassScore_eq]
  cases ovo
  · rw [wassScoreT_ova]
    exact Finset.sum_nonneg fun k _ => mul_nonneg (hπ k) (h _ _ (wassCalls_ova ε P k))
  · rw [wassScoreT_ovo]
    refine Finset.sum_nonneg fun a _ => mul_nonneg (hπ a) (Finset.sum_nonneg fun b _ =>
      mul_nonneg ?_ (hπ b))
    rcases lt_trichotomy a.val b.val with hab | hab | hab
    · rw [wPairT_of_lt _ hab]
      exact h _ _ (wassCalls_ovo ε P hab)
    · rw [Fin.ext hab, wPairT_self]
    · rw [wPairT_of_gt _ hab]
      exact h _ _ (wassCalls_ovo ε P hab)

/-- Global form: a solver whose value is non-negative on the open simplex (any cost matrix `M ≥ 0`). -/
theorem wass_nonneg_of_global (emd2 : (Fin n → ℝ) → (Fin n → ℝ) → Emd ℝ n) {ε : ℝ} (h0 : 0 < ε)
    (h1 : ε < 1) (ovo : Bool) (P : Fin n → Fin K → ℝ) (h : EmdNonneg emd2) :
    0 ≤ wassScore emd2 ε ovo P := by
  rcases Nat.eq_zero_or_pos n with rfl | hn
  · rw [wassScore_n0]
  · exact wass_nonneg emd2 h0.le h1.le ovo P (wassCalls_of_global hn h0 h1 h)

/-- If all rows of `y_pred` coincide, every `wy[k]` is the uniform vector `1/N` (or its cluster has
    proportion 0), so as soon as `ot.emd2(1/N, 1/N)` has value 0 the Wasserstein score is 0, in both
    modes — for every such `P` (interior or not), every `ε`, every `n`, `K`. -/
theorem wass_indep_zero (emd2 : (Fin n → ℝ) → (Fin n → ℝ) → Emd ℝ n) (hz : EmdUnifZero emd2) (ε : ℝ)
    (ovo : Bool) {P : Fin n → Fin K → ℝ} (h : ∀ i j k, P i k = P j k) : wassScore emd2 ε ovo P = 0 := by
  rcases Nat.eq_zero_or_pos n with rfl | hn
  · exact wassScore_n0 emd2 ε ovo P
  -- a cluster of proportion 0 contributes nothing; every other one has uniform weights
  have hw : ∀ k, mean0 (clipP ε P) k ≠ 0 → wassWeights ε P k = fun _ => 1 / (n : ℝ) :=
    wassWeights_indep hn h
  have hz' : (emd2 (fun _ => 1 / (n : ℝ)) (fun _ => 1 / (n : ℝ))).value = 0 := hz
  rw [wassScore_eq]
  cases ovo
  · rw [wassScoreT_ova]
    exact sum_pi_mul_eq_zero fun k hk => by rw [hw k hk, hz']
  · rw [wassScoreT_ovo]
    exact sum_pi_mul_sum_eq_zero fun a b ha hb => by
      unfold wPairT
      simp only [hw a ha, hw b hb, hz', ite_self]

/-- For `0 < ε < 1` no cluster has proportion 0 after clipping, so when all rows of `y_pred` coincide every `wy[k]` is
    exactly the uniform vector `1/N`: the reason behind `wass_indep_zero`. -/
theorem wass_indep_weights_uniform (hn : 0 < n) {ε : ℝ} (h0 : 0 < ε) (h1 : ε < 1)
    {P : Fin n → Fin K → ℝ} (h : ∀ i j k, P i k = P j k) (k : Fin K) :
    wassWeights ε P k = fun _ => 1 / (n : ℝ) :=
  wassWeights_indep hn h k (mean0_pos hn (clipP_pos h0 h1 P) k).ne'

/-! Appending an empty cluster.  `addEmpty P` is `P` with an extra last column of zeros.  After clipping that column is
the constant `ε`: the new "cluster" has proportion `ε` (not 0) and uniform weights `wy = 1/N`. -/

/-- One-vs-all: unchanged as soon as `ot.emd2(1/N, 1/N)` has value 0 (every `P`, `ε`, `n`, `K`).
    One-vs-one: the new cluster is compared with every old one through exactly the one-vs-all calls
    `ot.emd2(wy[k], 1/N)`, so the score increases by `2 ε` times the one-vs-all score — for every
    solver, no hypothesis (the same law as for the MMD GEMINI, `C13.mmd_add_empty`).  The literal
    claim "unchanged" is false for one-vs-one at the level of the code, by about `1e-12 · score`. -/
theorem wass_add_empty (emd2 : (Fin n → ℝ) → (Fin n → ℝ) → Emd ℝ n) {ε : ℝ} (h0 : 0 ≤ ε)
    (h1 : ε ≤ 1 / 2) (P : Fin n → Fin K → ℝ) :
    (EmdUnifZero emd2 → wassScore emd2 ε false (addEmpty P) = wassScore emd2 ε false P) ∧
    wassScore emd2 ε true (addEmpty P)
      = wassScore emd2 ε true P + 2 * ε * wassScore emd2 ε false P := by
  refine ⟨fun hz => ?_, by rw [wassScore_ovo_addEmpty, clip_zero h0 h1]⟩
  rcases Nat.eq_zero_or_pos n with rfl | hn
  · rw [wassScore_n0, wassScore_n0]
  · rw [wassScore_eq, wassScore_eq, wassScoreT_ova, wassScoreT_ova, Fin.sum_univ_castSucc]
    simp only [wassWeights_addEmpty_castSucc, mean0_addEmpty_castSucc, mean0_addEmpty_last hn]
    rw [add_eq_left]
    -- the new cluster has proportion `clip 0 = ε`; if that is not 0 its weights are uniform
    exact mul_eq_zero_of_ne_zero_imp_eq_zero fun he => by rw [wassWeights_addEmpty_last hn P he, hz]

/-- The appended empty cluster receives zero gradient in both modes (its mask is zero), and in
    one-vs-all the gradient columns of the old clusters are unchanged. -/
theorem wass_grad_add_empty (emd2 : (Fin n → ℝ) → (Fin n → ℝ) → Emd ℝ n) {ε : ℝ} (hε : 0 ≤ ε)
    (P : Fin n → Fin K → ℝ) (i : Fin n) :
    (∀ ovo, wassGrad emd2 ε ovo (addEmpty P) i (Fin.last K) = 0) ∧
    ∀ k : Fin K, wassGrad emd2 ε false (addEmpty P) i k.castSucc = wassGrad emd2 ε false P i k := by
  refine ⟨fun ovo => ?_, fun k => ?_⟩
  · rw [wassGrad_eq]
    cases ovo
    · rw [wassGradT_ova, clipMask_addEmpty_last hε, mul_zero]
    · rw [wassGradT_ovo, clipMask_addEmpty_last hε, mul_zero]
  · rw [wassGrad_eq, wassGrad_eq, wassGradT_ova, wassGradT_ova]
    simp only [wassWeights_addEmpty_castSucc, clipP_addEmpty_castSucc, mean0_addEmpty_castSucc,
      clipMask_addEmpty_castSucc]

/- the hypotheses on the solver are satisfiable, for every size: a weighted squared distance `Σ c_i (a_i - b_i)²`
   whose weights `c ≥ 0` are not permutation invariant (the solver of the permuted problem is a different function) -/
example (c : Fin n → ℝ) (hc : ∀ i, 0 ≤ c i) (σ : Equiv.Perm (Fin n)) :
    EmdPermValue (wsqEmd c) (wsqEmd fun i => c (σ i)) σ ∧
    EmdPermPot (wsqEmd c) (wsqEmd fun i => c (σ i)) σ ∧
    EmdSymmValue (wsqEmd c) ∧ EmdSymmPot (wsqEmd c) ∧ EmdNonneg (wsqEmd c) ∧ EmdUnifZero (wsqEmd c) :=
  ⟨wsqEmd_permValue c σ, wsqEmd_permPot c σ, wsqEmd_symmValue c, wsqEmd_symmPot c, wsqEmd_nonneg hc,
    wsqEmd_unifZero c⟩

/- ... and by the genuine transport cost on two points at distance 1 (`W(a,b) = |a₀ - b₀|`, optimal potentials
   `u = (s, 0)`, `v = (-s, 0)`, `s = sign (a₀ - b₀)`): all hypotheses hold, the swap of the two points
   permutes the potentials only up to the non-zero constants `∓s`, and preserves the value only on
   the probability simplex -/
example : EmdPermValue absEmd absEmd (Equiv.swap 0 1) ∧ EmdPermPot absEmd absEmd (Equiv.swap 0 1) ∧
    EmdSymmValue absEmd ∧ EmdSymmPot absEmd ∧ EmdNonneg absEmd ∧ EmdUnifZero absEmd :=
  ⟨absEmd_permValue, absEmd_permPot, absEmd_symmValue, absEmd_symmPot, absEmd_nonneg, absEmd_unifZero⟩

/- the pointwise hypotheses follow from the global ones at every real matrix `P` -/
example (hn : 0 < n) {ε : ℝ} (h0 : 0 < ε) (h1 : ε < 1) (ovo : Bool) (P : Fin n → Fin K → ℝ)
    (emd2 emd2' : (Fin n → ℝ) → (Fin n → ℝ) → Emd ℝ n) (σ : Equiv.Perm (Fin n))
    (h : EmdPermValue emd2 emd2' σ) :
    ∀ a b, WassCalls ε ovo P a b → EmdPermValueAt emd2 emd2' σ a b :=
  wassCalls_of_global hn h0 h1 h

/- the symmetry hypothesis of `wass_ovo_cluster_perm` cannot be dropped.  A solver with a non-symmetric value (e.g. a
   non-symmetric `precomputed` cost matrix): the one-vs-one score of a 2 × 2 interior matrix changes from 3/8 to 1/8
   when the two clusters are swapped, because the code only solves the pair `(0, 1)` -/
example : wassScore asymEmd (1 / 10) true exQ = 3 / 8 ∧
    wassScore asymEmd (1 / 10) true (fun i k => exQ i (Equiv.swap 0 1 k)) = 1 / 8 :=
  asymEmd_score_not_invariant

/- nor can `EmdSymmPotAt` in `wass_ovo_grad_cluster_perm`.  A solver with symmetric value whose potentials are not
   swapped with the marginals: the one-vs-one gradient is not equivariant (entry `(0, τ 0)` of the gradient at `P` is
   0, entry `(0, 0)` of the gradient at `P ∘ τ` is 1/4) -/
example : wassGrad asymPot (1 / 4) true exH 0 (Equiv.swap 0 1 0) = 0 ∧
    wassGrad asymPot (1 / 4) true (fun i k => exH i (Equiv.swap 0 1 k)) 0 0 = 1 / 4 :=
  asymPot_grad_not_equivariant

end GemVerif.Props.C13Wass
