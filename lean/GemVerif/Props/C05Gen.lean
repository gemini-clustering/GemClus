/-
  C05 / C06 (companion) — the hand model of Model/Prox.lean is what gemclus/sparse/_prox_grad.py says.

  `Gen/Prox.lean` is regenerated on every run by translator/prox.py from the bodies of `soft_threshold`,
  `linear_prox_grad`, `mlp_prox_grad`, `group_linear_prox_grad`, `group_mlp_prox_grad` in /repo: one definition per
  function, a literal transcription of the NumPy statements into the untyped array language of GemVerif/Np.lean +
  Np2.lean + Np3.lean (shapes are data; broadcasting, `np.linalg.norm(axis=1, keepdims=True)`, `np.sort(·, axis=1)[:, ::-1]`,
  `np.cumsum`, `np.concatenate`, `np.arange`, the Boolean `lower > w` summed along axis 1, `np.take_along_axis`, `np.where`,
  `np.minimum`, reshapes, and — group variants — the loop `for g in groups:` as a fold, `W[g]`, `W_star[g] = …` into
  `np.empty` follow NumPy's rules; anything NumPy would reject, an index out of range included, sets `ok := false`, and
  the returned arrays collect the `ok` of every intermediate array).

  Every theorem below says: the generated definition, applied to `d × h` (`d × k`) weight arrays (`Arr.ofFn`, or any
  array described by `IsMat`), raises no NumPy error, has the shape of the hand model's value and has, entry for entry,
  that value — for all sizes (0 and 1 included).
    * Generic theorems (every `[RealLike α]`, IEEE doubles included; both sides perform the same floating-point
      operations in the same order, the equality holds by unfolding): `soft_threshold`, `linear_prox_grad`,
      `group_linear_prox_grad`.
    * Theorems under the order laws `OrderLaws α` (`RealLike.le` is a total order: what is needed to know that
      `np.sort(·)[:, ::-1]` — an ascending sort read backwards — and the model's descending insertion sort produce the
      same list) and under the hypothesis that the breakpoint count `idx` is a valid column (`≤ h`): `mlp_prox_grad`,
      `group_mlp_prox_grad`.  All arithmetic is again performed in the same order on both sides.  When `idx` is not a
      valid column, NumPy raises IndexError where the model returns numbers (`mlp_prox_grad_index_error`).
    * Real-number corollaries: ℝ satisfies the order laws and, for `M ≥ 0`, `idx ≤ h` always: unconditional equality.
  Group variants: `groups` is a list of lists of valid row indices (`Fin d`, handed to the generated code as naturals);
  any such list: groups may overlap (the last one wins, as in the model), need not cover every row (the theorems state the
  model's value on the covered rows and the uninitialised memory `junk` on the others) and may even repeat an index
  (NumPy does not specify the order of the writes of `W_star[g] = …` then; the rows written twice receive identical
  values, so the order is irrelevant — the DSL keeps the last write, the model the first occurrence).
  The proofs do not depend on which temporaries the source uses: `mlp_prox_grad_spec` names the NumPy expressions
  themselves (`IsMat.named`, Lemmas/Np2.lean), then unfolds every `let` and rewrites with the names; it accepts the
  breakpoint count as `np.sum` or `np.count_nonzero` of `lower > w`, the selected column with or without its (redundant)
  `.reshape((batch, 1))`, and the signs as `np.where(u >= 0, 1, -1)` or as `np.full(u.shape, -1)` overwritten with `1`
  where `u >= 0`.
  The theorems of Props/C05.lean and C06.lean, stated about Model/Prox.lean, therefore speak about the source.
-/
import GemVerif.Lemmas.ProxGen
import GemVerif.Gen.Prox

namespace GemVerif.Props.C05Gen
open GemVerif.RealLike GemVerif.Np GemVerif.Np.Arr GemVerif.Model.Prox

-- The proofs of this file also serve the respellings of the source that DESIGN.md §21 (behaviour-preserving
-- refactorings, `harmless/`) regenerates: on the text generated from the present source some of their `simp` arguments
-- are idle, which is why this linter is off.
set_option linter.unusedSimpArgs false
set_option linter.unusedSectionVars false

/-! every `RealLike` number type -/

section generic
variable {α : Type} [RealLike α] {d h k : Nat}

/-- Meaning of the description used below: `IsMat A f` says that no NumPy error occurred while computing `A`, that `A`
    has shape `(n, k)` and that `A[i, j] = f i j` for every index inside the shape; it is what `Eqv A (ofFn f)` says. -/
theorem isMat_spelled_out {n : Nat} (A : Arr α) (f : Fin n → Fin k → α) :
    IsMat A f ↔ Eqv A (ofFn f) :=
  ⟨IsMat.eqv, fun h => eqv_ofFn_iff.mp h⟩

/-- A returned array whose `flags` (the conjunction of the `ok` of all arrays computed during the call) is false is
    `Eqv` to nothing: a mutation of the source that makes any statement raise cannot satisfy any theorem of this file. -/
theorem raised_not_eqv (A B : Arr α) : ¬ Eqv (checked false A) B := by
  rintro ⟨hok, -⟩
  simp at hok

/-- `soft_threshold(t, x)` as written in the source (`np.sign(x) * np.maximum(np.abs(x) - t, 0)`), applied to any array
    that is without error the matrix `X`, is without error the matrix of the model's `softThreshold t (X i j)`. -/
theorem soft_threshold_isMat (t : α) {A : Arr α} {X : Fin d → Fin h → α} (hA : IsMat A X) :
    IsMat (Gen.Prox.soft_threshold t A) (fun i j => softThreshold t (X i j)) := by
  obtain ⟨hok, hr, hc, hget⟩ := hA
  subst hr hc
  simp only [IsMat, np, Gen.Prox.soft_threshold, softThreshold, hok, hget]

/-- `soft_threshold(t, X)` as written in the source computes, for a `d × h` array, the model's `softThreshold`
    entry by entry (same shape, no error), on every number type. -/
theorem soft_threshold_eq (t : α) (X : Fin d → Fin h → α) :
    Eqv (Gen.Prox.soft_threshold t (ofFn X)) (ofFn fun i j => softThreshold t (X i j)) :=
  (soft_threshold_isMat t (isMat_ofFn X)).eqv

/-- `linear_prox_grad(W, alpha)` as written in the source
    (`np.maximum(W_norms - alpha, 0) * W / np.where(W_norms == 0, 1, W_norms)` with the row norms `W_norms`), applied to
    any array that is without error the matrix `W`, is without error the model's `linearProx W alpha`. -/
theorem linear_prox_grad_isMat (al : α) {A : Arr α} {W : Fin d → Fin h → α} (hA : IsMat A W) :
    IsMat (Gen.Prox.linear_prox_grad A al) (linearProx W al) := by
  obtain ⟨hok, hr, hc, hget⟩ := hA
  subst hr hc
  refine ⟨?_, ?_, ?_, fun i j => ?_⟩
  · simp only [np, Gen.Prox.linear_prox_grad, hok]
  · simp only [np, Gen.Prox.linear_prox_grad]
  · simp only [np, Gen.Prox.linear_prox_grad]
  · simp only [np, Gen.Prox.linear_prox_grad, linearProx, linearProxRow, norm2, sumL, sumLTo, hget]
    rfl

/-- `linear_prox_grad(W, alpha)` as written in the source returns, for a `d × h` weight array, exactly the model's
    `linearProx W alpha`: shape `(d, h)`, same entries, no NumPy error — all `d`, `h` (0 included), every number type
    (the same floating-point operations in the same order). -/
theorem linear_prox_grad_eq (W : Fin d → Fin h → α) (al : α) :
    Eqv (Gen.Prox.linear_prox_grad (ofFn W) al) (ofFn (linearProx W al)) :=
  (linear_prox_grad_isMat al (isMat_ofFn W)).eqv

/-- instance at `Float`: the generated `linear_prox_grad` is the model's, double for double -/
example (W : Fin d → Fin h → Float) (al : Float) :
    Eqv (Gen.Prox.linear_prox_grad (ofFn W) al) (ofFn (linearProx W al)) :=
  linear_prox_grad_eq W al

/-- `mlp_prox_grad(W_skip_, W1_, alpha, M)` as written in the source, applied to arrays that are without error the
    `d × k` matrix `Ws` and the `d × h` matrix `W1`, under the order laws:
    (1) if every row's breakpoint count `idx` (the model's `hierIdx`) is a valid column (`≤ h`), the two returned arrays
        are without error the two components of the model's `mlpProx Ws W1 alpha M`;
    (2) if some row has `idx = h + 1` (every one of the `h + 1` entries of `lower > w` true), both returned arrays carry
        an error: `np.take_along_axis` raises IndexError. -/
theorem mlp_prox_grad_spec (H : OrderLaws α) (al M : α) {V U : Arr α} {Ws : Fin d → Fin k → α}
    {W1 : Fin d → Fin h → α} (hV : IsMat V Ws) (hU : IsMat U W1) :
    ((∀ i, hierIdx (uAbsSorted (W1 i)) al M (norm2 (Ws i)) ≤ h) →
      IsMat (Gen.Prox.mlp_prox_grad V U al M).1 (mlpProx Ws W1 al M).1 ∧
      IsMat (Gen.Prox.mlp_prox_grad V U al M).2 (mlpProx Ws W1 al M).2) ∧
    ((∃ i, hierIdx (uAbsSorted (W1 i)) al M (norm2 (Ws i)) = h + 1) →
      (Gen.Prox.mlp_prox_grad V U al M).1.ok = false ∧ (Gen.Prox.mlp_prox_grad V U al M).2.ok = false) := by
  -- the NumPy expressions of the source get names before the definition is unfolded, whatever temporaries hold them
  have hLlen : ∀ i, (uAbsSorted (W1 i)).length = h := fun i => uAbsSorted_length _
  obtain rfl := hU.r
  obtain rfl := hU.c
  -- the sorted absolute values `np.sort(np.abs(u), axis=1)[:, ::-1]`
  have hUabs : IsMat (Arr.abs U) (fun i j => RealLike.abs (W1 i j)) := by
    simp only [IsMat, np, hU.rules]
  obtain ⟨S, eS, hS⟩ := (hUabs.sortFlip H).named
  have hS_nat : ∀ (i : Fin U.r) (l : Nat), l < U.c → S.get i.val l = (uAbsSorted (W1 i)).getD l 0 :=
    fun i l hl => hS.get_nat i.isLt hl
  -- `np.arange(k + 1.0).reshape((1, -1))`, `np.zeros((batch, 1))`
  obtain ⟨s, es, hs⟩ :
      ∃ B : Arr α, reshapeRow (arange (U.c + 1)) = B ∧ IsRow B (fun j : Fin (U.c + 1) => (nat j.val : α)) :=
    ⟨_, rfl, by simp only [IsRow, np]⟩
  obtain ⟨zeros, ez, hz_ok, hz_r, hz_c, hz_get⟩ :
      ∃ Z : Arr α, Arr.zeros U.r 1 = Z ∧ Z.ok = true ∧ Z.r = U.r ∧ Z.c = 1 ∧ ∀ i j, Z.get i j = 0 :=
    ⟨_, rfl, rfl, rfl, rfl, fun _ _ => rfl⟩
  -- a_s
  have ha : IsMat (rsubs al (smul M (concat1 zeros (cumsumAxis1 S))))
      (fun i (t : Fin (U.c + 1)) => aS (uAbsSorted (W1 i)) al M t.val) := by
    refine ⟨by simp only [np, hz_ok, hz_r, hS.rules], by simp only [np, hz_r], ?_, fun i t => ?_⟩
    · show zeros.c + S.c = U.c + 1
      rw [hz_c, hS.c, Nat.add_comm]
    · simp only [rsubs_get, smul_get, concat1_get, cumsumAxis1_get, hz_c, hz_get, aS]
      rw [zero_cumsum_getD _ _ (by rw [hLlen]; exact Nat.lt_succ_iff.mp t.isLt)]
      by_cases ht : t.val < 1
      · simp only [np, ht]
      · rw [if_neg ht, if_neg ht, cumsumTo_congr fun l hl => hS_nat i l
          ((hl.trans_lt (Nat.sub_lt (Nat.le_of_not_lt ht) Nat.one_pos)).trans_le (Nat.le_of_lt_succ t.isLt))]
  obtain ⟨a_s, ea, ha⟩ := ha.named
  -- norm_v
  obtain ⟨norm_v, en, hn⟩ := hV.normAxis1.named
  -- x, w
  obtain ⟨x, ex, hx⟩ := IsMat.named (A := div (maximum0 (rsubs 1 (div a_s norm_v))) (radds 1 (muls s (M * M))))
    (f := fun i (t : Fin (U.c + 1)) => xS (uAbsSorted (W1 i)) al M (norm2 (Ws i)) t.val)
    (by simp only [IsMat, np, xS, ha.rules, hn.rules_col, hs.rules])
  obtain ⟨w, ew, hw⟩ := IsMat.named (A := mul (smul M x) norm_v)
    (f := fun i (t : Fin (U.c + 1)) => wS (uAbsSorted (W1 i)) al M (norm2 (Ws i)) t.val)
    (by simp only [IsMat, np, wS, hx.rules, hn.rules_col])
  -- lower
  obtain ⟨intervals, eI, hI⟩ := (soft_threshold_isMat 0 hS).named
  have hl : IsMat (concat1 intervals zeros) (fun i (t : Fin (U.c + 1)) => lowerS (uAbsSorted (W1 i)) t.val) := by
    refine ⟨by simp only [np, hI.rules, hz_ok, hz_r], by simp only [np, hI.r], by simp only [np, hI.c, hz_c],
      fun i t => ?_⟩
    simp only [concat1_get, hI.c, hz_get, lowerS]
    rw [map_append_zero_getD, hLlen]
    by_cases ht : t.val < U.c
    · rw [if_pos ht, if_pos ht]; exact hI.get_nat i.isLt ht
    · rw [if_neg ht, if_neg ht]
  obtain ⟨lower, el, hl⟩ := hl.named
  -- idx: the number of True entries of each row of `lower > w` (`np.sum` or `np.count_nonzero`)
  obtain ⟨idx, ei, hi_ok, hi_r, hi_c, hi_get⟩ : ∃ I : Arr Nat, countAxis1 (gtA lower w) = I ∧ I.ok = true ∧ I.r = U.r ∧
      I.c = 1 ∧ ∀ i : Fin U.r, I.get i.val 0 = hierIdx (uAbsSorted (W1 i)) al M (norm2 (Ws i)) := by
    refine ⟨_, rfl, by simp only [np, hl.rules, hw.rules], by simp only [np, hl.r, hw.r], by simp only [np], fun i => ?_⟩
    simp only [countAxis1_get, gtA_c, gtA_get, hl.r, hl.c, hw.r, hw.c, bdim_self, bidx_val, hierIdx, hLlen]
    refine countTo_congr fun t ht => ?_
    rw [bidx_of_lt ht, hw.get_nat i.isLt ht, hl.get_nat i.isLt ht]
  -- every `let` is unfolded and the names are rewritten in, once for the four occurrences of the unit
  unfold Gen.Prox.mlp_prox_grad
  dsimp only
  simp only [eS, es, ez, ea, en, ex, ew, eI, el, ei]
  refine ⟨fun hidx => ?_, fun ⟨i0, hi0⟩ => ?_⟩
  · -- x_star, w_star: `np.take_along_axis(·, idx, axis=1)`, with or without the (redundant) `.reshape((batch, 1))`:
    -- whichever spelling the source uses becomes a name; the other name does not occur in the goal
    have hcol : ∀ i, hierIdx (uAbsSorted (W1 i)) al M (norm2 (Ws i)) < U.c + 1 := fun i => Nat.lt_succ_iff.mpr (hidx i)
    obtain ⟨x_star', exs', hxs'⟩ := (hx.takeAlong1 hi_ok hi_r hi_c hi_get hcol).named
    obtain ⟨w_star', ews', hws'⟩ := (hw.takeAlong1 hi_ok hi_r hi_c hi_get hcol).named
    obtain ⟨x_star, exs, hxs⟩ := hxs'.reshape2_self.named
    obtain ⟨w_star, ews, hws⟩ := hws'.reshape2_self.named
    -- the two results (the signs are `np.where(u >= 0, 1, -1)`, or an array of `-1` overwritten with `1` where `u >= 0`)
    have hT := soft_threshold_isMat (0 : α) hUabs
    simp only [exs', ews', exs, ews]
    simp only [IsMat, np, mlpProx, hierProxRow, signPM, xStar, wStar, hV.rules, hU.rules, hS.ok, hs.ok, hz_ok, ha.ok, hn.ok,
      hx.ok, hw.ok, hI.ok, hl.ok, hi_ok, hxs.rules_col, hws.rules_col, hxs'.rules_col, hws'.rules_col, hT.rules]
  · -- IndexError
    have htx : (takeAlong1 x idx).ok = false := by
      by_contra hne
      have hok : (takeAlong1 x idx).ok = true := by simpa using hne
      have := (takeAlong1_ok_col hx.ok hi_ok (hi_r.trans hx.r.symm) hi_c).mp hok i0.val (by rw [hx.r]; exact i0.isLt)
      rw [hi_get i0, hi0, hx.c] at this
      exact Nat.lt_irrefl _ this
    simp only [np, htx]

/-- Under the order laws, when every row's breakpoint count is a valid column, `mlp_prox_grad(W_skip_, W1_, alpha, M)` as
    written in the source returns, for a `d × k` and a `d × h` weight array, exactly the pair `mlpProx Ws W1 alpha M` of
    the model (`beta_star`, then `theta_star`): shapes `(d, k)` and `(d, h)`, same entries, no NumPy error.  All the
    arithmetic (norms, cumulative sums, the `h + 1` candidate solutions, the selection, the clipping) is performed in the
    same order on both sides. -/
theorem mlp_prox_grad_eq (H : OrderLaws α) (Ws : Fin d → Fin k → α) (W1 : Fin d → Fin h → α) (al M : α)
    (hidx : ∀ i, hierIdx (uAbsSorted (W1 i)) al M (norm2 (Ws i)) ≤ h) :
    Eqv (Gen.Prox.mlp_prox_grad (ofFn Ws) (ofFn W1) al M).1 (ofFn (mlpProx Ws W1 al M).1) ∧
    Eqv (Gen.Prox.mlp_prox_grad (ofFn Ws) (ofFn W1) al M).2 (ofFn (mlpProx Ws W1 al M).2) :=
  have h0 := (mlp_prox_grad_spec H al M (isMat_ofFn Ws) (isMat_ofFn W1)).1 hidx
  ⟨h0.1.eqv, h0.2.eqv⟩

/-- Under the order laws, when some row's breakpoint count is `h + 1` (all `h + 1` comparisons `lower > w` true, which
    needs `w < 0` in the last column: e.g. `M < 0`), the source raises IndexError in `np.take_along_axis` — both returned
    arrays carry an error — whereas the model `mlpProx` returns numbers: outside `M ≥ 0` the model does not describe the
    exception. -/
theorem mlp_prox_grad_index_error (H : OrderLaws α) (Ws : Fin d → Fin k → α) (W1 : Fin d → Fin h → α) (al M : α)
    (hfull : ∃ i, hierIdx (uAbsSorted (W1 i)) al M (norm2 (Ws i)) = h + 1) :
    (Gen.Prox.mlp_prox_grad (ofFn Ws) (ofFn W1) al M).1.ok = false ∧
    (Gen.Prox.mlp_prox_grad (ofFn Ws) (ofFn W1) al M).2.ok = false :=
  (mlp_prox_grad_spec H al M (isMat_ofFn Ws) (isMat_ofFn W1)).2 hfull

/-- Meaning of the description used for the group variants: `IsPartialMat junk R rows` says that no NumPy error occurred
    while computing `R`, that `R` has shape `(d, n)`, that row `i` of `R` is `f` whenever the model answers `some f` for
    that row, and that it still holds the uninitialised memory `junk` whenever the model answers `none`. -/
theorem isPartialMat_spelled_out {n : Nat} (junk : Nat → Nat → α) (R : Arr α) (rows : Fin d → Option (Fin n → α)) :
    IsPartialMat junk R rows ↔ R.ok = true ∧ R.r = d ∧ R.c = n ∧
      (∀ i f, rows i = some f → ∀ j : Fin n, R.get i.val j.val = f j) ∧
      (∀ i, rows i = none → ∀ j : Fin n, R.get i.val j.val = junk i.val j.val) := by
  unfold IsPartialMat
  refine ⟨fun ⟨h1, h2, h3, h4⟩ => ⟨h1, h2, h3, fun i f hf => ?_, fun i hn => ?_⟩,
    fun ⟨h1, h2, h3, h4, h5⟩ => ⟨h1, h2, h3, fun i => ?_⟩⟩
  · have := h4 i; rw [hf] at this; exact this
  · have := h4 i; rw [hn] at this; exact this
  · cases hr : rows i with
    | none => exact h5 i hr
    | some f => exact h4 i f hr

/-- `group_linear_prox_grad(groups, W, alpha)` as written in the source — `np.empty`, then for every group: gather the
    rows `W[g]`, flatten them to one row, `linear_prox_grad`, reshape back, scatter with `W_star[g] = …` —, applied to any
    list of groups of valid row indices (overlapping groups, repeated indices and uncovered rows allowed)
    and to an array that is without error the `d × h` matrix `W`, returns without error a `d × h` array whose covered rows
    are the model's `groupLinearProx groups W alpha` and whose uncovered rows are the uninitialised memory.  Every number
    type (same floating-point operations in the same order). -/
theorem group_linear_prox_grad_isPartialMat (junk : Nat → Nat → Nat → α) (groups : List (List (Fin d)))
    {A : Arr α} {W : Fin d → Fin h → α} (hA : IsMat A W) (al : α) :
    IsPartialMat (junk 0) (Gen.Prox.group_linear_prox_grad junk (groups.map (List.map Fin.val)) A al)
      (groupLinearProx groups W al) := by
  unfold Gen.Prox.group_linear_prox_grad
  -- the top-level `let`s of the generated unit, in its order: the `np.empty` buffer, the fold over `groups`, the flags
  extract_lets W_star W_star_3 flags
  have key : RowsAre (junk 0) (fun g => linearProxRow (flatGroup W g) al) W_star_3
      (fun i => groups.foldl (locStep i) none) := by
    refine foldl_groups (RowsAre (junk 0) (fun g => linearProxRow (flatGroup W g) al)) _ groups ?_ W_star
      (fun _ => none) ?_
    · intro st loc g hg hP
      have h1 := hA.takeRows g
      have h3 := linear_prox_grad_isMat al h1.flattenRow
      have h5 := hP.setRows (fun q q' j e => by simp only [linearProxRow, flatGroup_flatIdx, e])
        (IsMat.unflattenRow (r := linearProxRow (flatGroup W g) al) h3)
      simp only [takeRows_r, takeRows_c, List.length_map, hA.c]
      exact h5.checked (by simp only [h1.ok, h3.ok, h5.ok, Bool.and_self])
    · show RowsAre _ _ (Arr.empty (junk 0) A.r A.c) _
      rw [hA.r, hA.c]
      exact RowsAre.empty _ _
  exact key.isPartialMat.checked (by simp only [np, flags, W_star, key.ok])

/-- `group_linear_prox_grad(groups, W, alpha)` as written in the source, for a `d × h` weight array: covered rows are the
    model's `groupLinearProx`, uncovered rows the uninitialised memory, shape `(d, h)`, no NumPy error. -/
theorem group_linear_prox_grad_eq (junk : Nat → Nat → Nat → α) (groups : List (List (Fin d)))
    (W : Fin d → Fin h → α) (al : α) :
    IsPartialMat (junk 0) (Gen.Prox.group_linear_prox_grad junk (groups.map (List.map Fin.val)) (ofFn W) al)
      (groupLinearProx groups W al) :=
  group_linear_prox_grad_isPartialMat junk groups (isMat_ofFn W) al

/-- instance at `Float`: the generated `group_linear_prox_grad` is the model's on the covered rows, double for double -/
example (junk : Nat → Nat → Nat → Float) (groups : List (List (Fin d)))
    (W : Fin d → Fin h → Float) (al : Float) :
    IsPartialMat (junk 0) (Gen.Prox.group_linear_prox_grad junk (groups.map (List.map Fin.val)) (ofFn W) al)
      (groupLinearProx groups W al) :=
  group_linear_prox_grad_eq junk groups W al

/-- `group_mlp_prox_grad(groups, W_skip, W1, alpha, M)` as written in the source — two `np.empty`, then for every group:
    gather and flatten the rows of both arrays, `mlp_prox_grad` on the two single rows, reshape back, scatter —, under the
    order laws, for any list of groups of valid row indices whose breakpoint count (on the
    flattened group) is a valid column: the two returned arrays are without error `d × k` and `d × h`, their covered rows
    are the two components of the model's `groupMlpProx groups Ws W1 alpha M`, their uncovered rows the uninitialised
    memory of the first, resp. second `np.empty`. -/
theorem group_mlp_prox_grad_isPartialMat (H : OrderLaws α) (junk : Nat → Nat → Nat → α) (groups : List (List (Fin d)))
    {A B : Arr α} {Ws : Fin d → Fin k → α} {W1 : Fin d → Fin h → α} (hA : IsMat A Ws)
    (hB : IsMat B W1) (al M : α)
    (hidx : ∀ g ∈ groups, hierIdx (uAbsSorted (flatGroup W1 g)) al M (norm2 (flatGroup Ws g)) ≤ g.length * h) :
    IsPartialMat (junk 0) (Gen.Prox.group_mlp_prox_grad junk (groups.map (List.map Fin.val)) A B al M).1
      (groupMlpProx groups Ws W1 al M).1 ∧
    IsPartialMat (junk 1) (Gen.Prox.group_mlp_prox_grad junk (groups.map (List.map Fin.val)) A B al M).2
      (groupMlpProx groups Ws W1 al M).2 := by
  unfold Gen.Prox.group_mlp_prox_grad
  -- as above: the two buffers, the fold (its state `st` is the pair), its two components, the flags
  extract_lets W_skip_star W1_star st W_skip_star_3 W1_star_3 flags
  have key : RowsAre (junk 0) (fun g => (hierProxRow (flatGroup Ws g) (flatGroup W1 g) al M).1) st.1
        (fun i => groups.foldl (locStep i) none) ∧
      RowsAre (junk 1) (fun g => (hierProxRow (flatGroup Ws g) (flatGroup W1 g) al M).2) st.2
        (fun i => groups.foldl (locStep i) none) := by
    refine foldl_groups (fun (st : Arr α × Arr α) loc =>
        RowsAre (junk 0) (fun g => (hierProxRow (flatGroup Ws g) (flatGroup W1 g) al M).1) st.1 loc ∧
        RowsAre (junk 1) (fun g => (hierProxRow (flatGroup Ws g) (flatGroup W1 g) al M).2) st.2 loc) _ groups ?_
      (W_skip_star, W1_star) (fun _ => none) ?_
    · intro st loc g hg hP
      have hA1 := hA.takeRows g
      have hB1 := hB.takeRows g
      obtain ⟨hm1, hm2⟩ := (mlp_prox_grad_spec H al M hA1.flattenRow hB1.flattenRow).1 (fun _ => hidx g hg)
      have h5 := hP.1.setRows (fun q q' j e => by simp only [hierProxRow, flatGroup_flatIdx, e])
        (IsMat.unflattenRow (r := (hierProxRow (flatGroup Ws g) (flatGroup W1 g) al M).1) hm1)
      have h5' := hP.2.setRows (fun q q' j e => by simp only [hierProxRow, flatGroup_flatIdx, e])
        (IsMat.unflattenRow (r := (hierProxRow (flatGroup Ws g) (flatGroup W1 g) al M).2) hm2)
      simp only [takeRows_r, takeRows_c, List.length_map, hA.c, hB.c]
      exact ⟨h5.checked (by simp only [hA1.ok, hB1.ok, hm1.ok, hm2.ok, h5.ok, h5'.ok, Bool.and_self]),
        h5'.checked (by simp only [hA1.ok, hB1.ok, hm1.ok, hm2.ok, h5.ok, h5'.ok, Bool.and_self])⟩
    · refine ⟨?_, ?_⟩
      · show RowsAre _ _ (Arr.empty (junk 0) A.r A.c) _
        rw [hA.r, hA.c]
        exact RowsAre.empty _ _
      · show RowsAre _ _ (Arr.empty (junk 1) B.r B.c) _
        rw [hB.r, hB.c]
        exact RowsAre.empty _ _
  have hfl : flags = true := by simp only [np, flags, W_skip_star, W1_star, W_skip_star_3, W1_star_3, key.1.ok, key.2.ok]
  exact ⟨key.1.isPartialMat.checked hfl, key.2.isPartialMat.checked hfl⟩

/-- `group_mlp_prox_grad(groups, W_skip, W1, alpha, M)` as written in the source, for a `d × k` and a `d × h` weight array,
    under the order laws and valid breakpoint counts: covered rows are the model's `groupMlpProx`, uncovered rows the
    uninitialised memory, shapes `(d, k)` and `(d, h)`, no NumPy error. -/
theorem group_mlp_prox_grad_eq (H : OrderLaws α) (junk : Nat → Nat → Nat → α) (groups : List (List (Fin d)))
    (Ws : Fin d → Fin k → α) (W1 : Fin d → Fin h → α) (al M : α)
    (hidx : ∀ g ∈ groups, hierIdx (uAbsSorted (flatGroup W1 g)) al M (norm2 (flatGroup Ws g)) ≤ g.length * h) :
    IsPartialMat (junk 0) (Gen.Prox.group_mlp_prox_grad junk (groups.map (List.map Fin.val)) (ofFn Ws) (ofFn W1) al M).1
      (groupMlpProx groups Ws W1 al M).1 ∧
    IsPartialMat (junk 1) (Gen.Prox.group_mlp_prox_grad junk (groups.map (List.map Fin.val)) (ofFn Ws) (ofFn W1) al M).2
      (groupMlpProx groups Ws W1 al M).2 :=
  group_mlp_prox_grad_isPartialMat H junk groups (isMat_ofFn Ws) (isMat_ofFn W1) al M hidx

end generic

/-! real numbers: the order laws hold, and `M ≥ 0` rules the IndexError out -/

section real
variable {d h k : Nat}

/-- Over ℝ, for every `M ≥ 0` (every `alpha`, every weights, zero rows included), `mlp_prox_grad(W_skip_, W1_, alpha, M)`
    as written in the source returns exactly the pair `mlpProx Ws W1 alpha M` of the model, without NumPy error. -/
theorem mlp_prox_grad_eq_real (Ws : Fin d → Fin k → ℝ) (W1 : Fin d → Fin h → ℝ) (al : ℝ) {M : ℝ} (hM : 0 ≤ M) :
    Eqv (Gen.Prox.mlp_prox_grad (ofFn Ws) (ofFn W1) al M).1 (ofFn (mlpProx Ws W1 al M).1) ∧
    Eqv (Gen.Prox.mlp_prox_grad (ofFn Ws) (ofFn W1) al M).2 (ofFn (mlpProx Ws W1 al M).2) :=
  mlp_prox_grad_eq orderLaws_real Ws W1 al M fun i => by
    have := hierIdx_le_real (uAbsSorted (W1 i)) al hM (norm2_nonneg (Ws i))
    rwa [uAbsSorted_length] at this

/-- Over ℝ, for every `M ≥ 0` and every list of groups of valid row indices,
    `group_mlp_prox_grad(groups, W_skip, W1, alpha, M)` as written in the source returns without NumPy error two arrays
    whose covered rows are the model's `groupMlpProx groups Ws W1 alpha M` (uncovered rows: uninitialised memory). -/
theorem group_mlp_prox_grad_eq_real (junk : Nat → Nat → Nat → ℝ) (groups : List (List (Fin d)))
    (Ws : Fin d → Fin k → ℝ) (W1 : Fin d → Fin h → ℝ) (al : ℝ) {M : ℝ} (hM : 0 ≤ M) :
    IsPartialMat (junk 0) (Gen.Prox.group_mlp_prox_grad junk (groups.map (List.map Fin.val)) (ofFn Ws) (ofFn W1) al M).1
      (groupMlpProx groups Ws W1 al M).1 ∧
    IsPartialMat (junk 1) (Gen.Prox.group_mlp_prox_grad junk (groups.map (List.map Fin.val)) (ofFn Ws) (ofFn W1) al M).2
      (groupMlpProx groups Ws W1 al M).2 :=
  group_mlp_prox_grad_eq orderLaws_real junk groups Ws W1 al M fun g _ => by
    have := hierIdx_le_real (uAbsSorted (flatGroup W1 g)) al hM (norm2_nonneg (flatGroup Ws g))
    rwa [uAbsSorted_length] at this

/-- The hypothesis of `mlp_prox_grad_index_error` is satisfiable over ℝ: one feature with skip weight `1`, no hidden unit,
    `alpha = 0`, `M = -1` gives `w = M·1·1 = -1 < 0 = lower` in the only column, hence `idx = 1 = h + 1`
    (NumPy: "IndexError: index 1 is out of bounds for axis 1 with size 1"). -/
example : ∃ (Ws : Fin 1 → Fin 1 → ℝ) (W1 : Fin 1 → Fin 0 → ℝ) (al M : ℝ),
    ∃ i, hierIdx (uAbsSorted (W1 i)) al M (norm2 (Ws i)) = 0 + 1 := by
  refine ⟨fun _ _ => 1, fun _ j => j.elim0, 0, -1, 0, ?_⟩
  simp [hierIdx, uAbsSorted, sortDesc, wS, xS, aS, lowerS, norm2, sumL, cumsum, List.range_succ]

end real

end GemVerif.Props.C05Gen
