/-
  C02 — the gradient returned with `return_grad=True` is the exact derivative of the score: entries clipped at the
  epsilon bounds receive 0, and at interior points the returned gradient paired with any direction `V` is the
  derivative of the score along `P + t V`.
-/
import GemVerif.Lemmas.GeminiC02

namespace GemVerif.Props.C02
open Model Spec

variable {n K : ℕ}

/-- KL (both modes): an entry outside the open clipping window gets gradient 0. -/
theorem klGrad_clipped_zero (ε : ℝ) (ovo : Bool) (P : Fin n → Fin K → ℝ) (i : Fin n) (k : Fin K)
    (h : P i k ≤ ε ∨ 1 - ε ≤ P i k) : klGrad ε ovo P i k = 0 :=
  eq_zero_of_mul_clipMask h rfl

/-- TV (both modes): an entry outside the open clipping window gets gradient 0. -/
theorem tvGrad_clipped_zero (ε : ℝ) (ovo : Bool) (P : Fin n → Fin K → ℝ) (i : Fin n) (k : Fin K)
    (h : P i k ≤ ε ∨ 1 - ε ≤ P i k) : tvGrad ε ovo P i k = 0 := by
  cases ovo <;> exact eq_zero_of_mul_clipMask h rfl

/-- Hellinger (both modes): an entry outside the open clipping window gets gradient 0. -/
theorem hellingerGrad_clipped_zero (ε : ℝ) (ovo : Bool) (P : Fin n → Fin K → ℝ) (i : Fin n)
    (k : Fin K) (h : P i k ≤ ε ∨ 1 - ε ≤ P i k) : hellingerGrad ε ovo P i k = 0 := by
  cases ovo <;> exact eq_zero_of_mul_clipMask h rfl

/-- chi-square (both modes): an entry outside the open clipping window gets gradient 0. -/
theorem chi2Grad_clipped_zero (ε : ℝ) (ovo : Bool) (P : Fin n → Fin K → ℝ) (i : Fin n) (k : Fin K)
    (h : P i k ≤ ε ∨ 1 - ε ≤ P i k) : chi2Grad ε ovo P i k = 0 := by
  cases ovo <;> exact eq_zero_of_mul_clipMask h rfl

/-- MMD (both modes, any affinity): an entry outside the open clipping window gets gradient 0. -/
theorem mmdGrad_clipped_zero (ε : ℝ) (ovo : Bool) (P : Fin n → Fin K → ℝ) (κ : Fin n → Fin n → ℝ)
    (i : Fin n) (k : Fin K) (h : P i k ≤ ε ∨ 1 - ε ≤ P i k) : mmdGrad ε ovo P κ i k = 0 := by
  cases ovo <;> exact eq_zero_of_mul_clipMask h rfl

/-- Wasserstein (both modes, whatever `ot.emd2` returns — table form): an entry outside the open
    clipping window gets gradient 0. -/
theorem wassGradT_clipped_zero (pairE : Fin K → Fin K → Emd ℝ n) (unifE : Fin K → Emd ℝ n) (ε : ℝ)
    (ovo : Bool) (P : Fin n → Fin K → ℝ) (i : Fin n) (k : Fin K)
    (h : P i k ≤ ε ∨ 1 - ε ≤ P i k) : wassGradT pairE unifE ε ovo P i k = 0 := by
  cases ovo <;> exact eq_zero_of_mul_clipMask h rfl

/-- Wasserstein (both modes, whatever `ot.emd2` returns — function form): an entry outside the open
    clipping window gets gradient 0. -/
theorem wassGrad_clipped_zero (emd2 : (Fin n → ℝ) → (Fin n → ℝ) → Emd ℝ n) (ε : ℝ)
    (ovo : Bool) (P : Fin n → Fin K → ℝ) (i : Fin n) (k : Fin K)
    (h : P i k ≤ ε ∨ 1 - ε ≤ P i k) : wassGrad emd2 ε ovo P i k = 0 :=
  wassGradT_clipped_zero _ _ ε ovo P i k h

/-- KL one-vs-all (`mi`): at every interior point and along every direction `V` (not only simplex-tangent
    ones) the returned gradient paired with `V` is the derivative of the returned score. -/
theorem kl_ova_hasDerivAt (hn : 0 < n) {ε : ℝ} (hε : 0 < ε) (P : Fin n → Fin K → ℝ) (hI : Interior ε P)
    (V : Fin n → Fin K → ℝ) :
    HasDerivAt (fun t : ℝ => klScore ε false (fun i k => P i k + t * V i k))
      (∑ i, ∑ k, klGrad ε false P i k * V i k) 0 := by
  refine hasDerivAt_of_interior klScore_ova_interior hI V fun Pc h0 hP => ?_
  subst h0
  have h1 := fun k i => hasDerivAt_mul_log (hP i k) (P_pos hε hI i k).ne'
  have h2 := fun k => hasDerivAt_mul_log (hasDerivAt_pi_curve hP k) (pi_pos hn (P_pos hε hI) k).ne'
  refine ((HasDerivAt.fun_sum fun k _ => (HasDerivAt.fun_sum fun i _ => h1 k i).div_const _).fun_sub
    (HasDerivAt.fun_sum fun k _ => h2 k)).congr_deriv ?_
  rw [grad_sum_split _ (fun i k => Real.log (Pc 0 i k) / n) (fun k => -Real.log (Spec.pi (Pc 0) k)) V fun i k => by
    rw [klGrad_ova_eq, clipP_of_interior hI, mean0_eq_pi, clipMask_of_interior hI, mul_one]; ring,
    ← Finset.sum_sub_distrib]
  refine Finset.sum_congr rfl fun k _ => ?_
  -- the two `+ 1` terms are `π(V)_k` on both sides
  simp only [add_mul, one_mul, Finset.sum_add_distrib, div_mul_eq_mul_div, ← Finset.sum_div, Spec.pi]
  ring

set_option linter.unusedVariables false in
/-- KL one-vs-one: the returned gradient is the exact derivative of the score along every direction.  (`hn` is not
    used: for `n = 0` every sum is empty.) -/
theorem kl_ovo_hasDerivAt (hn : 0 < n) {ε : ℝ} (hε : 0 < ε) (P : Fin n → Fin K → ℝ) (hI : Interior ε P)
    (V : Fin n → Fin K → ℝ) :
    HasDerivAt (fun t : ℝ => klScore ε true (fun i k => P i k + t * V i k))
      (∑ i, ∑ k, klGrad ε true P i k * V i k) 0 := by
  refine hasDerivAt_of_interior klScore_ovo_interior hI V fun Pc h0 hP => ?_
  subst h0
  have h0 : ∀ i k, Pc 0 i k ≠ 0 := fun i k => (P_pos hε hI i k).ne'
  have h1 := fun k => (HasDerivAt.fun_sum (u := Finset.univ) fun i _ =>
    hasDerivAt_mul_log (hP i k) (h0 i k)).div_const (n : ℝ)
  have h2 := fun k => (hasDerivAt_pi_curve hP k).fun_mul
    ((HasDerivAt.fun_sum (u := Finset.univ) fun i _ => (hP i k).log (h0 i k)).div_const (n : ℝ))
  refine ((HasDerivAt.fun_sum fun k _ => h1 k).fun_sub (HasDerivAt.fun_sum fun k _ => h2 k)).congr_deriv ?_
  simp only [klGrad_ovo_eq, clipP_of_interior hI, mean0_eq_pi, meanV_eq, clipMask_of_interior hI, mul_one]
  rw [Finset.sum_comm, ← Finset.sum_sub_distrib]
  refine Finset.sum_congr rfl fun k _ => ?_
  generalize Spec.pi (Pc 0) k = π
  generalize (∑ i, Real.log (Pc 0 i k)) / n = L
  simp only [Spec.pi, Finset.sum_div, Finset.sum_mul, Finset.mul_sum, ← Finset.sum_add_distrib,
    ← Finset.sum_sub_distrib]
  refine Finset.sum_congr rfl fun i _ => ?_
  ring

/-- chi-square one-vs-all: the returned gradient is the exact derivative of the score along every direction. -/
theorem chi2_ova_hasDerivAt (hn : 0 < n) {ε : ℝ} (hε : 0 < ε) (P : Fin n → Fin K → ℝ) (hI : Interior ε P)
    (V : Fin n → Fin K → ℝ) :
    HasDerivAt (fun t : ℝ => chi2Score ε false (fun i k => P i k + t * V i k))
      (∑ i, ∑ k, chi2Grad ε false P i k * V i k) 0 := by
  refine hasDerivAt_of_interior chi2Score_ova_interior hI V fun Pc h0 hP => ?_
  subst h0
  have hπ : ∀ k, Spec.pi (Pc 0) k ≠ 0 := fun k => (pi_pos hn (P_pos hε hI) k).ne'
  refine (((hasDerivAt_sum_entries fun i k => hasDerivAt_mul_div_pi_curve hP i (hπ k)).div_const _).const_mul
    _).congr_deriv ?_
  simp only [chi2Grad_ova_eq, clipP_of_interior hI, mean0_eq_pi, meanV_eq, clipMask_of_interior hI, mul_one,
    Finset.sum_div, Finset.mul_sum]
  refine Finset.sum_congr rfl fun i _ => Finset.sum_congr rfl fun k _ => ?_
  simp only [neg_div, Finset.sum_neg_distrib]
  ring

/-- chi-square one-vs-one: the returned gradient is the exact derivative of the score along every direction. -/
theorem chi2_ovo_hasDerivAt (hn : 0 < n) {ε : ℝ} (hε : 0 < ε) (P : Fin n → Fin K → ℝ) (hI : Interior ε P)
    (V : Fin n → Fin K → ℝ) :
    HasDerivAt (fun t : ℝ => chi2Score ε true (fun i k => P i k + t * V i k))
      (∑ i, ∑ k, chi2Grad ε true P i k * V i k) 0 := by
  refine hasDerivAt_of_interior chi2Score_ovo_interior hI V fun Pc h0 hP => ?_
  subst h0
  have hπ : ∀ k, Spec.pi (Pc 0) k ≠ 0 := fun k => (pi_pos hn (P_pos hε hI) k).ne'
  have h0 : ∀ i k, Pc 0 i k ≠ 0 := fun i k => (P_pos hε hI i k).ne'
  refine (((hasDerivAt_sum_rows (fun i k => hasDerivAt_mul_div_pi_curve hP i (hπ k))
    fun i k => hasDerivAt_pi_div_div_pi_curve hP (hπ k) (h0 i k)).div_const _).const_mul _).congr_deriv ?_
  -- the row sums get names, so that distributing the constants over the sums leaves them whole
  obtain ⟨al, hal⟩ : ∃ al : Fin n → ℝ, ∀ i, al i = ∑ c, Pc 0 i c * (Pc 0 i c / Spec.pi (Pc 0) c) := ⟨_, fun _ => rfl⟩
  obtain ⟨be, hbe⟩ : ∃ be : Fin n → ℝ, ∀ i, be i = ∑ c, Spec.pi (Pc 0) c / (Pc 0 i c / Spec.pi (Pc 0) c) :=
    ⟨_, fun _ => rfl⟩
  simp only [chi2Grad_ovo_eq, clipP_of_interior hI, mean0_eq_pi, meanV_eq, clipMask_of_interior hI, mul_one,
    ← hal, ← hbe, Finset.sum_div, Finset.mul_sum]
  refine Finset.sum_congr rfl fun i _ => Finset.sum_congr rfl fun k _ => ?_
  -- the summand under the sample mean, brought to the code's shape (`ring` does not look under the sum)
  have h2 : ∀ x y z : ℝ, -(z * z) * y + x * (2 / z) = 2 * (x / z) - y * z * z := fun x y z => by ring
  simp only [h2]
  ring

/-- Hellinger one-vs-all: the returned gradient is the exact derivative of the score along every direction. -/
theorem hellinger_ova_hasDerivAt (hn : 0 < n) {ε : ℝ} (hε : 0 < ε) (P : Fin n → Fin K → ℝ) (hI : Interior ε P)
    (V : Fin n → Fin K → ℝ) :
    HasDerivAt (fun t : ℝ => hellingerScore ε false (fun i k => P i k + t * V i k))
      (∑ i, ∑ k, hellingerGrad ε false P i k * V i k) 0 := by
  refine hasDerivAt_of_interior hellingerScore_ova_interior hI V fun Pc h0 hP => ?_
  subst h0
  have hs : ∀ i k, 0 < Pc 0 i k * Spec.pi (Pc 0) k := fun i k =>
    mul_pos (P_pos hε hI i k) (pi_pos hn (P_pos hε hI) k)
  refine (((hasDerivAt_sum_entries fun i k => hasDerivAt_sqrt_curve hP (hs i k)).div_const _).const_sub
    _).congr_deriv ?_
  simp only [hellingerGrad_ova_eq, clipP_of_interior hI, mean0_eq_pi, meanV_eq, clipMask_of_interior hI, mul_one,
    Finset.sum_div, ← Finset.sum_neg_distrib]
  refine Finset.sum_congr rfl fun i _ => Finset.sum_congr rfl fun k _ => ?_
  simp only [div_mul_eq_div_div_swap, ← Finset.sum_div]
  ring

/-- Hellinger one-vs-one: the returned gradient is the exact derivative of the score along every direction. -/
theorem hellinger_ovo_hasDerivAt (hn : 0 < n) {ε : ℝ} (hε : 0 < ε) (P : Fin n → Fin K → ℝ) (hI : Interior ε P)
    (V : Fin n → Fin K → ℝ) :
    HasDerivAt (fun t : ℝ => hellingerScore ε true (fun i k => P i k + t * V i k))
      (∑ i, ∑ k, hellingerGrad ε true P i k * V i k) 0 := by
  refine hasDerivAt_of_interior hellingerScore_ovo_interior hI V fun Pc h0 hP => ?_
  subst h0
  have hs : ∀ i k, 0 < Pc 0 i k * Spec.pi (Pc 0) k := fun i k =>
    mul_pos (P_pos hε hI i k) (pi_pos hn (P_pos hε hI) k)
  have h1 := fun i k => hasDerivAt_sqrt_curve hP (hs i k)
  refine (((hasDerivAt_sum_rows h1 h1).div_const _).const_sub _).congr_deriv ?_
  obtain ⟨e, he⟩ : ∃ e : Fin n → ℝ, ∀ i, e i = ∑ c, Real.sqrt (Pc 0 i c * Spec.pi (Pc 0) c) := ⟨_, fun _ => rfl⟩
  simp only [hellingerGrad_ovo_eq, clipP_of_interior hI, mean0_eq_pi, meanV_eq, clipMask_of_interior hI, mul_one,
    ← he, Finset.sum_div, ← Finset.sum_neg_distrib]
  refine Finset.sum_congr rfl fun i _ => Finset.sum_congr rfl fun k _ => ?_
  -- the summand under the sample mean: both factors of the square contribute the same half
  have h2 : ∀ x s y : ℝ, x / (2 * s) * y + y * (x / (2 * s)) = x / s * y := fun x s y => by ring
  simp only [h2]
  ring

/-- TV one-vs-all: at interior points where no `P i k - π k` vanishes (the score is differentiable there) the
    returned gradient is the exact derivative of the score along every direction. -/
theorem tv_ova_hasDerivAt {ε : ℝ} (P : Fin n → Fin K → ℝ) (hI : Interior ε P)
    (hne : ∀ i k, P i k ≠ Spec.pi P k) (V : Fin n → Fin K → ℝ) :
    HasDerivAt (fun t : ℝ => tvScore ε false (fun i k => P i k + t * V i k))
      (∑ i, ∑ k, tvGrad ε false P i k * V i k) 0 := by
  refine hasDerivAt_of_interior tvScore_ova_interior hI V fun Pc h0 hP => ?_
  subst h0
  have h1 := fun i k =>
    hasDerivAt_abs_sign ((hP i k).fun_sub (hasDerivAt_pi_curve hP k)) (sub_ne_zero.mpr (hne i k))
  refine ((HasDerivAt.fun_sum fun k _ => (HasDerivAt.fun_sum fun i _ => h1 i k).div_const _).const_mul _).congr_deriv ?_
  simp only [tvGrad_ova_eq, clipP_of_interior hI, mean0_eq_pi, meanV_eq, clipMask_of_interior hI, mul_one]
  rw [Finset.sum_comm, Finset.mul_sum]
  refine Finset.sum_congr rfl fun k _ => ?_
  simp only [mul_comm (RealLike.sign _)]
  rw [sum_sub_pi_mul, Finset.sum_div, Finset.mul_sum]
  exact Finset.sum_congr rfl fun i _ => by ring

/- the hypotheses of `tv_ova_hasDerivAt` are satisfiable (a 2×2 point of the simplex) -/
example : ∃ P : Fin 2 → Fin 2 → ℝ, Interior (1 / 10) P ∧ ∀ i k, P i k ≠ Spec.pi P k :=
  ⟨exP, exP_interior, exP_tv_ova⟩

/-- MMD one-vs-all with a symmetric affinity: at interior points where every distance `delta[k]` is
    positive (the score is differentiable there) the returned gradient is the exact derivative of the
    score along every direction. -/
theorem mmd_ova_hasDerivAt (hn : 0 < n) {ε : ℝ} (hε : 0 < ε) (P : Fin n → Fin K → ℝ) (hI : Interior ε P)
    (κ : Fin n → Fin n → ℝ) (hκ : ∀ i j, κ i j = κ j i) (hδ : ∀ k, 0 < mmdDeltaOva ε P κ k)
    (V : Fin n → Fin K → ℝ) :
    HasDerivAt (fun t : ℝ => mmdScore ε false (fun i k => P i k + t * V i k) κ)
      (∑ i, ∑ k, mmdGrad ε false P κ i k * V i k) 0 := by
  refine hasDerivAt_of_interior (fun hQ => mmdScore_ova_scaled hn hε hQ hκ) hI V fun Pc h0 hP => ?_
  subst h0
  have hπ := fun k => pi_pos hn (P_pos hε hI) k
  have hs := pi_mul_mmdDeltaOva hn hε hI hκ
  refine (HasDerivAt.fun_sum fun k _ => hasDerivAt_MMD_div hκ (fun i => hP i k)
    (fun _ => hasDerivAt_pi_curve hP k) (hs k ▸ mul_pos (hπ k) (hδ k))).congr_deriv ?_
  rw [Finset.sum_comm]
  refine Finset.sum_congr rfl fun k _ => ?_
  rw [← hs k]
  simp only [mmdGrad_ova_eq, mmdAlpha_eq hI, meanV_eq, clipMask_of_interior hI, mul_one]
  -- the code's `mm` is `M / π_k` for `M = (affinity / N²) @ (P[:,k] - π_k)`, the dual vector of the centred column
  have hm : ∀ i, ∑ j, κ i j / (n * n) * (Pc 0 j k / Spec.pi (Pc 0) k - 1)
      = (∑ j, κ i j / (n * n) * (Pc 0 j k - Spec.pi (Pc 0) k)) / Spec.pi (Pc 0) k := fun i => by
    rw [Finset.sum_div]
    exact Finset.sum_congr rfl fun j _ => by rw [div_sub_one (hπ k).ne', mul_div_assoc]
  obtain ⟨M, hM⟩ : ∃ M : Fin n → ℝ, ∀ i, M i = ∑ j, κ i j / (n * n) * (Pc 0 j k - Spec.pi (Pc 0) k) :=
    ⟨_, fun _ => rfl⟩
  simp only [hm, ← hM, ← Finset.sum_div]
  rw [sum_sub_pi_mul, Finset.sum_div]
  exact Finset.sum_congr rfl fun i _ => by
    rw [div_right_comm _ (Spec.pi (Pc 0) k), ← sub_div, div_div, div_mul_eq_mul_div]

/- the hypotheses of `mmd_ova_hasDerivAt` are satisfiable (identity affinity) -/
example : ∃ (P : Fin 2 → Fin 2 → ℝ) (κ : Fin 2 → Fin 2 → ℝ), Interior (1 / 10) P ∧ (∀ i j, κ i j = κ j i) ∧
    ∀ k, 0 < mmdDeltaOva (1 / 10) P κ k :=
  ⟨exP, exK, exP_interior, exK_symm, exP_mmd_ova⟩

/-- TV one-vs-one: at interior points where no off-diagonal difference `π_a P_ib - π_b P_ia` vanishes
    (the score is differentiable there; the diagonal differences are identically 0 and contribute
    nothing) the returned gradient is the exact derivative of the score along every direction. -/
theorem tv_ovo_hasDerivAt {ε : ℝ} (P : Fin n → Fin K → ℝ) (hI : Interior ε P)
    (hne : ∀ i a b, a ≠ b → Spec.pi P a * P i b ≠ Spec.pi P b * P i a) (V : Fin n → Fin K → ℝ) :
    HasDerivAt (fun t : ℝ => tvScore ε true (fun i k => P i k + t * V i k))
      (∑ i, ∑ k, tvGrad ε true P i k * V i k) 0 := by
  refine hasDerivAt_of_interior tvScore_ovo_interior hI V fun Pc h0 hP => ?_
  subst h0
  have h1 : ∀ i a b, HasDerivAt
      (fun t => |Spec.pi (Pc t) a * Pc t i b - Spec.pi (Pc t) b * Pc t i a|)
      (tvSign (Pc 0) i a b * (Spec.pi V a * Pc 0 i b + Spec.pi (Pc 0) a * V i b
        - (Spec.pi V b * Pc 0 i a + Spec.pi (Pc 0) b * V i a))) 0 := fun i a b => by
    by_cases hab : a = b
    · subst hab
      simp only [sub_self, abs_zero, tvSign, sign_real_zero, zero_mul]
      exact hasDerivAt_const _ _
    · exact hasDerivAt_abs_sign
        (((hasDerivAt_pi_curve hP a).fun_mul (hP i b)).fun_sub ((hasDerivAt_pi_curve hP b).fun_mul (hP i a)))
        (sub_ne_zero.mpr (hne i a b hab))
  refine ((HasDerivAt.fun_sum fun a _ => HasDerivAt.fun_sum fun b _ =>
    (HasDerivAt.fun_sum fun i _ => h1 i a b).div_const _).const_mul _).congr_deriv ?_
  simp only [Finset.sum_div, mul_div_right_comm]
  rw [tv_ovo_algebra fun i a b => tvSign (Pc 0) i a b / n]
  refine (grad_sum_split _ _ _ V fun i k => ?_).symm
  rw [tvGrad_ovo_eq, clipP_of_interior hI, mean0_eq_pi, meanV_eq, clipMask_of_interior hI, mul_one]
  unfold tvSign
  ring

/- the hypotheses of `tv_ovo_hasDerivAt` are satisfiable -/
example : ∃ P : Fin 2 → Fin 2 → ℝ, Interior (1 / 10) P ∧
    ∀ i a b, a ≠ b → Spec.pi P a * P i b ≠ Spec.pi P b * P i a :=
  ⟨exP, exP_interior, exP_tv_ovo⟩

/-- MMD one-vs-one with a symmetric affinity: at interior points where every off-diagonal distance
    `delta[a,b]` is positive (the score is differentiable there; the diagonal distances are identically 0
    and contribute nothing) the returned gradient is the exact derivative of the score along every
    direction. -/
theorem mmd_ovo_hasDerivAt (hn : 0 < n) {ε : ℝ} (hε : 0 < ε) (P : Fin n → Fin K → ℝ) (hI : Interior ε P)
    (κ : Fin n → Fin n → ℝ) (hκ : ∀ i j, κ i j = κ j i)
    (hδ : ∀ a b, a ≠ b → 0 < mmdDeltaOvo ε P κ a b) (V : Fin n → Fin K → ℝ) :
    HasDerivAt (fun t : ℝ => mmdScore ε true (fun i k => P i k + t * V i k) κ)
      (∑ i, ∑ k, mmdGrad ε true P κ i k * V i k) 0 := by
  refine hasDerivAt_of_interior (fun hQ => mmdScore_ovo_div hQ hκ) hI V fun Pc h0 hP => ?_
  subst h0
  have hπ : ∀ k, Spec.pi (Pc 0) k ≠ 0 := fun k => (pi_pos hn (P_pos hε hI) k).ne'
  obtain ⟨D, hD⟩ : ∃ D : Fin n → Fin K → ℝ,
      ∀ i k, D i k = (V i k - Pc 0 i k / Spec.pi (Pc 0) k * Spec.pi V k) / Spec.pi (Pc 0) k := ⟨_, fun _ _ => rfl⟩
  have hα : ∀ i k, HasDerivAt (fun t => Pc t i k / Spec.pi (Pc t) k) (D i k) 0 := fun i k =>
    hD i k ▸ hasDerivAt_div_pi_curve hP i (hπ k)
  have h1 : ∀ a b, HasDerivAt (fun t => Spec.MMD κ (fun i => Pc t i a / Spec.pi (Pc t) a / n)
        (fun i => Pc t i b / Spec.pi (Pc t) b / n))
      (if a = b then 0 else
        (∑ i, (D i a - D i b) * (mmdGamma ε (Pc 0) κ i a - mmdGamma ε (Pc 0) κ i b)) / mmdDeltaOvo ε (Pc 0) κ a b) 0 :=
      fun a b => by
    by_cases hab : a = b
    · subst hab
      simp only [MMD_self, if_true]
      exact hasDerivAt_const _ _
    · have h := hasDerivAt_MMD_div hκ (fun i => hα i a) (fun i => hα i b)
        (by simpa only [← mmdDeltaOvo_div hI hκ a b] using hδ a b hab)
      rw [if_neg hab, mmdDeltaOvo_div hI hκ a b]
      simpa only [mmdGamma_apply, mmdAlpha_eq hI, mul_sub, Finset.sum_sub_distrib] using h
  refine (hasDerivAt_ovo hP h1 fun a b => MMD_comm κ _ _).congr_deriv ?_
  simp only [← mmdDeltaOvo_div hI hκ]
  rw [mmd_ovo_algebra _ (mmdDeltaOvo_symm ε (Pc 0) hκ), ← Finset.sum_add_distrib,
    grad_sum_split _ _ _ V (mmdGrad_ovo_interior hI κ)]
  refine Finset.sum_congr rfl fun k _ => ?_
  rw [Finset.sum_congr rfl fun b _ => show mmdDeltaOvo ε (Pc 0) κ k b * Spec.pi (Pc 0) b
      = Spec.pi (Pc 0) b * mmdDeltaOvo ε (Pc 0) κ b k by rw [mmdDeltaOvo_symm ε (Pc 0) hκ k b, mul_comm]]
  simp only [hD, sum_mul_alpha_deriv, mul_assoc, ← Finset.mul_sum]
  ring

/- the hypotheses of `mmd_ovo_hasDerivAt` are satisfiable (identity affinity) -/
example : ∃ (P : Fin 2 → Fin 2 → ℝ) (κ : Fin 2 → Fin 2 → ℝ), Interior (1 / 10) P ∧ (∀ i j, κ i j = κ j i) ∧
    ∀ a b, a ≠ b → 0 < mmdDeltaOvo (1 / 10) P κ a b :=
  ⟨exP, exK, exP_interior, exK_symm, exP_mmd_ovo⟩

end GemVerif.Props.C02
