/-
  C09 (continued) — the post-condition of `find_best_split` is proved, so the structural clauses of C09 hold for every
  run of the model's `fit` loop without any hypothesis on `find_best_split`.

  `Props/C09.lean` proves the clauses under `KauriC09.FindBestSplitSpec κ X p`: "whenever `findBestSplit` reports a
  positive gain in a state that satisfies the invariants, the reported split satisfies `SplitOK`".  Here that
  hypothesis is discharged for the number types ℝ (the target) and ℚ (what the exact differential check executes),
  with no extra hypothesis on the parameters (in particular `min_samples_leaf ≥ 1` is not needed: the scan never
  evaluates the last position and skips equal consecutive values, so both children are non-empty anyway).
  The proof (`Lemmas/KauriSpec.lean`) uses of the numbers only that `<=` is a total order whose symmetric part is `==`
  and that `0 < 0` is false; the kernel `κ` and the gain formulas are arbitrary.
-/
import GemVerif.Props.C09
import GemVerif.Lemmas.KauriSpec

namespace GemVerif.Props.C09Spec
open Model.Kauri KauriC09 KauriSpec

/-- The insertion sort that models `np.argsort` returns a permutation of its input, sorted by value (for ℝ). -/
theorem sortBy_sorted_perm (l : List (ℝ × Nat)) :
    (sortBy (fun x y => RealLike.le x y) l).Perm l ∧
      (sortBy (fun x y => RealLike.le x y) l).Pairwise (fun a b => a.1 ≤ b.1) := by
  refine ⟨sortBy_perm _ l, ?_⟩
  have h := sortBy_sorted (le' := fun x y : ℝ => RealLike.le x y) orderLaws_real.le_total orderLaws_real.le_trans l
  exact h.imp (fun h => by simpa using h)

/-- `compute_all_splits` either keeps the running best split or overwrites it with a split for the candidate it was
    called with (same leaf, feature, threshold) whose targets are one of: double star `(n_clusters, n_clusters+1)` if
    `n_clusters + 2 ≤ K_max`; star `(n_clusters, k)` / `(k, n_clusters)` if `n_clusters + 1 ≤ K_max`; switch or
    reallocation between two different existing clusters; and (`outside`) the leaf's cluster `k` is a target unless
    `n_leaf != cluster_sizes[k]`.  Holds for every number type (no order law is used). -/
theorem computeAllSplits_targets {α : Type} [RealLike α] (best : Split α) (c : Cand α) (hk : c.k < c.n_clusters) :
    computeAllSplits best c = best ∨
      CandSplit c (c.n_leaf ≠ c.cluster_sizes c.k) (computeAllSplits best c) :=
  computeAllSplits_ind (P := fun b => b = best ∨ CandSplit c (c.n_leaf ≠ c.cluster_sizes c.k) b) best hk id
    (Or.inl rfl) (fun _ hb => Or.inr hb)

/-- `find_best_split` meets its post-condition over ℝ: called in any state of the fit loop that satisfies the
    invariants, if it reports a positive gain then the reported split cuts a leaf that is to be explored, on a column
    index `≥ 0` (that it is a drawn feature is not part of `SplitOK`), at the feature value of a sample of that leaf,
    leaves at least `min_samples_leaf` and at least one sample on each side, and sends the two children to an
    admissible pair of different clusters that does not empty the cluster of the leaf (`SplitOK`).  No hypothesis on
    the kernel, the data or the parameters. -/
theorem findBestSplitSpec (κ X : Nat → Nat → ℝ) (p : Params) : FindBestSplitSpec κ X p :=
  findBestSplitSpec_of_laws orderLaws_real κ X p

/-- The same over ℚ, the number type on which the exact differential check runs the model. -/
theorem findBestSplitSpec_rat (κ X : Nat → Nat → ℚ) (p : Params) : FindBestSplitSpec κ X p :=
  findBestSplitSpec_of_laws orderLaws_rat κ X p

/-- Every state reached by the model's `fit` (any data with `n ≥ 1` rows, `min_samples_leaf ≤ n`, any kernel, any
    parameters, any recorded feature draws) satisfies all the invariants of C09. -/
theorem fit_invariant_unconditional {κ X : Nat → Nat → ℝ} {n : Nat} {p : Params} (hn : 1 ≤ n) (hmin : p.minLeaf ≤ n)
    (draws : List (List Nat)) : FullInv X p (fit κ X n p draws) :=
  C09.fit_invariant_of_spec hn hmin (findBestSplitSpec κ X p) draws

/-- `fit_invariant_unconditional` over ℚ. -/
theorem fit_invariant_unconditional_rat {κ X : Nat → Nat → ℚ} {n : Nat} {p : Params} (hn : 1 ≤ n)
    (hmin : p.minLeaf ≤ n) (draws : List (List Nat)) : FullInv X p (fit κ X n p draws) :=
  C09.fit_invariant_of_spec hn hmin (findBestSplitSpec_rat κ X p) draws

/-- `Props.C09.fitted_tree_limits` without `hspec`: for the fitted state of the model's `fit` under the natural
    parameter ranges of `Kauri` (`n ≥ 1`, `min_samples_leaf ≤ n`, `max_leaves, max_depth, max_clusters ≥ 1`): the tree
    has `2·leaves − 1` nodes, at most `max_leaves` leaves, depth at most `max_depth`, at most `max_clusters` clusters
    labelled contiguously from 0, every leaf holds at least `min_samples_leaf` samples, and `predict` on the training
    data reproduces `labels_`. -/
theorem fitted_tree_limits_unconditional {κ X : Nat → Nat → ℝ} {n : Nat} {p : Params} (hn : 1 ≤ n)
    (hmin : p.minLeaf ≤ n) (hL : 1 ≤ p.maxLeaves) (hD : 1 ≤ p.maxDepth) (hK : 1 ≤ p.maxClusters)
    (draws : List (List Nat)) :
    let s := fit κ X n p draws
    s.tree.nNodes = 2 * (leafNodes s.tree).length - 1 ∧ (leafNodes s.tree).length ≤ p.maxLeaves ∧
      (∀ k, k < s.tree.nNodes → s.tree.depths[k]! ≤ p.maxDepth) ∧ s.nClusters ≤ p.maxClusters ∧
      (∀ c, c ∈ s.labels ↔ c < s.nClusters) ∧
      (∀ l, l < s.nLeaves → p.minLeaf ≤ (s.asg.samplesOfLeaf l).length) ∧
      (List.range s.asg.n).map (fun i => s.tree.route (X i) (s.tree.nNodes + 1) 0) =
        s.labels.map fun (c : Nat) => (c : Int) :=
  C09.fitted_tree_limits hn hmin hL hD hK (findBestSplitSpec κ X p) draws

/-- `fitted_tree_limits_unconditional` over ℚ. -/
theorem fitted_tree_limits_unconditional_rat {κ X : Nat → Nat → ℚ} {n : Nat} {p : Params} (hn : 1 ≤ n)
    (hmin : p.minLeaf ≤ n) (hL : 1 ≤ p.maxLeaves) (hD : 1 ≤ p.maxDepth) (hK : 1 ≤ p.maxClusters)
    (draws : List (List Nat)) :
    let s := fit κ X n p draws
    s.tree.nNodes = 2 * (leafNodes s.tree).length - 1 ∧ (leafNodes s.tree).length ≤ p.maxLeaves ∧
      (∀ k, k < s.tree.nNodes → s.tree.depths[k]! ≤ p.maxDepth) ∧ s.nClusters ≤ p.maxClusters ∧
      (∀ c, c ∈ s.labels ↔ c < s.nClusters) ∧
      (∀ l, l < s.nLeaves → p.minLeaf ≤ (s.asg.samplesOfLeaf l).length) ∧
      (List.range s.asg.n).map (fun i => s.tree.route (X i) (s.tree.nNodes + 1) 0) =
        s.labels.map fun (c : Nat) => (c : Int) :=
  C09.fitted_tree_limits hn hmin hL hD hK (findBestSplitSpec_rat κ X p) draws

/-! The premise "positive reported gain" does occur. -/

/-- On three samples `X[i,0] = i` with the linear kernel `κ i j = i·j`, `find_best_split` called on the initial state
    reports gain `3/2 > 0`: the right star `{0} | {1, 2}` with threshold `X[0,0] = 0` and targets `(0, 1)`. -/
example :
    let b := findBestSplit (fun i j => (i : ℚ) * (j : ℚ)) Example.X (FitState.init 3 Example.p : FitState ℚ).toExplore
      (FitState.init 3 Example.p : FitState ℚ).asg 1 Example.p.maxClusters 1 Example.p.minLeaf [0]
    RealLike.lt 0 b.gain = true ∧ b.gain = 3 / 2 ∧ b.leaf = 0 ∧ b.left = 0 ∧ b.right = 1 ∧ b.feature = 0 ∧
      b.threshold = 0 := by
  decide +kernel

/-- ... and the model's `fit` applies it: on that data the loop ends with 2 leaves, 3 nodes, 2 clusters and labels
    `[0, 1, 1]` (the second iteration finds no positive gain). -/
example :
    let s := fit (fun i j => (i : ℚ) * (j : ℚ)) Example.X 3 Example.p [[0], [0], [0]]
    s.nLeaves = 2 ∧ s.tree.nNodes = 3 ∧ s.nClusters = 2 ∧ s.labels = [0, 1, 1] ∧ s.steps = 2 := by
  decide +kernel

end GemVerif.Props.C09Spec
