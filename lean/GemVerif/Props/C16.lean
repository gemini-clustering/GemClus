/-
  C16 — invalid hyperparameters and malformed inputs are rejected, never trained on.

  The extracted tables (`Gen.Constraints.estimators`, `Gen.Constraints.functions`: regenerated from /repo on every
  run) are compared with the hand-written documented domains (`Spec.Constraints.documented`, written from the
  docstrings, in `Lemmas/Constraints.lean`) under scikit-learn's validator semantics (`Model.Constraints.accepts`),
  over every (owner, parameter) and every representative value, by kernel evaluation of the whole tables.
  The run-time half of the property (what `fit` does with a value the table lets through, malformed data, calls
  before fit) is the harness' business; the lists `lateRejected`, `knownDeviations`, `unvalidated` that appear in
  the statements are re-confirmed entry by entry on the real code by every run.
-/
import GemVerif.Gen.Constraints
import GemVerif.Lemmas.Constraints

namespace GemVerif.Props.C16
open GemVerif.Model.Constraints GemVerif.Spec.Constraints GemVerif.Lemmas.Constraints

/-- the validators' environment: in-repo sets and class hierarchy are regenerated, scikit-learn's sets are listed -/
def env : Env := { sets := Gen.Constraints.namedSets ++ sklearnSets, ancestors := Gen.Constraints.ancestors }

/-- every translated row of a table: (owner, parameter, constraint list or `none`) -/
def rowsOf (t : List (String × List (String × Option (List Constraint)))) : List (String × String × Option (List Constraint)) :=
  t.flatMap fun (o, ps) => ps.map fun (p, r) => (o, p, r)

/-- rows of the 18 estimators -/
def estimatorRows := rowsOf Gen.Constraints.estimators
/-- rows of the GEMINI constructors and decorated functions -/
def functionRows := rowsOf Gen.Constraints.functions
def rows := estimatorRows ++ functionRows

/-- the representative values (hand-written ones, plus the neighbours of every extracted bound and every extracted option) -/
def values : List Value := repValues env (Gen.Constraints.estimators ++ Gen.Constraints.functions)

/-- (a) for one row and one value: inside the documented domain ⇒ the extracted table is satisfied (or a listed deviation) -/
def NoFalseRejection (r : String × String × Option (List Constraint)) (v : Value) : Prop :=
  docVerdict r.1 r.2.1 v = some .inDom → accepts env r.2.2 v = true ∨ (r.1, r.2.1, v) ∈ knownDeviations

/-- (b) for one row and one value: the extracted table is satisfied ⇒ not outside the documented domain, or a listed
    late rejection, or a parameter that has no usable table entry at all -/
def NoFalseAcceptance (r : String × String × Option (List Constraint)) (v : Value) : Prop :=
  accepts env r.2.2 v = true →
    docVerdict r.1 r.2.1 v ≠ some .outDom ∨ (r.1, r.2.1, v) ∈ lateRejected ∨ (r.1, r.2.1) ∈ unvalidated

instance (r v) : Decidable (NoFalseRejection r v) := by unfold NoFalseRejection; infer_instance
instance (r v) : Decidable (NoFalseAcceptance r v) := by unfold NoFalseAcceptance; infer_instance

/-- Every comparison of the two tables with the documentation as one decidable proposition, so that one kernel
    evaluation (`tables_agree`) evaluates the tables and their strings once.  The theorems below are its fields. -/
structure TablesAgree : Prop where
  /-- the same parameters on both sides -/
  translatedDocumented :
    keysIncluded (Gen.Constraints.estimators ++ Gen.Constraints.functions) documented = true
  documentedTranslated :
    keysIncluded documented (Gen.Constraints.estimators ++ Gen.Constraints.functions) = true
  /-- agreement on every representative value, in both directions and up to the listed exceptions
      (`Lemmas.Constraints.tableAgrees`) -/
  agree : tableAgrees env (repCandidates env (Gen.Constraints.estimators ++ Gen.Constraints.functions))
    (Gen.Constraints.estimators ++ Gen.Constraints.functions) = true
  /-- every listed late rejection is one: outside the documentation, accepted by the entry of its parameter (looked up,
      not searched for among the `rows`), and already among the hand-written values (`values` need not be computed) -/
  late : ∀ d ∈ lateRejected, d.2.2 ∈ baseUniverse ∧ docVerdict d.1 d.2.1 d.2.2 = some .outDom ∧
    (entryOf (Gen.Constraints.estimators ++ Gen.Constraints.functions) d.1 d.2.1).any (accepts env · d.2.2) = true
  /-- the unvalidated parameters are those without an entry -/
  noEntry : ∀ r ∈ rows, (r.2.2 = none ↔ (r.1, r.2.1) ∈ unvalidated)

instance : Decidable TablesAgree :=
  decidable_of_iff (_ ∧ _ ∧ _ ∧ _ ∧ _)
    ⟨fun ⟨a, b, c, d, e⟩ => ⟨a, b, c, d, e⟩,
     fun h => ⟨h.translatedDocumented, h.documentedTranslated, h.agree, h.late, h.noEntry⟩⟩

/-- The translated constraint tables agree with the documented ones (`TablesAgree`), by one kernel evaluation. -/
theorem tables_agree : TablesAgree := by
  decide +kernel

/-- The documentation and the code speak about the same parameters: every `__init__` / function parameter that the
    translator found is documented, and every documented parameter exists. -/
theorem documented_parameters_exist :
    (∀ r ∈ rows, (r.1, r.2.1) ∈ documentedKeys) ∧ (∀ k ∈ documentedKeys, k ∈ rows.map fun r => (r.1, r.2.1)) := by
  have hrows : rows.map (fun r => (r.1, r.2.1)) = keysOf (Gen.Constraints.estimators ++ Gen.Constraints.functions) := by
    simp [rows, estimatorRows, functionRows, rowsOf, keysOf, List.map_flatMap, Function.comp_def]
  exact ⟨fun r hr => of_keysIncluded tables_agree.translatedDocumented _ (hrows ▸ List.mem_map_of_mem hr),
    hrows ▸ of_keysIncluded tables_agree.documentedTranslated⟩

/-- Both directions for every row and every representative value: the `agree` field of `tables_agree`, read through
    `Lemmas.Constraints.of_tableAgrees`.  The four `no_false_*` theorems below are its halves on the two kinds of rows. -/
theorem rows_agree : ∀ r ∈ rows, ∀ v ∈ values, NoFalseRejection r v ∧ NoFalseAcceptance r v := by
  intro r hr v hv
  simp only [rows, estimatorRows, functionRows, rowsOf, ← List.flatMap_append, List.mem_flatMap, List.mem_map] at hr
  obtain ⟨op, hop, pc, hpc, rfl⟩ := hr
  exact of_tableAgrees tables_agree.agree op hop pc hpc v (mem_repValues.1 hv)

/-- (a) No false rejection, estimators.  For every parameter of every estimator and every representative value: a
    value inside the documented domain satisfies the extracted `_parameter_constraints` entry (`knownDeviations`,
    the explicit exception list, is empty). -/
theorem no_false_rejection_estimators : ∀ r ∈ estimatorRows, ∀ v ∈ values, NoFalseRejection r v :=
  fun r hr v hv => (rows_agree r (List.mem_append_left _ hr) v hv).1

/-- (a) No false rejection, GEMINI constructors and decorated functions. -/
theorem no_false_rejection_functions : ∀ r ∈ functionRows, ∀ v ∈ values, NoFalseRejection r v :=
  fun r hr v hv => (rows_agree r (List.mem_append_right _ hr) v hv).1

/-- the `knownDeviations` list is tight: every entry is a documented value that the extracted table rejects -/
theorem knownDeviations_are_deviations :
    ∀ d ∈ knownDeviations, ∃ r ∈ rows, r.1 = d.1 ∧ r.2.1 = d.2.1 ∧
      docVerdict d.1 d.2.1 d.2.2 = some .inDom ∧ accepts env r.2.2 d.2.2 = false := by
  decide +kernel

/-- (b) No false acceptance, estimators.  For every parameter of every estimator and every representative value: a
    value that satisfies the extracted table is not outside the documented domain — unless it is one of the explicitly
    listed `lateRejected` values (confirmed on every run to be rejected inside `fit` by a ValueError/TypeError), or the
    parameter is one of the `unvalidated` ones (no table entry: every out-of-domain value is left to the body). -/
theorem no_false_acceptance_estimators : ∀ r ∈ estimatorRows, ∀ v ∈ values, NoFalseAcceptance r v :=
  fun r hr v hv => (rows_agree r (List.mem_append_left _ hr) v hv).2

/-- (b) No false acceptance, GEMINI constructors and decorated functions. -/
theorem no_false_acceptance_functions : ∀ r ∈ functionRows, ∀ v ∈ values, NoFalseAcceptance r v :=
  fun r hr v hv => (rows_agree r (List.mem_append_right _ hr) v hv).2

/-- the `lateRejected` list is tight: every entry is a representative value that passes its table and is outside the
    documented domain -/
theorem lateRejected_pass_the_table :
    ∀ d ∈ lateRejected, ∃ r ∈ rows, r.1 = d.1 ∧ r.2.1 = d.2.1 ∧ d.2.2 ∈ values ∧
      docVerdict d.1 d.2.1 d.2.2 = some .outDom ∧ accepts env r.2.2 d.2.2 = true := by
  intro d hd
  obtain ⟨hv, hdoc, hacc⟩ := tables_agree.late d hd
  obtain ⟨c, hc, hacc⟩ := (Option.any_eq_true _ _).1 hacc
  obtain ⟨ps, hps, hpc⟩ := mem_of_entryOf hc
  refine ⟨(d.1, d.2.1, c), ?_, rfl, rfl, mem_repValues.2 (List.mem_append_left _ (List.mem_append_left _ hv)), hdoc, hacc⟩
  simp only [rows, estimatorRows, functionRows, rowsOf, ← List.flatMap_append, List.mem_flatMap, List.mem_map]
  exact ⟨_, hps, _, hpc, rfl⟩

/-- `unvalidated` is exactly the set of parameters without a table entry -/
theorem unvalidated_are_the_rows_without_entry :
    ∀ r ∈ rows, (r.2.2 = none ↔ (r.1, r.2.1) ∈ unvalidated) :=
  tables_agree.noEntry

/-- every key of a `@constraint_params` table names a parameter of the decorated function (until /repo commit 37cb7b8
    the keys `"must-link"`, `"cannot-link"` of `add_mlcl_constraint`, spelt with a hyphen, validated nothing) -/
theorem decorator_keys_name_parameters : Gen.Constraints.deadKeys = [] := by
  decide +kernel

/-- every string set used by a table is either defined in the repository or one of the listed scikit-learn sets -/
theorem string_sets_resolved :
    ∀ nm ∈ Gen.Constraints.externalSets, nm ∈ sklearnSets.map (·.1) := by
  decide +kernel

/-- The translated `check_groups` (regenerated from gemclus/sparse/_base_sparse.py on every run) is, term for term,
    the function the statements below are proved about. -/
theorem checkGroups_translation : Gen.Constraints.checkGroups = Model.Constraints.checkGroups := rfl

/-- (c) For all group lists and all numbers of features: when every index is a feature index (`0 ≤ i < d`) and no
    index occurs twice (`Legal`), `check_groups` returns the user's groups, in their order, followed by one singleton
    per unmentioned feature, and the result is a partition of `range d` (its concatenation is a permutation of
    `0, …, d-1`); in every other case it raises.  `None` is passed through. -/
theorem checkGroups_characterisation (groups : Groups) (d : Nat) :
    (Legal groups d →
        Gen.Constraints.checkGroups (some groups) d = .ok (some (completion groups d)) ∧
        (completion groups d).flatten.Perm (pyRange d)) ∧
    (¬ Legal groups d → ∃ e, Gen.Constraints.checkGroups (some groups) d = .error e) ∧
    Gen.Constraints.checkGroups none d = .ok none := by
  rw [checkGroups_translation]
  exact ⟨fun h => ⟨by rw [checkGroups_eq, if_pos h], completion_partition groups d h⟩,
         fun h => ⟨_, by rw [checkGroups_eq, if_neg h]⟩, rfl⟩

/-- the hypotheses of (c) are satisfiable in both directions, including the empty partial list (accepted since /repo
    commit a36587a) and a group list that already covers every feature -/
example : Legal [[2, 0]] 4 ∧ Legal [] 3 ∧ Legal [[]] 2 ∧ Legal [[1], [0, 2]] 3 ∧ ¬ Legal [[0, 0]] 2 ∧ ¬ Legal [[0], [3]] 3 ∧
    ¬ Legal [[-1]] 3 ∧ completion [[2, 0]] 4 = [[2, 0], [1], [3]] := by decide

/-- (d) Kauri's consistency test, as translated from `Kauri.fit`, raises exactly when the documented condition
    "`min_samples_leaf`*2 <= `min_samples_split`" fails. -/
theorem kauri_inequality (min_samples_leaf min_samples_split : Int) :
    Gen.Constraints.kauriRejects min_samples_leaf min_samples_split = false ↔ 2 * min_samples_leaf ≤ min_samples_split := by
  simp only [Gen.Constraints.kauriRejects, decide_eq_false_iff_not]
  omega

/-- (d) Douglas' mask test, as translated from `Douglas._init_params`, raises exactly when the mask does not have one
    entry per feature ("array of boolean [shape d]"). -/
theorem douglas_mask_length (len_feature_mask n_features : Int) :
    Gen.Constraints.douglasMaskRejects len_feature_mask n_features = false ↔ len_feature_mask = n_features := by
  simp [Gen.Constraints.douglasMaskRejects]

end GemVerif.Props.C16
