/-
  C19 — the printed KAURI tree is a faithful description of the fitted tree.

  `Tree.printNode` (Model/Kauri.lean) is the line-by-line model of `print_kauri_tree.print_node`; the harness
  compares it character for character with the captured stdout of the real function.  Here: every printed string
  determines its structured line, a recursive-descent reader (depth-directed, as `harness/props/c19.py::parse_rules`)
  turns the lines into nested rules, and applying the rules to a point is `Tree.route` (= `Tree.predict` on one row):
  `print_parse_eval`.  The same starting from the output as one string (`print_parse_eval_text`), and with the label
  and threshold readers derived from distinctness (`print_parse_eval_distinct`).

  Trusted (stated as hypotheses): Python's `repr(float)` round-trips (`ReadBack.thr` / `ThrDistinct`) and contains
  neither blank nor newline (`ThrNoBlank`, `NoNewline`).  Feature labels are arbitrary strings (blanks, `<=`, `| `
  allowed); only a newline inside a label is excluded, and only for the one-string statement.
-/
import GemVerif.Lemmas.KauriC19

namespace GemVerif.Props.C19
open Model.Kauri KauriC19

variable {α : Type} [RealLike α]
set_option linter.unusedSectionVars false

/-- A leaf prints exactly its node line and its cluster line. -/
theorem print_leaf {α : Type} [RealLike α] (t : Tree α) (sh : α → String) (nm : Int → String) (fuel node : Nat)
    (h : t.left[node]! = -1) :
    t.printNode sh nm (fuel + 1) node =
      [rep "| " (t.depths[node]!) ++ s!"Node {node}",
       rep "| " (t.depths[node]!) ++ " " ++ s!"Cluster: {t.target[node]!}"] :=
  printNode_leaf t sh nm fuel h

/-- The printer model emits exactly the renderings of the structured lines `printLines` (any tree, any fuel). -/
theorem print_eq_render (t : Tree α) (sh : α → String) (nm : Int → String) (fuel node : Nat) :
    t.printNode sh nm fuel node = (printLines t sh nm fuel node).map Line.render := by
  induction fuel generalizing node with
  | zero => rfl
  | succ k ih =>
    by_cases h : t.left[node]! = -1
    · rw [printNode_leaf t sh nm k h, printLines_leaf t sh nm k h]
      rfl
    · rw [printNode_node t sh nm k h, printLines_node t sh nm k h, ih, ih]
      simp only [List.map_append, List.map_cons, List.map_nil]

/-- A printed string determines its line: `Line.read` (count the leading `"| "`, look at the next characters,
    cut the rule at its last blank) recovers depth, kind and all fields, for any feature label whatsoever, provided
    the threshold text contains no blank. -/
theorem read_render_line (l : Line) (h : l.ThrNoBlank) : Line.read l.render = some l :=
  read_render l h

/-- Reading the printed strings of a well-formed tree back gives its structured lines. -/
theorem read_print {t : Tree α} (ht : WellFormed t) {sh : α → String} (hnb : ThrNoBlank t sh) (nm : Int → String)
    (fuel node : Nat) (hnode : node < t.nNodes) :
    readLines (t.printNode sh nm fuel node) = some (printLines t sh nm fuel node) := by
  rw [print_eq_render]
  exact readLines_map_render _ (printLines_thrNoBlank ht hnb nm fuel node hnode)

/-- The reader turns the printed lines of the subtree of `node`, followed by anything, into the rules of that subtree
    and leaves the rest unread: the printed text is a set of properly nested rules. -/
theorem parse_print_prefix {t : Tree α} (ht : WellFormed t) (sh : α → String) (nm : Int → String)
    (fuel node : Nat) (hnode : node < t.nNodes) (hfuel : t.nNodes ≤ fuel + node) (rest : List Line)
    (f : Nat) (hf : (printLines t sh nm fuel node).length ≤ f) :
    parseAt f (t.depths[node]!) (printLines t sh nm fuel node ++ rest) = some (rulesOf t sh nm fuel node, rest) := by
  revert fuel node rest f
  refine ht.fuel_induction ?_ ?_
  · intro k n _ hl rest f hf
    rw [printLines_leaf t sh nm k hl] at hf ⊢
    obtain ⟨f, rfl⟩ : ∃ f', f = f' + 1 := ⟨f - 1, by have : 2 ≤ f := hf; omega⟩
    simp [rulesOf_leaf t sh nm (k + 1) hl, parseAt]
  · intro k n _ hl hi ihL ihR rest f hf
    rw [printLines_node t sh nm k hl] at hf ⊢
    rw [rulesOf_node t sh nm k hl]
    simp only [List.length_append, List.length_cons, List.length_nil] at hf
    obtain ⟨f, rfl⟩ : ∃ f', f = f' + 1 := ⟨f - 1, by omega⟩
    have ihL := ihL (Line.gt (t.depths[n]!) (nm (featAt t n)) (thrStr t sh n)
      :: (printLines t sh nm k (t.right[n]!).toNat ++ rest)) f (by omega)
    have ihR := ihR rest f (by omega)
    rw [hi.depth_left] at ihL
    rw [hi.depth_right] at ihR
    simp only [List.cons_append, List.nil_append, List.append_assoc, parseAt, and_self, if_true]
    rw [ihL]
    simp only [and_self, if_true]
    rw [ihR]

/-- The whole printed tree is read as one rule tree, `rulesOf t`, with nothing left over. -/
theorem parse_print {t : Tree α} (ht : WellFormed t) (sh : α → String) (nm : Int → String)
    (fuel : Nat) (hfuel : t.nNodes ≤ fuel) :
    parse (printLines t sh nm fuel 0) = some (rulesOf t sh nm fuel 0) := by
  have h := parse_print_prefix ht sh nm fuel 0 ht.pos (by omega) [] (printLines t sh nm fuel 0).length
    (Nat.le_refl _)
  rw [ht.root_depth, List.append_nil] at h
  simp [parse, h]

/-- Applying the rules of the tree to a point is routing the point through the tree, when printed labels are read
    back to the column / the value they were printed from. -/
theorem rules_eval {t : Tree α} (ht : WellFormed t) {sh : α → String} {nm : Int → String}
    {colOf : String → Nat} {readThr : String → α} (hrb : ReadBack t sh nm colOf readThr) (x : Nat → α)
    (fuel node : Nat) (hnode : node < t.nNodes) (hfuel : t.nNodes ≤ fuel + node) :
    evalRules colOf readThr x (rulesOf t sh nm fuel node) = t.route x fuel node := by
  revert fuel node
  refine ht.fuel_induction ?_ ?_
  · intro k n _ hl
    rw [rulesOf_leaf t sh nm (k + 1) hl, KauriC09.route_leaf t x (k + 1) n hl]
    rfl
  · intro k n hn hl hi ihL ihR
    obtain ⟨v, hv⟩ := Option.isSome_iff_exists.mp hi.thr_some
    have hthr : readThr (thrStr t sh n) = v := by
      rw [thrStr_of_some hv]
      exact hrb.thr n hn hl v hv
    rw [rulesOf_node t sh nm k hl, KauriC09.route_node x k hl hv, evalRules, hrb.col n hn hl, hthr, ihL, ihR]
    rfl

/-- **C19.**  For every well-formed tree and every point `x`: reading the printed text back (`parseText`: strings →
    lines → nested rules) and applying the rules to `x` gives the cluster `predict` assigns to `x`.
    `sh` is the rendering of thresholds, `nm f` the label of feature `f` (the user's `feature_names[f]` or the
    default); `ReadBack` says that `readThr` inverts `sh` on the thresholds of the tree (Python's `repr(float)`
    round-trips: trusted) and that `colOf` maps the label of each used feature to its column (possible when the labels
    of used features are pairwise distinct, see `print_parse_eval_distinct`). -/
theorem print_parse_eval {t : Tree α} (ht : WellFormed t) {sh : α → String} {nm : Int → String}
    {colOf : String → Nat} {readThr : String → α} (hrb : ReadBack t sh nm colOf readThr)
    (hnb : ThrNoBlank t sh) (x : Nat → α) (fuel : Nat) (hfuel : t.nNodes ≤ fuel) :
    (parseText (t.printNode sh nm fuel 0)).map (evalRules colOf readThr x) = some (t.route x fuel 0) := by
  rw [parseText, read_print ht hnb nm fuel 0 ht.pos, Option.bind_some, parse_print ht sh nm fuel hfuel,
    Option.map_some, rules_eval ht hrb x fuel 0 ht.pos (by omega)]

/-- Cutting the printed text (every line followed by a newline, as `print` writes it) at newlines gives back the
    printed lines, when no label contains a newline. -/
theorem split_print {t : Tree α} (ht : WellFormed t) {sh : α → String} {nm : Int → String}
    (hnl : NoNewline t sh nm) (fuel node : Nat) (hnode : node < t.nNodes) :
    splitLines (textOf (t.printNode sh nm fuel node)) = t.printNode sh nm fuel node := by
  apply splitLines_textOf
  rw [print_eq_render]
  intro s hs
  obtain ⟨l, hl, rfl⟩ := List.mem_map.mp hs
  exact render_noNewline l (printLines_noNewline ht hnl fuel node hnode l hl)

/-- **C19 on the text as one string.**  `textOf (t.printNode …)` is what `print_kauri_tree` writes to stdout;
    `parseString` cuts it at newlines, reads every line, and reads the nested rules. -/
theorem print_parse_eval_text {t : Tree α} (ht : WellFormed t) {sh : α → String} {nm : Int → String}
    {colOf : String → Nat} {readThr : String → α} (hrb : ReadBack t sh nm colOf readThr)
    (hnb : ThrNoBlank t sh) (hnl : NoNewline t sh nm) (x : Nat → α) (fuel : Nat) (hfuel : t.nNodes ≤ fuel) :
    (parseString (textOf (t.printNode sh nm fuel 0))).map (evalRules colOf readThr x)
      = some (t.route x fuel 0) := by
  rw [parseString, split_print ht hnl fuel 0 ht.pos]
  exact print_parse_eval ht hrb hnb x fuel hfuel

/-- The same statement on structured lines (no assumption on the threshold text). -/
theorem print_parse_eval_lines {t : Tree α} (ht : WellFormed t) {sh : α → String} {nm : Int → String}
    {colOf : String → Nat} {readThr : String → α} (hrb : ReadBack t sh nm colOf readThr)
    (x : Nat → α) (fuel : Nat) (hfuel : t.nNodes ≤ fuel) :
    (parse (printLines t sh nm fuel 0)).map (evalRules colOf readThr x) = some (t.route x fuel 0) := by
  rw [parse_print ht sh nm fuel hfuel, Option.map_some, rules_eval ht hrb x fuel 0 ht.pos (by omega)]

/-- When the labels of the used features are pairwise distinct and different thresholds print differently, the
    printed text alone fixes how labels are read (`colOfTree`, `readThrTree`: look the label up among the printed
    rules). -/
theorem readBack_distinct {t : Tree α} {sh : α → String} {nm : Int → String}
    (hn : NamesDistinct t nm) (hth : ThrDistinct t sh) :
    ReadBack t sh nm (colOfTree t nm) (readThrTree t sh) :=
  ⟨fun n hlt hne v hv => by rw [← thrStr_of_some (sh := sh) hv, readThrTree_thrStr hth hlt hne, hv]; rfl,
    fun _ hlt hne => colOfTree_name hn hlt hne⟩

/-- **C19**, with the readers derived from distinctness of labels and of printed thresholds. -/
theorem print_parse_eval_distinct {t : Tree α} (ht : WellFormed t) {sh : α → String} {nm : Int → String}
    (hn : NamesDistinct t nm) (hth : ThrDistinct t sh) (hnb : ThrNoBlank t sh) (x : Nat → α) (fuel : Nat)
    (hfuel : t.nNodes ≤ fuel) :
    (parseText (t.printNode sh nm fuel 0)).map (evalRules (colOfTree t nm) (readThrTree t sh) x)
      = some (t.route x fuel 0) :=
  print_parse_eval ht (readBack_distinct hn hth) hnb x fuel hfuel

/-- The default labels `X[:, f]` (used when `feature_names` is `None`) are pairwise distinct, for any tree. -/
theorem default_names_distinct (t : Tree α) : NamesDistinct t (fun f => s!"X[:, {f}]") := by
  intro n m _ _ _ _ h
  simpa [toString_str, Int.repr_inj] using h

/-- Labels taken from a list without repetition (`feature_names[f]`) are pairwise distinct on the features the tree
    uses, when the list is long enough for them. -/
theorem user_names_distinct (t : Tree α) (names : Array String) (hnd : names.toList.Nodup)
    (hlen : ∀ n, n < t.nNodes → t.left[n]! ≠ -1 → 0 ≤ featAt t n ∧ (featAt t n).toNat < names.size) :
    NamesDistinct t (fun f => names[f.toNat]!) := by
  intro n m hn hm hln hlm h
  obtain ⟨h0, h1⟩ := hlen n hn hln
  obtain ⟨h2, h3⟩ := hlen m hm hlm
  have := userName_injective names hnd h1 h3 h
  omega

/-- The tree `fit` starts from is well formed. -/
theorem wellFormed_init : WellFormed (Tree.init : Tree α) := KauriC19.wellFormed_init

set_option linter.unusedVariables false in
/-- `Tree._add_child` keeps the tree well formed (any existing father, any split with a feature index ≥ 0).  That
    every tree `Kauri.fit` builds satisfies the hypothesis of `print_parse_eval` is proved from the loop invariant:
    `Props.C18.fitted_tree_well_formed`.  (`hf` is not used: with a father out of range the model's `set!` changes
    nothing and the two new nodes are leaves.) -/
theorem wellFormed_addChild {t : Tree α} (ht : WellFormed t) {father : Nat} (hf : father < t.nNodes)
    (s : Split α) (hfeat : 0 ≤ s.feature) : WellFormed (t.addChild father s) :=
  KauriC19.wellFormed_addChild ht father s hfeat

/-! The hypotheses are satisfiable: the 3-node tree `KauriC19.Example.tree` over `Rat`
    (root: feature 2 ≤ 1/2, left leaf → cluster 0, right leaf → cluster 1; printed with the default labels) -/

section Example
open KauriC19.Example

/-- `print_parse_eval` on this tree: the printed text, read back, sends `x` to cluster 0 when `x₂ ≤ 1/2` and to
    cluster 1 otherwise -/
example (x : Nat → Rat) :
    (parseText (tree.printNode sh nm 3 0)).map (evalRules colOf readThr x) = some (if x 2 ≤ 1/2 then 0 else 1) := by
  rw [print_parse_eval wf readBack noBlank x 3 (Nat.le_refl 3), route_eq]

/-- the same through the one-string text -/
example (x : Nat → Rat) :
    (parseString (textOf (tree.printNode sh nm 3 0))).map (evalRules colOf readThr x)
      = some (if x 2 ≤ 1/2 then 0 else 1) := by
  rw [print_parse_eval_text wf readBack noBlank noNewline x 3 (Nat.le_refl 3), route_eq]

/-- the distinctness hypotheses of `print_parse_eval_distinct` hold too (a single rule) -/
example : NamesDistinct tree nm ∧ ThrDistinct tree sh := by
  constructor
  · intro n m hn hm hln hlm _
    rw [internal_zero hn hln, internal_zero hm hlm]
  · intro n m hn hm hln hlm _
    rw [internal_zero hn hln, internal_zero hm hlm]

end Example

end GemVerif.Props.C19
