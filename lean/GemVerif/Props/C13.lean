/-
  C13 — invariances and bounds of the GEMINI scores (f-divergences and MMD; Wasserstein in `Props/C13Wass.lean`).
  The bounds are proved for the distances of the specification, then for `Spec.ova` / `Spec.ovo`, and reach the model
  scores through the `score = spec` theorems of C01.  The permutation and appended-cluster theorems and the KL / TV /
  MMD cases of sample-independent predictions need no hypothesis on `P` (interior or not, row-stochastic or not):
  clipping commutes with relabelling.
-/
import GemVerif.Lemmas.GeminiC13
import GemVerif.Props.C01

namespace GemVerif.Props.C13
open Model Spec GemVerif.C13

variable {n K : ℕ}

/-- KL score (OvA = `mi`, and OvO) is invariant under a reordering of the samples. -/
theorem kl_sample_perm (ε : ℝ) (ovo : Bool) (P : Fin n → Fin K → ℝ) (σ : Equiv.Perm (Fin n)) :
    klScore ε ovo (fun i k => P (σ i) k) = klScore ε ovo P :=
  klScore_reindex ε ovo P σ (Equiv.refl _)

/-- TV score is invariant under a reordering of the samples. -/
theorem tv_sample_perm (ε : ℝ) (ovo : Bool) (P : Fin n → Fin K → ℝ) (σ : Equiv.Perm (Fin n)) :
    tvScore ε ovo (fun i k => P (σ i) k) = tvScore ε ovo P :=
  tvScore_reindex ε ovo P σ (Equiv.refl _)

/-- Hellinger score is invariant under a reordering of the samples. -/
theorem hellinger_sample_perm (ε : ℝ) (ovo : Bool) (P : Fin n → Fin K → ℝ) (σ : Equiv.Perm (Fin n)) :
    hellingerScore ε ovo (fun i k => P (σ i) k) = hellingerScore ε ovo P :=
  hellingerScore_reindex ε ovo P σ (Equiv.refl _)

/-- Chi-square score is invariant under a reordering of the samples. -/
theorem chi2_sample_perm (ε : ℝ) (ovo : Bool) (P : Fin n → Fin K → ℝ) (σ : Equiv.Perm (Fin n)) :
    chi2Score ε ovo (fun i k => P (σ i) k) = chi2Score ε ovo P :=
  chi2Score_reindex ε ovo P σ (Equiv.refl _)

/-- MMD score is invariant under a reordering of the samples applied consistently to the
    predictions and to the rows and columns of the affinity (any `κ`, symmetric or not). -/
theorem mmd_sample_perm (ε : ℝ) (ovo : Bool) (P : Fin n → Fin K → ℝ) (κ : Fin n → Fin n → ℝ)
    (σ : Equiv.Perm (Fin n)) :
    mmdScore ε ovo (fun i k => P (σ i) k) (fun i j => κ (σ i) (σ j)) = mmdScore ε ovo P κ :=
  mmdScore_reindex ε ovo P κ σ (Equiv.refl _)

/-- KL gradient is permuted along with the samples. -/
theorem kl_grad_sample_perm (ε : ℝ) (ovo : Bool) (P : Fin n → Fin K → ℝ) (σ : Equiv.Perm (Fin n))
    (i : Fin n) (k : Fin K) :
    klGrad ε ovo (fun i k => P (σ i) k) i k = klGrad ε ovo P (σ i) k :=
  klGrad_reindex ε ovo P σ (Equiv.refl _) i k

/-- TV gradient is permuted along with the samples. -/
theorem tv_grad_sample_perm (ε : ℝ) (ovo : Bool) (P : Fin n → Fin K → ℝ) (σ : Equiv.Perm (Fin n))
    (i : Fin n) (k : Fin K) :
    tvGrad ε ovo (fun i k => P (σ i) k) i k = tvGrad ε ovo P (σ i) k :=
  tvGrad_reindex ε ovo P σ (Equiv.refl _) i k

/-- Hellinger gradient is permuted along with the samples. -/
theorem hellinger_grad_sample_perm (ε : ℝ) (ovo : Bool) (P : Fin n → Fin K → ℝ)
    (σ : Equiv.Perm (Fin n)) (i : Fin n) (k : Fin K) :
    hellingerGrad ε ovo (fun i k => P (σ i) k) i k = hellingerGrad ε ovo P (σ i) k :=
  hellingerGrad_reindex ε ovo P σ (Equiv.refl _) i k

/-- Chi-square gradient is permuted along with the samples. -/
theorem chi2_grad_sample_perm (ε : ℝ) (ovo : Bool) (P : Fin n → Fin K → ℝ) (σ : Equiv.Perm (Fin n))
    (i : Fin n) (k : Fin K) :
    chi2Grad ε ovo (fun i k => P (σ i) k) i k = chi2Grad ε ovo P (σ i) k :=
  chi2Grad_reindex ε ovo P σ (Equiv.refl _) i k

/-- MMD gradient is permuted along with the samples (affinity rows and columns permuted too). -/
theorem mmd_grad_sample_perm (ε : ℝ) (ovo : Bool) (P : Fin n → Fin K → ℝ) (κ : Fin n → Fin n → ℝ)
    (σ : Equiv.Perm (Fin n)) (i : Fin n) (k : Fin K) :
    mmdGrad ε ovo (fun i k => P (σ i) k) (fun i j => κ (σ i) (σ j)) i k = mmdGrad ε ovo P κ (σ i) k :=
  mmdGrad_reindex ε ovo P κ σ (Equiv.refl _) i k

/-- KL score is invariant under a relabelling of the clusters. -/
theorem kl_cluster_perm (ε : ℝ) (ovo : Bool) (P : Fin n → Fin K → ℝ) (τ : Equiv.Perm (Fin K)) :
    klScore ε ovo (fun i k => P i (τ k)) = klScore ε ovo P :=
  klScore_reindex ε ovo P (Equiv.refl _) τ

/-- TV score is invariant under a relabelling of the clusters. -/
theorem tv_cluster_perm (ε : ℝ) (ovo : Bool) (P : Fin n → Fin K → ℝ) (τ : Equiv.Perm (Fin K)) :
    tvScore ε ovo (fun i k => P i (τ k)) = tvScore ε ovo P :=
  tvScore_reindex ε ovo P (Equiv.refl _) τ

/-- Hellinger score is invariant under a relabelling of the clusters. -/
theorem hellinger_cluster_perm (ε : ℝ) (ovo : Bool) (P : Fin n → Fin K → ℝ) (τ : Equiv.Perm (Fin K)) :
    hellingerScore ε ovo (fun i k => P i (τ k)) = hellingerScore ε ovo P :=
  hellingerScore_reindex ε ovo P (Equiv.refl _) τ

/-- Chi-square score is invariant under a relabelling of the clusters. -/
theorem chi2_cluster_perm (ε : ℝ) (ovo : Bool) (P : Fin n → Fin K → ℝ) (τ : Equiv.Perm (Fin K)) :
    chi2Score ε ovo (fun i k => P i (τ k)) = chi2Score ε ovo P :=
  chi2Score_reindex ε ovo P (Equiv.refl _) τ

/-- MMD score is invariant under a relabelling of the clusters. -/
theorem mmd_cluster_perm (ε : ℝ) (ovo : Bool) (P : Fin n → Fin K → ℝ) (κ : Fin n → Fin n → ℝ)
    (τ : Equiv.Perm (Fin K)) :
    mmdScore ε ovo (fun i k => P i (τ k)) κ = mmdScore ε ovo P κ :=
  mmdScore_reindex ε ovo P κ (Equiv.refl _) τ

/-- KL gradient columns are permuted along with the clusters. -/
theorem kl_grad_cluster_perm (ε : ℝ) (ovo : Bool) (P : Fin n → Fin K → ℝ) (τ : Equiv.Perm (Fin K))
    (i : Fin n) (k : Fin K) :
    klGrad ε ovo (fun i k => P i (τ k)) i k = klGrad ε ovo P i (τ k) :=
  klGrad_reindex ε ovo P (Equiv.refl _) τ i k

/-- TV gradient columns are permuted along with the clusters. -/
theorem tv_grad_cluster_perm (ε : ℝ) (ovo : Bool) (P : Fin n → Fin K → ℝ) (τ : Equiv.Perm (Fin K))
    (i : Fin n) (k : Fin K) :
    tvGrad ε ovo (fun i k => P i (τ k)) i k = tvGrad ε ovo P i (τ k) :=
  tvGrad_reindex ε ovo P (Equiv.refl _) τ i k

/-- Hellinger gradient columns are permuted along with the clusters. -/
theorem hellinger_grad_cluster_perm (ε : ℝ) (ovo : Bool) (P : Fin n → Fin K → ℝ)
    (τ : Equiv.Perm (Fin K)) (i : Fin n) (k : Fin K) :
    hellingerGrad ε ovo (fun i k => P i (τ k)) i k = hellingerGrad ε ovo P i (τ k) :=
  hellingerGrad_reindex ε ovo P (Equiv.refl _) τ i k

/-- Chi-square gradient columns are permuted along with the clusters. -/
theorem chi2_grad_cluster_perm (ε : ℝ) (ovo : Bool) (P : Fin n → Fin K → ℝ) (τ : Equiv.Perm (Fin K))
    (i : Fin n) (k : Fin K) :
    chi2Grad ε ovo (fun i k => P i (τ k)) i k = chi2Grad ε ovo P i (τ k) :=
  chi2Grad_reindex ε ovo P (Equiv.refl _) τ i k

/-- MMD gradient columns are permuted along with the clusters. -/
theorem mmd_grad_cluster_perm (ε : ℝ) (ovo : Bool) (P : Fin n → Fin K → ℝ) (κ : Fin n → Fin n → ℝ)
    (τ : Equiv.Perm (Fin K)) (i : Fin n) (k : Fin K) :
    mmdGrad ε ovo (fun i k => P i (τ k)) κ i k = mmdGrad ε ovo P κ i (τ k) :=
  mmdGrad_reindex ε ovo P κ (Equiv.refl _) τ i k

/-- Gibbs' inequality: `KL(p ‖ q) ≥ 0` for a probability vector `p` and a positive probability
    vector `q` (entries of `p` may vanish: `0 · log 0 = 0`). -/
theorem KL_nonneg {p q : Fin n → ℝ} (hp : ∀ i, 0 ≤ p i) (hp1 : ∑ i, p i = 1)
    (hq : ∀ i, 0 < q i) (hq1 : ∑ i, q i = 1) : 0 ≤ Spec.KL p q := by
  -- termwise `p - q ≤ p log (p / q)`, from `1 - x⁻¹ ≤ log x` at `x = p / q`
  have key : ∀ i, p i - q i ≤ p i * Real.log (p i / q i) := fun i => by
    rcases (hp i).eq_or_lt with h | h
    · rw [← h, zero_mul, zero_sub]; exact neg_nonpos.2 (hq i).le
    · have h1 := mul_le_mul_of_nonneg_left (Real.one_sub_inv_le_log_of_pos (div_pos h (hq i))) h.le
      rwa [inv_div, mul_sub, mul_one, mul_div_cancel₀ _ h.ne'] at h1
  have := Finset.sum_le_sum fun i (_ : i ∈ Finset.univ) => key i
  rwa [Finset.sum_sub_distrib, hp1, hq1, sub_self] at this

/-- `0 ≤ TV(p, q) ≤ 1` for probability vectors. -/
theorem TV_bounds {p q : Fin n → ℝ} (hp : ∀ i, 0 ≤ p i) (hp1 : ∑ i, p i = 1)
    (hq : ∀ i, 0 ≤ q i) (hq1 : ∑ i, q i = 1) : 0 ≤ Spec.TV p q ∧ Spec.TV p q ≤ 1 :=
  ⟨TV_nonneg p q, TV_le_one hp hp1 hq hq1⟩

/-- `0 ≤ H²(p, q) ≤ 1` for probability vectors (`Σ √(p q) ≤ 1` by AM-GM). -/
theorem H2_bounds {p q : Fin n → ℝ} (hp : ∀ i, 0 ≤ p i) (hp1 : ∑ i, p i = 1)
    (hq : ∀ i, 0 ≤ q i) (hq1 : ∑ i, q i = 1) : 0 ≤ Spec.H2 p q ∧ Spec.H2 p q ≤ 1 :=
  ⟨H2_nonneg hp hp1 hq hq1, H2_le_one p q⟩

/-- `χ²(p ‖ q) ≥ 0` whenever `q ≥ 0`. -/
theorem chi2_nonneg {p q : Fin n → ℝ} (hq : ∀ i, 0 ≤ q i) : 0 ≤ Spec.chi2 p q :=
  Finset.sum_nonneg fun i _ => div_nonneg (sq_nonneg _) (hq i)

/-- `MMD_κ(p, q) ≥ 0` for every affinity. -/
theorem MMD_nonneg (κ : Fin n → Fin n → ℝ) (p q : Fin n → ℝ) : 0 ≤ Spec.MMD κ p q :=
  Real.sqrt_nonneg _

/-! The bounds of the five distances in the form `ova_nonneg_of` … `ovo_le_one_of` (Lemmas/GeminiC13.lean) take: on
  positive probability vectors, which is what `Spec.cond` and `Spec.unif` are for a positive matrix. -/

/-- `KL ≥ 0` on positive probability vectors (`KL_nonneg`). -/
theorem KL_boundedBelow : BoundedBelow (Spec.KL (n := n)) := fun _ _ hp hp1 hq hq1 =>
  KL_nonneg (fun i => (hp i).le) hp1 hq hq1

/-- `TV ≥ 0` (for all vectors). -/
theorem TV_boundedBelow : BoundedBelow (Spec.TV (n := n)) := fun p q _ _ _ _ => TV_nonneg p q

/-- `H² ≥ 0` on positive probability vectors (`H2_nonneg`). -/
theorem H2_boundedBelow : BoundedBelow (Spec.H2 (n := n)) := fun _ _ hp hp1 hq hq1 =>
  H2_nonneg (fun i => (hp i).le) hp1 (fun i => (hq i).le) hq1

/-- `χ² ≥ 0` for a positive second argument (`chi2_nonneg`). -/
theorem chi2_boundedBelow : BoundedBelow (Spec.chi2 (n := n)) := fun _ _ _ _ hq _ =>
  chi2_nonneg fun i => (hq i).le

/-- `MMD_κ ≥ 0` for every affinity (`MMD_nonneg`). -/
theorem MMD_boundedBelow (κ : Fin n → Fin n → ℝ) : BoundedBelow (Spec.MMD κ) := fun p q _ _ _ _ => MMD_nonneg κ p q

/-- `TV ≤ 1` on positive probability vectors (`TV_le_one`). -/
theorem TV_boundedAbove : BoundedAbove (Spec.TV (n := n)) := fun _ _ hp hp1 hq hq1 =>
  TV_le_one (fun i => (hp i).le) hp1 (fun i => (hq i).le) hq1

/-- `H² ≤ 1` (for all vectors). -/
theorem H2_boundedAbove : BoundedAbove (Spec.H2 (n := n)) := fun p q _ _ _ _ => H2_le_one p q

/-- For positive predictions every documented OvA and OvO GEMINI (KL, TV, H², χ², MMD) is
    non-negative.  (No row-sum hypothesis is needed: `p(x|k)` and `p(x)` are probability vectors
    as soon as `P > 0`.) -/
theorem spec_scores_nonneg {P : Fin n → Fin K → ℝ} (hP : ∀ i k, 0 < P i k) (κ : Fin n → Fin n → ℝ) :
    (0 ≤ Spec.ova Spec.KL P ∧ 0 ≤ Spec.ovo Spec.KL P) ∧
    (0 ≤ Spec.ova Spec.TV P ∧ 0 ≤ Spec.ovo Spec.TV P) ∧
    (0 ≤ Spec.ova Spec.H2 P ∧ 0 ≤ Spec.ovo Spec.H2 P) ∧
    (0 ≤ Spec.ova Spec.chi2 P ∧ 0 ≤ Spec.ovo Spec.chi2 P) ∧
    (0 ≤ Spec.ova (Spec.MMD κ) P ∧ 0 ≤ Spec.ovo (Spec.MMD κ) P) :=
  ⟨⟨ova_nonneg_of KL_boundedBelow hP, ovo_nonneg_of KL_boundedBelow hP⟩,
    ⟨ova_nonneg_of TV_boundedBelow hP, ovo_nonneg_of TV_boundedBelow hP⟩,
    ⟨ova_nonneg_of H2_boundedBelow hP, ovo_nonneg_of H2_boundedBelow hP⟩,
    ⟨ova_nonneg_of chi2_boundedBelow hP, ovo_nonneg_of chi2_boundedBelow hP⟩,
    ⟨ova_nonneg_of (MMD_boundedBelow κ) hP, ovo_nonneg_of (MMD_boundedBelow κ) hP⟩⟩

/-- For positive row-stochastic predictions the TV and Hellinger GEMINIs (OvA and OvO) never
    exceed 1 (`Σ_k π_k = 1`, `Σ_ab π_a π_b = 1`). -/
theorem spec_tv_hellinger_le_one {P : Fin n → Fin K → ℝ} (hP : ∀ i k, 0 < P i k)
    (hrow : ∀ i, ∑ k, P i k = 1) :
    (Spec.ova Spec.TV P ≤ 1 ∧ Spec.ovo Spec.TV P ≤ 1) ∧
    (Spec.ova Spec.H2 P ≤ 1 ∧ Spec.ovo Spec.H2 P ≤ 1) :=
  ⟨⟨ova_le_one_of TV_boundedAbove hP hrow, ovo_le_one_of TV_boundedAbove hP hrow⟩,
    ⟨ova_le_one_of H2_boundedAbove hP hrow, ovo_le_one_of H2_boundedAbove hP hrow⟩⟩

/-- Model KL scores are non-negative on the open region (OvA for every interior `P`, OvO for
    interior row-stochastic `P`). -/
theorem klScore_nonneg (hn : 0 < n) {ε : ℝ} (hε : 0 < ε) (P : Fin n → Fin K → ℝ) (hI : Interior ε P) :
    0 ≤ klScore ε false P ∧ ((∀ i, ∑ k, P i k = 1) → 0 ≤ klScore ε true P) := by
  refine ⟨?_, fun hrow => ?_⟩
  · rw [C01.kl_ova_eq_spec hn hε P hI]
    exact ova_nonneg_of KL_boundedBelow (P_pos hε hI)
  · rw [C01.kl_ovo_eq_spec hn hε P hI hrow]
    exact ovo_nonneg_of KL_boundedBelow (P_pos hε hI)

/-- Model TV scores lie in `[0, 1]` on the open region (row-stochastic `P` for the upper bound). -/
theorem tvScore_bounds (hn : 0 < n) {ε : ℝ} (hε : 0 < ε) (ovo : Bool) (P : Fin n → Fin K → ℝ)
    (hI : Interior ε P) :
    0 ≤ tvScore ε ovo P ∧ ((∀ i, ∑ k, P i k = 1) → tvScore ε ovo P ≤ 1) := by
  have hP := P_pos hε hI
  cases ovo
  · rw [C01.tv_ova_eq_spec hn hε P hI]
    exact ⟨ova_nonneg_of TV_boundedBelow hP, ova_le_one_of TV_boundedAbove hP⟩
  · rw [C01.tv_ovo_eq_spec hn hε P hI]
    exact ⟨ovo_nonneg_of TV_boundedBelow hP, ovo_le_one_of TV_boundedAbove hP⟩

/-- Model Hellinger scores lie in `[0, 1]` for interior row-stochastic `P`. -/
theorem hellingerScore_bounds (hn : 0 < n) {ε : ℝ} (hε : 0 < ε) (ovo : Bool) (P : Fin n → Fin K → ℝ)
    (hI : Interior ε P) (hrow : ∀ i, ∑ k, P i k = 1) :
    0 ≤ hellingerScore ε ovo P ∧ hellingerScore ε ovo P ≤ 1 := by
  have hP := P_pos hε hI
  cases ovo
  · rw [C01.hellinger_ova_eq_spec hn hε P hI hrow]
    exact ⟨ova_nonneg_of H2_boundedBelow hP, ova_le_one_of H2_boundedAbove hP hrow⟩
  · rw [C01.hellinger_ovo_eq_spec hn hε P hI hrow]
    exact ⟨ovo_nonneg_of H2_boundedBelow hP, ovo_le_one_of H2_boundedAbove hP hrow⟩

/-- Model chi-square scores are at least the offset `1/2` for interior row-stochastic `P`
    (the code value is `(χ² + 1)/2`). -/
theorem chi2Score_ge_half (hn : 0 < n) {ε : ℝ} (hε : 0 < ε) (ovo : Bool) (P : Fin n → Fin K → ℝ)
    (hI : Interior ε P) (hrow : ∀ i, ∑ k, P i k = 1) :
    1 / 2 ≤ chi2Score ε ovo P := by
  have hP := P_pos hε hI
  cases ovo
  · rw [C01.chi2_ova_eq_spec hn hε P hI hrow]
    exact div_le_div_of_nonneg_right (le_add_of_nonneg_left (ova_nonneg_of chi2_boundedBelow hP)) zero_le_two
  · rw [C01.chi2_ovo_eq_spec hn hε P hI hrow]
    exact div_le_div_of_nonneg_right (le_add_of_nonneg_left (ovo_nonneg_of chi2_boundedBelow hP)) zero_le_two

/-- Model MMD scores are non-negative on the whole closed simplex — indeed for every real matrix
    `P` and every affinity — as soon as `0 ≤ ε ≤ 1/2`. -/
theorem mmdScore_nonneg {ε : ℝ} (h0 : 0 ≤ ε) (h1 : ε ≤ 1 / 2) (ovo : Bool) (P : Fin n → Fin K → ℝ)
    (κ : Fin n → Fin n → ℝ) : 0 ≤ mmdScore ε ovo P κ := by
  have hπ := mean0_nonneg (clipP_nonneg h0 (h1.trans (by norm_num)) P)
  cases ovo
  · rw [mmdScore_ova]
    exact Finset.sum_nonneg fun k _ => mul_nonneg (hπ k) (mmdDeltaOva_nonneg ε P κ k)
  · rw [mmdScore_ovo]
    exact Finset.sum_nonneg fun a _ => mul_nonneg (hπ a)
      (Finset.sum_nonneg fun b _ => mul_nonneg (mmdDeltaOvo_nonneg ε P κ a b) (hπ b))

/-- Model TV scores are non-negative for every real matrix `P` and every `ε`. -/
theorem tvScore_nonneg (ε : ℝ) (ovo : Bool) (P : Fin n → Fin K → ℝ) : 0 ≤ tvScore ε ovo P := by
  cases ovo
  · rw [tvScore_ova_eq]
    exact mul_nonneg (by norm_num) (Finset.sum_nonneg fun k _ => meanV_nonneg fun i => abs_nonneg _)
  · rw [tvScore_ovo_eq]
    exact mul_nonneg (by norm_num) (Finset.sum_nonneg fun a _ => Finset.sum_nonneg fun b _ =>
      meanV_nonneg fun i => abs_nonneg _)

/-- KL (OvA = MI, and OvO) vanishes when the predictions do not depend on the sample — for every
    such `P`, interior or not, and every `ε`. -/
theorem kl_indep_zero (ε : ℝ) (ovo : Bool) {P : Fin n → Fin K → ℝ} (h : ∀ i j k, P i k = P j k) :
    klScore ε ovo P = 0 := by
  rcases Nat.eq_zero_or_pos n with rfl | hn
  · exact klScore_empty ε ovo P
  · cases ovo <;> simp only [klScore_ova_eq, klScore_ovo_eq]
    all_goals
      rw [indep_eq_const hn (clipP_indep (ε := ε) h)]
      simp only [mean0_const hn, meanV_const hn, sub_self]

/-- TV vanishes when the predictions do not depend on the sample (any `P`, any `ε`). -/
theorem tv_indep_zero (ε : ℝ) (ovo : Bool) {P : Fin n → Fin K → ℝ} (h : ∀ i j k, P i k = P j k) :
    tvScore ε ovo P = 0 := by
  rcases Nat.eq_zero_or_pos n with rfl | hn
  · exact tvScore_empty ε ovo P
  · cases ovo <;> simp only [tvScore_ova_eq, tvScore_ovo_eq]
    all_goals
      rw [indep_eq_const hn (clipP_indep (ε := ε) h)]
      generalize clipP ε P ⟨0, hn⟩ = c
      have hc : ∀ a b, c a * c b - c b * c a = 0 := fun a b => by ring
      simp only [mean0_const hn, meanV_const hn, hc, sub_self, abs_zero, Finset.sum_const_zero, mul_zero]

/-- MMD vanishes when the predictions do not depend on the sample (any `P`, any `ε`, any affinity,
    symmetric or not). -/
theorem mmd_indep_zero (ε : ℝ) (ovo : Bool) {P : Fin n → Fin K → ℝ} (κ : Fin n → Fin n → ℝ)
    (h : ∀ i j k, P i k = P j k) : mmdScore ε ovo P κ = 0 := by
  rcases Nat.eq_zero_or_pos n with rfl | hn
  · exact mmdScore_empty ε ovo P κ
  -- a column of non-zero proportion has `alpha = 1`; one of proportion 0 contributes nothing
  have hal : ∀ k, mean0 (clipP ε P) k ≠ 0 → ∀ i, mmdAlpha ε P i k = 1 := fun k hk =>
    mmdAlpha_of_const hn (fun i j => h i j k) hk
  cases ovo
  · rw [mmdScore_ova]
    exact sum_pi_mul_eq_zero fun k hk => mmdDeltaOva_eq_zero ε P κ (hal k hk)
  · rw [mmdScore_ovo]
    exact sum_pi_mul_sum_eq_zero fun a b ha hb =>
      mmdDeltaOvo_eq_zero ε P κ fun i => (hal a ha i).trans (hal b hb i).symm

/-- Hellinger vanishes when interior row-stochastic predictions do not depend on the sample.
    (Without the row sums the value is `1 - Σ_k c_k`, resp. `1 - (Σ_k c_k)²`; with `n = 0` it is 1.) -/
theorem hellinger_indep_zero (hn : 0 < n) {ε : ℝ} (hε : 0 ≤ ε) (ovo : Bool) {P : Fin n → Fin K → ℝ}
    (hI : Interior ε P) (hrow : ∀ i, ∑ k, P i k = 1) (h : ∀ i j k, P i k = P j k) :
    hellingerScore ε ovo P = 0 := by
  have hs : ∀ i, ∑ k, Real.sqrt (P i k * Spec.pi P k) = 1 := fun i => by
    simp only [pi_of_indep hn h i, Real.sqrt_mul_self (hε.trans (hI.lo i _).le), hrow]
  cases ovo <;> simp only [hellingerScore_ova_eq, hellingerScore_ovo_eq, clipP_of_interior hI, mean0_eq_pi, hs,
    one_pow, meanV_const hn, sub_self]

/-- Chi-square equals its offset `1/2` when interior row-stochastic predictions do not depend on
    the sample. -/
theorem chi2_indep_half (hn : 0 < n) {ε : ℝ} (hε : 0 ≤ ε) (ovo : Bool) {P : Fin n → Fin K → ℝ}
    (hI : Interior ε P) (hrow : ∀ i, ∑ k, P i k = 1) (h : ∀ i j k, P i k = P j k) :
    chi2Score ε ovo P = 1 / 2 := by
  have hc : ∀ i k, P i k / Spec.pi P k = 1 := fun i k => by
    rw [pi_of_indep hn h i, div_self (hε.trans_lt (hI.lo i k)).ne']
  cases ovo <;> simp only [chi2Score_ova_eq, chi2Score_ovo_eq, clipP_of_interior hI, mean0_eq_pi, hc, mul_one,
    div_one, hrow, sum_pi_eq_one hn hrow, meanV_const hn]

/-- The hypotheses of the `…_indep_…` theorems (and of the bounds) are satisfiable: a 2 × 2 interior row-stochastic
    matrix whose rows coincide. -/
example : ∃ P : Fin 2 → Fin 2 → ℝ, Interior (1 / 4) P ∧ (∀ i, ∑ k, P i k = 1) ∧
    (∀ i j k, P i k = P j k) ∧ ∀ i k, 0 < P i k := by
  refine ⟨fun _ _ => 1 / 2, fun _ _ => ⟨by norm_num, by norm_num⟩, fun _ => ?_, fun _ _ _ => rfl,
    fun _ _ => by norm_num⟩
  rw [Fin.sum_univ_two]
  norm_num

/-- The mutual information (KL one-vs-all) of a balanced hard `K`-partition of `n` samples is
    `log K`, with the convention `0 · log 0 = 0` (which is `Real.log 0 = 0`).  Spec level: the hard
    assignment matrix lies on the boundary of the simplex, where the code value differs from this
    by the clipping slack. -/
theorem mi_balanced_partition (hn : 0 < n) (hK : 0 < K) (hdvd : K ∣ n) (lab : Fin n → Fin K)
    (hbal : ∀ k, (Finset.univ.filter (fun i => lab i = k)).card = n / K) :
    Spec.ova Spec.KL (fun i k => if lab i = k then (1 : ℝ) else 0) = Real.log K := by
  obtain ⟨m, rfl⟩ := hdvd
  have hKR : (K : ℝ) ≠ 0 := Nat.cast_ne_zero.2 hK.ne'
  have hmR : (m : ℝ) ≠ 0 := Nat.cast_ne_zero.2 (Nat.pos_of_mul_pos_left hn).ne'
  simp only [Nat.mul_div_cancel_left m hK] at hbal
  have hsum : ∀ k, ∑ i, (if lab i = k then (1:ℝ) else 0) = m := fun k => by
    rw [Finset.sum_boole, hbal k]
  -- every cluster has proportion `1 / K`, so `p(x|k)` is `1 / m` on the cluster and 0 off it
  have hpi : ∀ k, Spec.pi (fun i k => if lab i = k then (1:ℝ) else 0) k = 1 / K := fun k => by
    rw [Spec.pi, hsum, Nat.cast_mul, div_mul_cancel_right₀ hmR, one_div]
  have hcond : ∀ k i, Spec.cond (fun i k => if lab i = k then (1:ℝ) else 0) k i
      = (if lab i = k then 1 else 0) / m := fun k i => by
    rw [Spec.cond, hpi, Nat.cast_mul, mul_one_div, mul_div_cancel_left₀ _ hKR]
  have hr : (1:ℝ) / m / (1 / ((K * m : ℕ) : ℝ)) = K := by
    rw [Nat.cast_mul, div_div_eq_mul_div, div_one, one_div_mul_eq_div, mul_div_cancel_right₀ _ hmR]
  -- each sample of the cluster contributes `(1 / m) log ((1 / m) / (1 / n)) = log K / m`
  have hKL : ∀ k, Spec.KL (Spec.cond (fun i k => if lab i = k then (1:ℝ) else 0) k) (Spec.unif (K * m))
      = Real.log K := fun k => by
    have hterm : ∀ i : Fin (K * m), (if lab i = k then (1:ℝ) else 0) / m *
        Real.log ((if lab i = k then (1:ℝ) else 0) / m / (1 / ((K * m : ℕ) : ℝ)))
          = (if lab i = k then (1:ℝ) else 0) * (Real.log K / m) := fun i => by
      split_ifs
      · rw [hr, one_mul, one_div_mul_eq_div]
      · rw [zero_div, zero_mul, zero_mul]
    simp only [Spec.KL, Spec.unif, hcond, hterm]
    rw [← Finset.sum_mul, hsum, mul_div_cancel₀ _ hmR]
  simp only [Spec.ova, hpi, hKL]
  rw [Fin.sum_const, nsmul_eq_mul, ← mul_assoc, mul_one_div_cancel hKR, one_mul]

/-- The hypotheses of `mi_balanced_partition` are satisfiable: four samples, two classes of two. -/
example : ∃ lab : Fin 4 → Fin 2, ∀ k, (Finset.univ.filter (fun i => lab i = k)).card = 4 / 2 :=
  ⟨fun i => ⟨i.val % 2, Nat.mod_lt _ (by norm_num)⟩, by decide⟩

/-! Appending an empty cluster.  `addEmpty P` is `P` with an extra last column of zeros.  After clipping that column is
the constant `ε`, so the new "cluster" has proportion `ε`, not 0: KL (both modes), TV OvA and MMD OvA are exactly
unchanged, the others change by the explicit `O(ε)` terms of the statements (the literal claim "unchanged" is false for
them at the level of the code, by about `1e-12` for the default `ε`). -/

/-- KL (OvA = MI, and OvO): unchanged, for every `P` and `ε`. -/
theorem kl_add_empty (ε : ℝ) (ovo : Bool) (P : Fin n → Fin K → ℝ) :
    klScore ε ovo (addEmpty P) = klScore ε ovo P := by
  rcases Nat.eq_zero_or_pos n with rfl | hn
  · rw [klScore_empty, klScore_empty]
  · cases ovo <;> simp only [klScore_ova_eq, klScore_ovo_eq, Fin.sum_univ_castSucc, clipP_addEmpty_castSucc,
      clipP_addEmpty_last, mean0_addEmpty_castSucc, mean0_addEmpty_last hn, meanV_const hn,
      add_sub_add_right_eq_sub]

/-- TV OvA: unchanged; TV OvO: increases by `2 ε · TV_OvA`. -/
theorem tv_add_empty {ε : ℝ} (h0 : 0 ≤ ε) (h1 : ε ≤ 1 / 2) (P : Fin n → Fin K → ℝ) :
    tvScore ε false (addEmpty P) = tvScore ε false P ∧
    tvScore ε true (addEmpty P) = tvScore ε true P + 2 * ε * tvScore ε false P := by
  rcases Nat.eq_zero_or_pos n with rfl | hn
  · simp only [tvScore_empty, mul_zero, add_zero, and_self]
  constructor
  · simp only [tvScore_ova_eq, Fin.sum_univ_castSucc, clipP_addEmpty_castSucc, clipP_addEmpty_last,
      mean0_addEmpty_castSucc, mean0_addEmpty_last hn, sub_self, abs_zero, meanV_const hn, add_zero]
  · -- the pairs (a, new) and (new, b) each give `ε ·` the one-vs-all term, the pair (new, new) gives 0
    have e : ∀ x y : ℝ, |x * ε - ε * y| = ε * |y - x| := fun x y => by
      rw [abs_sub_comm, abs_mul_sub_mul h0]
    simp only [tvScore_ova_eq, tvScore_ovo_eq, Fin.sum_univ_castSucc, clipP_addEmpty_castSucc,
      clipP_addEmpty_last, mean0_addEmpty_castSucc, mean0_addEmpty_last hn, clip_zero h0 h1, e,
      abs_mul_sub_mul h0, sub_self, abs_zero, meanV_const_mul, meanV_const hn, add_zero, Finset.sum_add_distrib,
      ← Finset.mul_sum]
    ring

/-- Hellinger OvA decreases by `ε`; OvO by `2 ε (1 - H_OvA) + ε²`. -/
theorem hellinger_add_empty (hn : 0 < n) {ε : ℝ} (h0 : 0 ≤ ε) (h1 : ε ≤ 1 / 2) (P : Fin n → Fin K → ℝ) :
    hellingerScore ε false (addEmpty P) = hellingerScore ε false P - ε ∧
    hellingerScore ε true (addEmpty P)
      = hellingerScore ε true P - 2 * ε * (1 - hellingerScore ε false P) - ε ^ 2 := by
  constructor
  · simp only [hellingerScore_ova_eq, Fin.sum_univ_castSucc, clipP_addEmpty_castSucc, clipP_addEmpty_last,
      mean0_addEmpty_castSucc, mean0_addEmpty_last hn, clip_zero h0 h1, Real.sqrt_mul_self h0, meanV_add,
      meanV_const hn]
    ring
  · -- Normal form of both sides: every sum over `Fin (K+1)` is split into the old columns (entries and means of `P`)
    -- and the last one (the constant `ε`, `√(ε·ε) = ε`), the square of `est + ε` is expanded and the constants are
    -- pulled out of the sample means; what is left is an identity between polynomials in `ε` and the two means.
    simp only [hellingerScore_ova_eq, hellingerScore_ovo_eq, Fin.sum_univ_castSucc, clipP_addEmpty_castSucc,
      clipP_addEmpty_last, mean0_addEmpty_castSucc, mean0_addEmpty_last hn, clip_zero h0 h1,
      Real.sqrt_mul_self h0, add_sq, meanV_add, meanV_mul_const, meanV_const_mul, meanV_const hn]
    ring

/-- Chi-square OvA increases by `ε / 2`; OvO by the explicit `O(ε)` term shown. -/
theorem chi2_add_empty (hn : 0 < n) {ε : ℝ} (h0 : 0 < ε) (h1 : ε ≤ 1 / 2) (P : Fin n → Fin K → ℝ) :
    chi2Score ε false (addEmpty P) = chi2Score ε false P + ε / 2 ∧
    chi2Score ε true (addEmpty P)
      = chi2Score ε true P + ε * chi2Score ε false P
        + ε / 2 * meanV (fun i => sumFin fun k =>
            mean0 (clipP ε P) k / (clipP ε P i k / mean0 (clipP ε P) k))
        + ε ^ 2 / 2 := by
  constructor
  · simp only [chi2Score_ova_eq, Fin.sum_univ_castSucc, clipP_addEmpty_castSucc, clipP_addEmpty_last,
      mean0_addEmpty_castSucc, mean0_addEmpty_last hn, clip_zero h0.le h1, div_self h0.ne', mul_one, meanV_add,
      meanV_const hn]
    ring
  · -- same normal form as for Hellinger; the last column has `p / π = ε / ε = 1`, so it adds `ε` to the first factor
    -- and `ε` to the second
    simp only [chi2Score_ova_eq, chi2Score_ovo_eq, sumFin_eq_sum, Fin.sum_univ_castSucc, clipP_addEmpty_castSucc,
      clipP_addEmpty_last, mean0_addEmpty_castSucc, mean0_addEmpty_last hn, clip_zero h0.le h1, div_self h0.ne',
      mul_one, div_one, add_mul, mul_add, meanV_add, meanV_mul_const, meanV_const_mul, meanV_const hn]
    ring

/-- MMD OvA: unchanged (any affinity); MMD OvO: increases by `2 ε · MMD_OvA` (symmetric affinity). -/
theorem mmd_add_empty {ε : ℝ} (h0 : 0 ≤ ε) (h1 : ε ≤ 1 / 2) (P : Fin n → Fin K → ℝ)
    (κ : Fin n → Fin n → ℝ) :
    mmdScore ε false (addEmpty P) κ = mmdScore ε false P κ ∧
    ((∀ i j, κ i j = κ j i) →
      mmdScore ε true (addEmpty P) κ = mmdScore ε true P κ + 2 * ε * mmdScore ε false P κ) := by
  refine ⟨?_, fun hκ => by rw [mmdScore_ovo_addEmpty ε P κ hκ, clip_zero h0 h1]⟩
  rcases Nat.eq_zero_or_pos n with rfl | hn
  · rw [mmdScore_empty, mmdScore_empty]
  simp only [mmdScore_ova, Fin.sum_univ_castSucc, mean0_addEmpty_castSucc, mmdDeltaOva_addEmpty_castSucc,
    add_eq_left]
  exact mul_eq_zero_of_ne_zero_imp_eq_zero fun he => mmdDeltaOva_eq_zero ε _ κ (mmdAlpha_addEmpty_last hn P he)

/-- The appended empty cluster receives zero gradient, in all five classes and both modes. -/
theorem grad_add_empty_zero {ε : ℝ} (hε : 0 ≤ ε) (ovo : Bool) (P : Fin n → Fin K → ℝ)
    (κ : Fin n → Fin n → ℝ) (i : Fin n) :
    klGrad ε ovo (addEmpty P) i (Fin.last K) = 0 ∧
    tvGrad ε ovo (addEmpty P) i (Fin.last K) = 0 ∧
    hellingerGrad ε ovo (addEmpty P) i (Fin.last K) = 0 ∧
    chi2Grad ε ovo (addEmpty P) i (Fin.last K) = 0 ∧
    mmdGrad ε ovo (addEmpty P) κ i (Fin.last K) = 0 := by
  have h : addEmpty P i (Fin.last K) ≤ ε ∨ 1 - ε ≤ addEmpty P i (Fin.last K) :=
    Or.inl ((addEmpty_last P i).trans_le hε)
  cases ovo <;> exact ⟨eq_zero_of_mul_clipMask h rfl, eq_zero_of_mul_clipMask h rfl,
    eq_zero_of_mul_clipMask h rfl, eq_zero_of_mul_clipMask h rfl, eq_zero_of_mul_clipMask h rfl⟩

/-- For `0 < ε ≤ 1/2`, `n > 0` and *every* real matrix `P` (in particular one-hot rows), the
    clipped predictions and their column means lie in `[ε, 1-ε]`; hence every quantity the code
    divides by, takes the logarithm of, or takes the square root of (`p`, `π`, `√(p π)`, `p / π`)
    is strictly positive: none of the totalised values `x / 0`, `log 0` of ℝ is ever used by these operations.
    (The statement is over ℝ and says nothing about rounding.  The MMD gradient's only other divisor,
    `delta + mask`, is guarded by the code's explicit `delta == 0` test.) -/
theorem closed_simplex_guards (hn : 0 < n) {ε : ℝ} (h0 : 0 < ε) (h1 : ε ≤ 1 / 2) (P : Fin n → Fin K → ℝ)
    (i : Fin n) (k : Fin K) :
    (ε ≤ clipP ε P i k ∧ clipP ε P i k ≤ 1 - ε) ∧
    (ε ≤ mean0 (clipP ε P) k ∧ mean0 (clipP ε P) k ≤ 1 - ε) ∧
    0 < Real.sqrt (clipP ε P i k * mean0 (clipP ε P) k) ∧
    0 < clipP ε P i k / mean0 (clipP ε P) k := by
  have hp := clipP_mem h1 P i k
  have hm := mean0_mem hn (clipP_mem h1 P) k
  have hp0 : 0 < clipP ε P i k := lt_of_lt_of_le h0 hp.1
  have hm0 : 0 < mean0 (clipP ε P) k := lt_of_lt_of_le h0 hm.1
  exact ⟨hp, hm, Real.sqrt_pos.mpr (mul_pos hp0 hm0), div_pos hp0 hm0⟩

end GemVerif.Props.C13
