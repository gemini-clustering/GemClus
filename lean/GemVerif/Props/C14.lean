/-
  C14 — must-link / cannot-link constraints (`gemclus/mlcl.py`): exact validation, right samples, right sign.

  The model has one switch, `nodeKey fixed`: what a BFS node of `_check_structural_constraint` is
  compared with the entries of a cannot-link pair.  `fixed = true` (`acceptsFixed`): the sample index
  `unique_indices[node]` — for this acceptor the property is proved (`acceptor_iff`).
  `fixed = false` (`acceptsCurrent`): the node number itself, as in the source before /repo commit 592eb31 —
  for this one the property is refuted (`acceptsCurrent_not_spec`).  The harness decides on every run
  which of the two the source in /repo is, by comparing both with the real function.
-/
import GemVerif.Lemmas.Mlcl

namespace GemVerif.Props.C14
open GemVerif GemVerif.Model.Mlcl GemVerif.Spec.Mlcl GemVerif.MlclLemmas Relation

/-- The graph-reachability primitive that stands for scipy's `breadth_first_order(M, s,
    directed=False)` returns exactly the nodes `< n` in the connected component of `s`
    (equivalence closure of "`M a b` is set"). -/
theorem bfs_is_component (n : ℕ) (M : ℕ → ℕ → Bool) (s v : ℕ) :
    v ∈ bfsReach n M s ↔ v < n ∧ EqvGen (fun a b => a < n ∧ b < n ∧ M a b = true) s v :=
  bfsReach_spec n M s v

/-- What `_check_structural_constraint` decides, for either comparison key: it returns (does not
    raise) iff in no connected component of the position graph two distinct positions `i ≠ j` match a
    cannot-link pair through `nodeKey`.  In particular the `while` loop visits every component and its
    fuel never runs out. -/
theorem structural_decides (fixed : Bool) (uniq : List ℤ) (ML CL : List Pair) :
    structural fixed uniq ML CL = true ↔
      ∀ t, t < uniq.length → ∀ i j, i ≠ j →
        i ∈ bfsReach uniq.length (connMatrix uniq ML) t → j ∈ bfsReach uniq.length (connMatrix uniq ML) t →
        ∀ p ∈ CL, clash (nodeKey fixed uniq) i j p = false :=
  structural_iff fixed uniq ML CL

/-- **Exact validation, for whatever enumeration `list(set(...))` produces.**  With sample indices
    compared with sample indices, `add_mlcl_constraint` accepts lists of integer pairs `ML`, `CL`
    iff nobody is paired with itself and no cannot-link pair lies inside a connected component of the
    must-link graph — for arbitrary (negative, non-contiguous, unordered, repeated) sample indices and
    any list `uniq` that contains the must-link end points. -/
theorem acceptor_iff_any_order (uniq : List ℤ) (ML CL : List Pair)
    (hU : ∀ q ∈ ML, q.1 ∈ uniq ∧ q.2 ∈ uniq) :
    acceptsWith true uniq ML CL = true ↔ SpecOK ML CL := by
  unfold acceptsWith SpecOK
  rw [beq_iff_eq, checkLinking_fixed uniq ML CL hU, (verdict_chain _ _ _).1]
  simp only [List.forall_mem_append, not_exists, not_and, ne_eq, and_assoc]

/-- **Exact validation** (`acceptsFixed` = the acceptor above on the canonical enumeration). -/
theorem acceptor_iff (ML CL : List Pair) : acceptsFixed ML CL = true ↔ SpecOK ML CL :=
  acceptor_iff_any_order _ ML CL (dedup_endpoints_cover ML)

/-- The verdict of the intended acceptor does not depend on the order in which CPython enumerates
    the set of must-link end points. -/
theorem acceptor_order_irrelevant (uniq uniq' : List ℤ) (ML CL : List Pair)
    (hU : ∀ q ∈ ML, q.1 ∈ uniq ∧ q.2 ∈ uniq) (hU' : ∀ q ∈ ML, q.1 ∈ uniq' ∧ q.2 ∈ uniq') :
    acceptsWith true uniq ML CL = acceptsWith true uniq' ML CL :=
  Bool.eq_iff_iff.2 ((acceptor_iff_any_order uniq ML CL hU).trans (acceptor_iff_any_order uniq' ML CL hU').symm)

/-- Which error is reported: "Triangular contradiction" exactly when there is no self pair and some
    cannot-link pair is must-link-connected. -/
theorem contradiction_iff (ML CL : List Pair) :
    checkLinking true (dedup (endpoints ML)) ML CL = .contradiction ↔
      (∀ p ∈ ML ++ CL, p.1 ≠ p.2) ∧ ∃ p ∈ CL, EqvGen (Linked ML) p.1 p.2 := by
  rw [checkLinking_fixed _ ML CL (dedup_endpoints_cover ML), (verdict_chain _ _ _).2]
  simp only [List.forall_mem_append, not_exists, not_and, ne_eq, and_assoc]

/-- **The source before /repo commit 592eb31 (BFS positions compared with sample indices) is not the
    specification**, in both directions: it accepts the contradictory set ML = [(5,6),(6,7)],
    CL = [(5,7)] and rejects the consistent set ML = [(5,6)], CL = [(0,1)]. -/
theorem acceptsCurrent_not_spec :
    (∃ ML CL, acceptsCurrent ML CL = true ∧ ¬ SpecOK ML CL) ∧
    (∃ ML CL, acceptsCurrent ML CL = false ∧ SpecOK ML CL) := by
  refine ⟨⟨[(5, 6), (6, 7)], [(5, 7)], by decide, ?_⟩, ⟨[(5, 6)], [(0, 1)], by decide, ?_⟩⟩
  · rw [← acceptor_iff]; decide
  · rw [← acceptor_iff]; decide

section Inject
variable {K : ℕ}

/-- **Right rows, right sign, weight `factor`.**  Entry `(r, k)` of the gradient handed to the wrapped
    `_compute_grads` is the incoming entry plus, for every cannot-link pair with both ends in the
    batch, `+factor·(p_a - p_b)` if `r` is the batch position of `a` and `+factor·(p_b - p_a)` if it
    is the position of `b` — and the same with a minus sign for every must-link pair.
    (`contrib` is that term; pairs with an end outside the batch contribute 0.) -/
theorem inject_formula (last : List ℤ) (CL ML : List Pair) (f : ℝ) (y g : Rows ℝ K) (r : ℕ) (k : Fin K) :
    inject last CL ML f y g r k =
      g r k + (CL.map fun p => contrib last f y p r k).sum - (ML.map fun p => contrib last f y p r k).sum := by
  unfold inject
  rw [foldl_injectPair_apply, foldl_injectPair_apply, sgn_false, sgn_true]
  ring

/-- The term of one pair, spelled out. -/
theorem contrib_def (last : List ℤ) (f : ℝ) (y : Rows ℝ K) (p : Pair) (r : ℕ) (k : Fin K) :
    contrib last f y p r k =
      if p.1 ∈ last ∧ p.2 ∈ last then
        (if r = last.idxOf p.1 then f * (y (last.idxOf p.1) k - y (last.idxOf p.2) k) else 0) +
        (if r = last.idxOf p.2 then f * (y (last.idxOf p.2) k - y (last.idxOf p.1) k) else 0)
      else 0 := rfl

/-- **All other rows are untouched**: a row that is not the batch position of an end of a pair lying
    inside the batch leaves `intercept_grads` as it entered. -/
theorem inject_untouched (last : List ℤ) (CL ML : List Pair) (f : ℝ) (y g : Rows ℝ K) (r : ℕ)
    (h : ∀ p ∈ CL ++ ML, p.1 ∈ last → p.2 ∈ last → r ≠ last.idxOf p.1 ∧ r ≠ last.idxOf p.2) (k : Fin K) :
    inject last CL ML f y g r k = g r k := by
  have hz : ∀ l : List Pair, (∀ p ∈ l, p ∈ CL ++ ML) → (l.map fun p => contrib last f y p r k).sum = 0 := fun l hl =>
    List.sum_eq_zero fun x hx => by
      obtain ⟨p, hp, rfl⟩ := List.mem_map.1 hx
      exact contrib_eq_zero (h p (hl p hp))
  rw [inject_formula, hz CL fun p hp => List.mem_append_left _ hp, hz ML fun p hp => List.mem_append_right _ hp,
    add_zero, sub_zero]

/-- A single cannot-link pair inside the batch pushes its two rows apart:
    row of `a` receives `+factor·(p_a - p_b)`, row of `b` receives `+factor·(p_b - p_a)`. -/
theorem inject_single_cannot_link (last : List ℤ) (a b : ℤ) (ha : a ∈ last) (hb : b ∈ last) (hab : a ≠ b)
    (f : ℝ) (y g : Rows ℝ K) (k : Fin K) :
    inject last [(a, b)] [] f y g (last.idxOf a) k =
        g (last.idxOf a) k + f * (y (last.idxOf a) k - y (last.idxOf b) k) ∧
    inject last [(a, b)] [] f y g (last.idxOf b) k =
        g (last.idxOf b) k + f * (y (last.idxOf b) k - y (last.idxOf a) k) := by
  constructor
  · rw [inject_formula, List.map_nil, List.sum_nil, sub_zero, List.map_singleton, List.sum_singleton,
      contrib_left ha hb hab]
  · rw [inject_formula, List.map_nil, List.sum_nil, sub_zero, List.map_singleton, List.sum_singleton,
      contrib_right ha hb hab]

/-- A single must-link pair inside the batch pulls its two rows together (opposite sign). -/
theorem inject_single_must_link (last : List ℤ) (a b : ℤ) (ha : a ∈ last) (hb : b ∈ last) (hab : a ≠ b)
    (f : ℝ) (y g : Rows ℝ K) (k : Fin K) :
    inject last [] [(a, b)] f y g (last.idxOf a) k =
        g (last.idxOf a) k - f * (y (last.idxOf a) k - y (last.idxOf b) k) ∧
    inject last [] [(a, b)] f y g (last.idxOf b) k =
        g (last.idxOf b) k - f * (y (last.idxOf b) k - y (last.idxOf a) k) := by
  constructor
  · rw [inject_formula, List.map_nil, List.sum_nil, add_zero, List.map_singleton, List.sum_singleton,
      contrib_left ha hb hab]
  · rw [inject_formula, List.map_nil, List.sum_nil, add_zero, List.map_singleton, List.sum_singleton,
      contrib_right ha hb hab]

/-- **The injected term is the gradient of the pairwise penalty.**  With
    `penalty y = ½·factor·(Σ_{CL in batch} ‖p_i - p_j‖² - Σ_{ML in batch} ‖p_i - p_j‖²)`, what
    `intercept_grads` adds to entry `(r, k)` is `∂ penalty / ∂ y[r, k]` (derivative in the entry, all
    other entries fixed).  The GEMINI gradient being an ascent direction, cannot-linked rows are pushed
    apart and must-linked rows pulled together. -/
theorem inject_is_penalty_gradient (last : List ℤ) (CL ML : List Pair) (f : ℝ) (y g : Rows ℝ K) (r : ℕ)
    (k : Fin K) :
    HasDerivAt (fun t => penalty last CL ML f (setEntry y r k t))
      (inject last CL ML f y g r k - g r k) (y r k) := by
  refine (hasDerivAt_penalty last CL ML f y r k).congr_deriv ?_
  rw [inject_formula]
  ring

/-- The penalty, spelled out. -/
theorem penalty_def (last : List ℤ) (CL ML : List Pair) (f : ℝ) (y : Rows ℝ K) :
    penalty last CL ML f y =
      (CL.map fun p => 1 / 2 * f *
          (if p.1 ∈ last ∧ p.2 ∈ last then ∑ k, (y (last.idxOf p.1) k - y (last.idxOf p.2) k) ^ 2 else 0)).sum -
      (ML.map fun p => 1 / 2 * f *
          (if p.1 ∈ last ∧ p.2 ∈ last then ∑ k, (y (last.idxOf p.1) k - y (last.idxOf p.2) k) ^ 2 else 0)).sum :=
  rfl

/-- **Independence from the batch permutation.**  If the batch `last'` is the batch `last` read
    through `σ` (`last'[r] = last[σ r]`), the indices being distinct, then injecting into the permuted
    rows gives the permuted result: `inject (σ·last) (σ·y) (σ·g) = σ·(inject last y g)`. -/
theorem inject_perm_equivariant (last last' : List ℤ) (σ : ℕ → ℕ) (hnd : last.Nodup)
    (hperm : last'.Perm last) (hσ : ∀ r, r < last'.length → last'[r]? = last[σ r]?)
    (CL ML : List Pair) (f : ℝ) (y g : Rows ℝ K) (r : ℕ) (hr : r < last'.length) (k : Fin K) :
    inject last' CL ML f (fun r => y (σ r)) (fun r => g (σ r)) r k = inject last CL ML f y g (σ r) k := by
  rw [inject_formula, inject_formula]
  have hc : ∀ p, contrib last' f (fun r => y (σ r)) p r k = contrib last f y p (σ r) k :=
    fun p => contrib_perm hnd hperm hσ f y p r hr k
  simp only [hc]

/-- the hypotheses of `inject_perm_equivariant` are satisfiable by a non-trivial permutation of a
    non-contiguous batch -/
example : ∃ (last last' : List ℤ) (σ : ℕ → ℕ), last.Nodup ∧ last'.Perm last ∧ last' ≠ last ∧
    ∀ r, r < last'.length → last'[r]? = last[σ r]? := by
  refine ⟨[7, 3, 12], [12, 7, 3], fun r => (r + 2) % 3, by decide, by decide, by decide, ?_⟩
  intro r hr
  have : r = 0 ∨ r = 1 ∨ r = 2 := by simp at hr; omega
  rcases this with rfl | rfl | rfl <;> rfl

end Inject

end GemVerif.Props.C14
