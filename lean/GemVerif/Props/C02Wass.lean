/-
  C02 for the Wasserstein GEMINI — the gradient returned with `return_grad=True` is the exact
  derivative of the returned score, given the sensitivity (envelope) property of the transport LP
  solved by POT's `ot.emd2` (hypothesis `EmdEnvelopeAt`, defined and documented in
  `GemVerif/Lemmas/GeminiWass.lean`: along curves of marginals that stay in the open probability
  simplex, the derivative of the optimal value is the pairing of the returned dual potentials with
  the velocities of the marginals).
-/
import GemVerif.Lemmas.GeminiWass

namespace GemVerif.Props.C02Wass
open Model Spec

variable {n K : ℕ}

/-- Wasserstein one-vs-all (`Σ_k π_k W(wy_k, uniform)`): at every interior point `P` (clipping inactive)
    such that `ot.emd2` has the envelope property at each pair `(wy_k, uniform)` it is called on, and
    along every direction `V` (not only simplex-tangent ones), the returned gradient paired with `V` is
    the derivative of the returned score.  The chain goes through `π_k = mean P[:,k]` and
    `wy_k = P[:,k]/(π_k N)`, which both move with `P`. -/
theorem wass_ova_hasDerivAt (hn : 0 < n) {ε : ℝ} (hε : 0 < ε)
    (emd2 : (Fin n → ℝ) → (Fin n → ℝ) → Emd ℝ n) (P : Fin n → Fin K → ℝ) (hI : Interior ε P)
    (hE : ∀ k, EmdEnvelopeAt emd2 (wassWeights ε P k) (fun _ => 1 / (n : ℝ)))
    (V : Fin n → Fin K → ℝ) :
    HasDerivAt (fun t : ℝ => wassScore emd2 ε false (fun i k => P i k + t * V i k))
      (∑ i, ∑ k, wassGrad emd2 ε false P i k * V i k) 0 := by
  refine hasDerivAt_of_interior (fun hQ => wassScore_ova_interior hQ emd2) hI V fun Pc h0 hP => ?_
  subst h0
  have hπ : ∀ k, Spec.pi (Pc 0) k ≠ 0 := fun k => (pi_pos hn (P_pos hε hI) k).ne'
  rw [wassWeights_interior hI] at hE
  -- the second marginal, the uniform weights, does not move
  have h1 : ∀ k, HasDerivAt (fun t => (emd2 (wyR (Pc t) k) (fun _ => 1 / (n : ℝ))).value)
      (∑ i, (emd2 (wyR (Pc 0) k) (fun _ => 1 / (n : ℝ))).u i * wyD (Pc 0) V k i) 0 := fun k =>
    ((hE k).hasDerivAt_curve hP hn hε hI (b := fun _ _ => 1 / (n : ℝ)) (b' := fun _ => 0) rfl
      (Filter.Eventually.of_forall fun _ => unif_openSimplex hn) fun _ => hasDerivAt_const _ _).congr_deriv
      (by simp only [mul_zero, Finset.sum_const_zero, add_zero])
  refine (HasDerivAt.fun_sum fun k _ => (hasDerivAt_pi_curve hP k).fun_mul (h1 k)).congr_deriv ?_
  rw [grad_sum_split _
    (fun i k => ctr (emd2 (wyR (Pc 0) k) (fun _ => 1 / (n : ℝ))).u i / n
      - (∑ j, Pc 0 j k * ctr (emd2 (wyR (Pc 0) k) (fun _ => 1 / (n : ℝ))).u j) / (n * n * Spec.pi (Pc 0) k))
    (fun k => (emd2 (wyR (Pc 0) k) (fun _ => 1 / (n : ℝ))).value) V
    (fun i k => by rw [wassGrad_eq, wassGradT_ova, wassWeights_interior hI, clipP_of_interior hI,
      clipMask_of_interior hI, mean0_eq_pi, mul_one, add_sub_right_comm])]
  refine Finset.sum_congr rfl fun k _ => ?_
  rw [wass_chain hn (Pc 0) V k (hπ k) _ (meanV (emd2 (wyR (Pc 0) k) (fun _ => 1 / (n : ℝ))).u), add_comm,
    mul_comm (Spec.pi V k)]
  simp only [ctr_apply, mul_comm (Pc 0 _ k)]

/-- Wasserstein one-vs-one (`πᵀ W π`, `W` symmetric with zero diagonal, filled from the calls
    `ot.emd2(wy[k1], wy[k2])`, `k1 < k2`): at every interior point `P` such that `ot.emd2` has the
    envelope property at each pair `(wy_k1, wy_k2)`, `k1 < k2`, it is called on, and along every
    direction `V`, the returned gradient paired with `V` is the derivative of the returned score.
    Both marginals of every call move with `P`; column `k` collects the `u` potentials of the calls
    `(k, o)`, `k < o`, and the `v` potentials of the calls `(o, k)`, `o < k`. -/
theorem wass_ovo_hasDerivAt (hn : 0 < n) {ε : ℝ} (hε : 0 < ε)
    (emd2 : (Fin n → ℝ) → (Fin n → ℝ) → Emd ℝ n) (P : Fin n → Fin K → ℝ) (hI : Interior ε P)
    (hE : ∀ a b : Fin K, a.val < b.val → EmdEnvelopeAt emd2 (wassWeights ε P a) (wassWeights ε P b))
    (V : Fin n → Fin K → ℝ) :
    HasDerivAt (fun t : ℝ => wassScore emd2 ε true (fun i k => P i k + t * V i k))
      (∑ i, ∑ k, wassGrad emd2 ε true P i k * V i k) 0 := by
  refine hasDerivAt_of_interior (fun hQ => wassScore_ovo_interior hQ emd2) hI V fun Pc h0 hP => ?_
  subst h0
  have hπ : ∀ k, Spec.pi (Pc 0) k ≠ 0 := fun k => (pi_pos hn (P_pos hε hI) k).ne'
  rw [wassWeights_interior hI] at hE
  refine (hasDerivAt_ovo hP (hasDerivAt_wPairT hP hn hε hI emd2 hE) fun a b => wPairT_symm _ a b).congr_deriv ?_
  generalize hpE : (fun c d : Fin K => emd2 (wyR (Pc 0) c) (wyR (Pc 0) d)) = pairE
  rw [ovo_regroup (Spec.pi (Pc 0)) fun k o => ∑ i, potU pairE k o i * wyD (Pc 0) V k i,
    ← Finset.sum_add_distrib]
  rw [grad_sum_split _
    (fun i k => ∑ o, if o = k then 0 else 2 * Spec.pi (Pc 0) o *
      (potT pairE k o i / n - ∑ j, potT pairE k o j * Pc 0 j k / (n * n * Spec.pi (Pc 0) k)))
    (fun k => 2 * (∑ b, wPairT pairE k b * Spec.pi (Pc 0) b)) V
    (fun i k => by rw [wassGrad_eq, wassGradT_ovo, wassWeights_interior hI, clipP_of_interior hI,
      clipMask_of_interior hI, mean0_eq_pi, mul_one, hpE])]
  refine Finset.sum_congr rfl fun k _ => ?_
  congr 1
  simp only [Finset.sum_mul]
  rw [Finset.sum_comm]
  refine Finset.sum_congr rfl fun o _ => ?_
  by_cases h : o = k
  · simp only [if_pos h, zero_mul, Finset.sum_const_zero]
  · simp only [if_neg h, potT_apply, ← Finset.sum_div]
    rw [wass_chain hn (Pc 0) V k (hπ k) _ (meanV (potU pairE k o)), Finset.mul_sum]
    exact Finset.sum_congr rfl fun i _ => (mul_assoc _ _ _).symm

/-- One-vs-all, global form of the hypothesis: the weights `wy[k]` and the uniform weights always lie
    in the open probability simplex at interior points, so `EmdEnvelope` suffices. -/
theorem wass_ova_hasDerivAt_of_envelope (hn : 0 < n) {ε : ℝ} (hε : 0 < ε)
    (emd2 : (Fin n → ℝ) → (Fin n → ℝ) → Emd ℝ n) (hE : EmdEnvelope emd2)
    (P : Fin n → Fin K → ℝ) (hI : Interior ε P) (V : Fin n → Fin K → ℝ) :
    HasDerivAt (fun t : ℝ => wassScore emd2 ε false (fun i k => P i k + t * V i k))
      (∑ i, ∑ k, wassGrad emd2 ε false P i k * V i k) 0 :=
  wass_ova_hasDerivAt hn hε emd2 P hI (fun k => by
    rw [wassWeights_interior hI]
    exact hE _ _ (wyR_openSimplex hn (P_pos hε hI) k) (unif_openSimplex hn)) V

/-- One-vs-one, global form of the hypothesis. -/
theorem wass_ovo_hasDerivAt_of_envelope (hn : 0 < n) {ε : ℝ} (hε : 0 < ε)
    (emd2 : (Fin n → ℝ) → (Fin n → ℝ) → Emd ℝ n) (hE : EmdEnvelope emd2)
    (P : Fin n → Fin K → ℝ) (hI : Interior ε P) (V : Fin n → Fin K → ℝ) :
    HasDerivAt (fun t : ℝ => wassScore emd2 ε true (fun i k => P i k + t * V i k))
      (∑ i, ∑ k, wassGrad emd2 ε true P i k * V i k) 0 :=
  wass_ovo_hasDerivAt hn hε emd2 P hI (fun a b _ => by
    rw [wassWeights_interior hI]
    exact hE _ _ (wyR_openSimplex hn (P_pos hε hI) a) (wyR_openSimplex hn (P_pos hε hI) b)) V

/-- The code subtracts the mean from `log["u"]` and `log["v"]` before using them.  This removes all
    dependence on the additive constants of the potentials: for every input (any `P`, clipped or
    not, both modes), a solver returning `u + c`, `v + d` (constants that may vary from call to call)
    yields exactly the same gradient. -/
theorem wassGrad_shift_invariant (emd2 : (Fin n → ℝ) → (Fin n → ℝ) → Emd ℝ n)
    (c d : (Fin n → ℝ) → (Fin n → ℝ) → ℝ) (ε : ℝ) (ovo : Bool) (P : Fin n → Fin K → ℝ) :
    wassGrad (shiftEmd emd2 c d) ε ovo P = wassGrad emd2 ε ovo P :=
  wassGradT_shift _ _ (fun a b => c (wassWeights ε P a) (wassWeights ε P b))
    (fun a b => d (wassWeights ε P a) (wassWeights ε P b))
    (fun k => c (wassWeights ε P k) (fun _ => 1 / RealLike.nat n))
    (fun k => d (wassWeights ε P k) (fun _ => 1 / RealLike.nat n)) ε ovo P

/-- The envelope hypothesis does not depend on the additive constants of the potentials (the marginals
    handed to `ot.emd2` have total mass 1, so their velocities sum to 0): it constrains POT's potentials
    only modulo constants, and with `wassGrad_shift_invariant` the derivative theorems above hold
    whichever normalisation (`center_dual` or not) the solver uses. -/
theorem emdEnvelopeAt_shift_invariant (emd2 : (Fin n → ℝ) → (Fin n → ℝ) → Emd ℝ n)
    (c d : (Fin n → ℝ) → (Fin n → ℝ) → ℝ) (a₀ b₀ : Fin n → ℝ) (h : EmdEnvelopeAt emd2 a₀ b₀) :
    EmdEnvelopeAt (shiftEmd emd2 c d) a₀ b₀ := by
  intro a b a' b' ha0 hb0 hS ha hb
  have hsa := sum_deriv_eq_zero (hS.mono fun t ht => ht.1.sum_eq_one) ha
  have hsb := sum_deriv_eq_zero (hS.mono fun t ht => ht.2.sum_eq_one) hb
  refine (h a b a' b' ha0 hb0 hS ha hb).congr_deriv ?_
  simp only [shiftEmd, add_mul, Finset.sum_add_distrib, ← Finset.mul_sum, hsa, hsb, mul_zero, add_zero]

/- `EmdEnvelope` is satisfiable, for every size: a value linear in the marginals -/
example (c d : Fin n → ℝ) : EmdEnvelope (linEmd c d) := linEmd_envelope c d

/- `EmdEnvelope` is also satisfied by a non-linear value: the squared Euclidean distance `Σ (a_i - b_i)²` between the
   marginals -/
example : EmdEnvelope (sqEmd (n := n)) := sqEmd_envelope

/- the pointwise hypotheses of `wass_ova_hasDerivAt` hold for the genuine (piecewise linear, kinked)
   transport cost on two points `W(a,b) = |a₀ - b₀|` at a point of the simplex -/
example : Interior (1 / 10) exP ∧
    ∀ k, EmdEnvelopeAt absEmd (wassWeights (1 / 10) exP k) (fun _ => 1 / ((2 : ℕ) : ℝ)) := by
  refine ⟨exP_interior, fun k => ?_⟩
  rw [wassWeights_interior exP_interior]
  exact absEmd_envelopeAt (exP_wass_ova k)

/- the pointwise hypotheses of `wass_ovo_hasDerivAt` hold for the same cost at the same point -/
example : Interior (1 / 10) exP ∧ ∀ a b : Fin 2, a.val < b.val →
    EmdEnvelopeAt absEmd (wassWeights (1 / 10) exP a) (wassWeights (1 / 10) exP b) := by
  refine ⟨exP_interior, fun a b hab => ?_⟩
  rw [wassWeights_interior exP_interior]
  exact absEmd_envelopeAt (exP_wass_ovo a b hab)

end GemVerif.Props.C02Wass
