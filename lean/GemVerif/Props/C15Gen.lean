/-
  C15 / C03 / C18 (companion) — the hand model of Model/Douglas.lean is what gemclus/tree/douglas.py says.

  `Gen/Douglas.lean` is regenerated on every run by translator/douglas.py from the bodies of `Douglas._leaf_binning`,
  `_merge_leaf`, `_infer` and `_compute_grads` in /repo: one definition per method (plus one per attribute `_infer` retains), a
  literal transcription of the NumPy statements into the untyped array language of GemVerif/Np.lean … Np5.lean (shapes are data;
  `np.linspace`, `np.argsort`, fancy indexing by the order, `np.concatenate` / `np.cumsum` / reshapes, `X @ W + b`, `softmax`,
  `np.einsum("ij,ik->ijk")` + reshape, the lambda / map / list / reduce pipeline as `List.map` + a fold, the N-d reshape, `*=` and
  `sum(axes)` as operations on the flat row-major layout, the loop over `enumerate(self.cut_points_list_)` as a fold follow
  NumPy's rules; anything NumPy would reject sets `ok := false`, and whatever a method returns collects the `ok` of every
  intermediate array).

  Every positive theorem below says: the generated definition, applied to arrays holding the model's inputs (any arrays
  described by `IsMat` / `IsVec` / `IsRows`, in particular `ofFn X`, `ofList cuts`, `cplOf cl`), raises no NumPy error, has the
  shape of the hand model's value and has, entry for entry, that value — for all sizes (`n = 0`, empty cut vectors, ties
  included).  The inputs on which the model returns `none` are covered by the `…_raises` theorems: there the generated code
  carries an error (`ok = false`).
  Number type.  These theorems are stated over ℝ: the generated code and the model do not perform the same floating-point
  operations in the same order (`X @ W` sums one product with `0`, the model writes `x * w`; scikit-learn's soft-max is summed
  from the right by the DSL of Np.lean and from the left by Model/Douglas.lean; the marginalisation sums in flat-index order on
  both sides but NumPy's pairwise reduction does not).  What is number-type generic: the DSL's `np.argsort` is the model's
  `argsort` / `argsortNat` (Lemmas/Np5.lean `argsortBy_eq_argsort`, `argsortBy_eq_argsortNat`: a stable insertion sort of the
  positions on both sides — NumPy promises nothing about ties, for distinct values every algorithm agrees), `np.cumsum` performs
  the model's additions (`douglas_cumsum_getD`), hence the order, the sorted cut points and the bias of `_leaf_binning`
  (Lemmas/C15Gen.lean, section `generic`) and `leaf_binning_order_generic` below.
  The proofs do not depend on which temporaries the source uses: every `let` is unfolded, the NumPy expressions are named
  (`generalize`), the error flags are discharged one fact at a time, the loop of `_compute_grads` is read semantically
  (`foldl_updates_true`: each round appends `-cut_grad` and raises nothing).  harmless/batch3/h07.diff (explicit loop in `_infer`,
  `np.matmul` / `np.sum` / `np.flip`, `range(n)` loop, extra temporaries) regenerates to definitions these same proofs accept.
  Spellings.  Three expressions of the source have behaviour-preserving respellings that regenerate to different operations of
  the array language (harmless/h07.diff, harmless/batch2/h07.diff); the proofs below establish the facts for every spelling and
  use whichever the regenerated text needs, so each theorem holds for each of these sources:
    * the weights `W`: `np.linspace(1, n + 1, n + 1)` or `np.arange(1, n + 2, dtype=np.float64)` (`isWeights_linspace`,
      `isWeights_arangeFrom` of Lemmas/C15Gen.lean: both are the row `1, …, n + 1`);
    * the row-wise outer product: `np.einsum("ij,ik->ijk", a, b)` or `a[:, :, np.newaxis] * b[:, np.newaxis, :]` (NumPy
      broadcasting, `Arr3.mul (expandLast a) (expandMid b)`), reshaped by `np.prod(T.shape[1:])` or `a.shape[1] * b.shape[1]`;
    * undoing the sort: the gather `cumsum_grad[np.argsort(order)]`, the scatter `g = np.empty_like(cumsum_grad); g[order] =
      cumsum_grad`, or the gather through `ranks = np.empty_like(order); ranks[order] = np.arange(len(order))`.  The entries
      of `np.empty_like` are an opaque constant; the scatter equals the gather because the retained order is a permutation of all
      positions (`argsort_perm` of Lemmas/DouglasSort.lean), so every entry is overwritten exactly once (`setAt_get_of_perm` of
      Lemmas/C15GenGrad.lean, `argsortNat_inv` of Lemmas/DouglasGrad.lean) — proved, not assumed.  A scatter through anything
      else (e.g. `g[np.argsort(order)] = …`) matches none of the three and `compute_grads_closed_form` fails.
  The theorems of Props/C15.lean, C03Douglas.lean and the Douglas part of C18.lean, stated about Model/Douglas.lean, therefore
  speak about the source.
-/
import GemVerif.Lemmas.C15Gen
import GemVerif.Lemmas.C15GenGrad
import GemVerif.Gen.Douglas

namespace GemVerif.Props.C15Gen
open GemVerif.RealLike GemVerif.Np GemVerif.Np.Arr GemVerif.Model.Douglas GemVerif.Douglas

-- The proofs of this file also serve the respellings of the source that DESIGN.md §21 (behaviour-preserving
-- refactorings, `harmless/`) regenerates: on the text generated from the present source some of their `simp` arguments
-- are idle and the alternatives (`first | … | …`, `try`) it does not use are never run, which is why these linters are off.
set_option linter.unusedSimpArgs false
set_option linter.unusedTactic false
set_option linter.unreachableTactic false

/-- Meaning of the descriptions used below: `IsRows A rows len` says that no NumPy error occurred while computing `A`, that `A`
    has shape `(n, len)`, that every list `rows i` has `len` entries and that `A[i, j]` is entry `j` of `rows i`; it is what
    `Eqv A (ofFn fun i j => (rows i).getD j 0)` says, plus the lengths of the lists. -/
theorem isRows_spelled_out {n len : ℕ} (A : Arr ℝ) (rows : Fin n → List ℝ) (h : ∀ i, (rows i).length = len) :
    IsRows A rows len ↔ Eqv A (ofFn fun i (j : Fin len) => (rows i).getD j.val 0) := by
  constructor
  · exact fun hA => hA.isMat.eqv
  · intro hE
    obtain ⟨hok, hr, hc, hget⟩ := eqv_ofFn_iff.mp hE
    exact ⟨hok, hr, hc, h, fun i j hj => hget i ⟨j, hj⟩⟩

/-- A returned array whose `flags` (the conjunction of the `ok` of all arrays computed during the call) is false is described by
    nothing: a mutation of the source that makes any statement raise cannot satisfy any theorem of this file. -/
theorem raised_not_isRows {n len : ℕ} (A : Arr ℝ) (rows : Fin n → List ℝ) : ¬ IsRows (checked false A) rows len := by
  rintro ⟨hok, -⟩
  simp at hok

/-- `Douglas._leaf_binning(X, cut_points)` as written in the source, with its error flags discharged (every `[RealLike α]`: the
    flags depend on shapes and indices only): applied to any array that is without error an `(n, 1)` column and any 1-D array
    holding `cuts`, nothing raises, and the call returns `softmax((X @ W + b) / self.temperature)` and `np.argsort(cut_points)`,
    where `W` is the row of the weights in one of its two spellings (`np.linspace(1, n + 1, n + 1)`, `np.arange(1, n + 2)`) and
    `b` the cumulative sum of the negated sorted cut points after a zero. -/
theorem leaf_binning_unfolded {α : Type} [RealLike α] (T : α) {n : ℕ} {Xa ca : Arr α} {x : Fin n → α} {cuts : List α}
    (hX : IsMat Xa (fun i (_ : Fin 1) => x i)) (hc : IsVec ca cuts) :
    ∃ W : Arr α, (W = reshapeRow (linspace 1 (nat cuts.length + 1) (cuts.length + 1)) ∨
        W = reshapeRow (arangeFrom 1 (cuts.length + 2))) ∧
      (add (matmul Xa W) (reshapeRow (cumsumAxis1 (concat1 (zeros 1 1) (neg (take1 ca (argsort1 ca))))))).ok = true ∧
      Gen.Douglas.leaf_binning T Xa ca =
        (softmax (divs (add (matmul Xa W) (reshapeRow (cumsumAxis1 (concat1 (zeros 1 1) (neg (take1 ca (argsort1 ca)))))))
          T), argsort1 ca) := by
  unfold Gen.Douglas.leaf_binning
  dsimp only
  have hO := hc.argsort1
  have hS := hc.take1_argsort hO
  have hB := hS.bias
  rw [hc.c]
  generalize argsort1 ca = order at hO hS hB ⊢
  generalize reshapeRow (cumsumAxis1 (concat1 (zeros 1 1) (neg (take1 ca order)))) = ba at hB ⊢
  obtain ⟨hXok, hXr, hXc, -⟩ := hX
  obtain ⟨hbok, hbr, hbc, -⟩ := hB
  rw [bias_length] at hbc
  -- the row of the weights in either spelling: no error, shape `(1, n + 1)`
  have hWl : (reshapeRow (linspace (1 : α) (nat cuts.length + 1) (cuts.length + 1))).ok = true := by simp
  have hWa : (reshapeRow (arangeFrom 1 (cuts.length + 2) : Arr α)).ok = true := by simp
  have hlogl : (add (matmul Xa (reshapeRow (linspace 1 (nat cuts.length + 1) (cuts.length + 1)))) ba).ok = true := by
    simp [add, hbok, hXok, hXc, hXr, hbr, hbc]
  have hlogA : (add (matmul Xa (reshapeRow (arangeFrom 1 (cuts.length + 2) : Arr α))) ba).ok = true := by
    simp [add, hbok, hXok, hXc, hXr, hbr, hbc]
  -- every array bound on the way is without error, whatever temporaries name them: the flags are `true`
  simp only [hWl, hWa, hO.ok, hS.ok, hbok, hlogl, hlogA, linspace_ok, arangeFrom_ok, Bool.and_self, checked_true,
    checkedN_true]
  first
    | exact ⟨_, Or.inl rfl, hlogl, rfl⟩
    | exact ⟨_, Or.inr rfl, hlogA, rfl⟩

/-- Number-type generic part of `_leaf_binning`: for every `[RealLike α]` (IEEE doubles included: the sort is the same stable
    insertion sort of the positions on both sides, every error flag depends on shapes and indices only), applied to any array
    that is without error an `(n, 1)` column and any 1-D array holding `cuts`, the order returned by the source's
    `_leaf_binning` is without error the 1-D integer array of the model's `argsort cuts`. -/
theorem leaf_binning_order_generic {α : Type} [RealLike α] (T : α) {n : ℕ} {Xa ca : Arr α} {x : Fin n → α} {cuts : List α}
    (hX : IsMat Xa (fun i (_ : Fin 1) => x i)) (hc : IsVec ca cuts) :
    IsVecN (Gen.Douglas.leaf_binning T Xa ca).2 (argsort cuts) := by
  obtain ⟨W, -, -, e⟩ := leaf_binning_unfolded T hX hc
  rw [e]
  exact hc.argsort1

/-- `Douglas._leaf_binning(X, cut_points)` as written in the source (weights `1, …, n + 1` by `np.linspace` or `np.arange`,
    `np.argsort`, the sorted cut points by fancy indexing, the bias by `np.concatenate` / `np.cumsum` / reshape,
    `softmax((X @ W + b) / self.temperature)`), applied to any
    array that is without error the `(n, 1)` column `x` and any 1-D array holding the list `cuts`: the memberships are without
    error the `(n, len(cuts) + 1)` array whose row `i` is the model's `binning T (x i) cuts`, and the returned order is the 1-D
    integer array of the model's `argsort cuts` — all `n` (0 included), all lists of cut points (the empty one, ties included),
    every temperature. -/
theorem leaf_binning_isRows (T : ℝ) {n : ℕ} {Xa ca : Arr ℝ} {x : Fin n → ℝ} {cuts : List ℝ}
    (hX : IsMat Xa (fun i (_ : Fin 1) => x i)) (hc : IsVec ca cuts) :
    IsRows (Gen.Douglas.leaf_binning T Xa ca).1 (fun i => binning T (x i) cuts) (cuts.length + 1) ∧
    IsVecN (Gen.Douglas.leaf_binning T Xa ca).2 (argsort cuts) := by
  refine ⟨?_, leaf_binning_order_generic T hX hc⟩
  obtain ⟨W, hW, hlog, e⟩ := leaf_binning_unfolded T hX hc
  -- the row `W` of the weights `1, …, n + 1`, spelled `np.linspace(1, n + 1, n + 1)` or `np.arange(1, n + 2)`
  have hWd : IsRow W (fun j : Fin (cuts.length + 1) => (j.val : ℝ) + 1) := by
    rcases hW with rfl | rfl
    · exact isWeights_linspace cuts.length
    · exact isWeights_arangeFrom cuts.length
  have hB := (hc.take1_argsort hc.argsort1).bias
  rw [e]
  generalize reshapeRow (cumsumAxis1 (concat1 (zeros 1 1) (neg (take1 ca (argsort1 ca))))) = ba at hB hlog ⊢
  refine ⟨by simp [hlog], by simp [add, hX.r, hB.r], by simp [add, hB.c, bias_length, hWd.c],
    fun i => binning_length T (x i) cuts, fun i j hj => softmax_logits_get_of_weights T hWd hX hB i hj⟩

/-- `_leaf_binning` on the arrays built from the model's inputs: the memberships are the matrix of the model's `binning`
    (shape `(n, len(cuts) + 1)`, no error), entry for entry. -/
theorem leaf_binning_eq (T : ℝ) {n : ℕ} (x : Fin n → ℝ) (cuts : List ℝ) :
    Eqv (Gen.Douglas.leaf_binning T (ofFn fun i (_ : Fin 1) => x i) (ofList cuts)).1
      (ofFn fun i (j : Fin (cuts.length + 1)) => (binning T (x i) cuts).getD j.val 0) :=
  (leaf_binning_isRows T (isMat_ofFn _) (isVec_ofList cuts)).1.isMat.eqv

/-- `_leaf_binning` on the arrays built from the model's inputs: the order is the model's `argsort`, the second component of
    the model's `leafBinning`. -/
theorem leaf_binning_order_eq (T : ℝ) {n : ℕ} (x : Fin n → ℝ) (cuts : List ℝ) (i : Fin n) :
    IsVecN (Gen.Douglas.leaf_binning T (ofFn fun i (_ : Fin 1) => x i) (ofList cuts)).2 (leafBinning T (x i) cuts).2 :=
  (leaf_binning_isRows T (isMat_ofFn _) (isVec_ofList cuts)).2

/-- instance at `Float`: on IEEE doubles the order returned by the source's `_leaf_binning` is the model's `argsort` -/
example (T : Float) (x : Fin 4 → Float) (cuts : List Float) :
    IsVecN (Gen.Douglas.leaf_binning T (ofFn fun i (_ : Fin 1) => x i) (ofList cuts)).2 (argsort cuts) :=
  leaf_binning_order_generic T (isMat_ofFn _) (isVec_ofList cuts)

/-- non-vacuity: the hypotheses of `leaf_binning_isRows` are met by the arrays built from any column and any list -/
example (x : Fin 3 → ℝ) (cuts : List ℝ) :
    IsMat (ofFn fun i (_ : Fin 1) => x i) (fun i (_ : Fin 1) => x i) ∧ IsVec (ofList cuts) cuts :=
  ⟨isMat_ofFn _, isVec_ofList cuts⟩

/-- `Douglas._merge_leaf(a, b)` as written in the source (`np.einsum("ij,ik->ijk", a, b)`, or the same product by broadcasting
    `a[:, :, np.newaxis] * b[:, np.newaxis, :]`, reshaped to `(-1, J·K)`), applied to two
    arrays given row by row (rows of `la` resp. `lb` entries, `la · lb ≠ 0`): without error the `(n, la · lb)` array whose row `i`
    is the model's `kron` of the two rows (entry `j · lb + k` is `a[i, j] · b[i, k]`). -/
theorem merge_leaf_isRows {n la lb : ℕ} {A B : Arr ℝ} {ra rb : Fin n → List ℝ} (hA : IsRows A ra la) (hB : IsRows B rb lb)
    (h0 : la * lb ≠ 0) : IsRows (Gen.Douglas.merge_leaf A B) (fun i => kron (ra i) (rb i)) (la * lb) := by
  obtain ⟨hAok, hAr, hAc, hAlen, hAget⟩ := hA
  obtain ⟨hBok, hBr, hBc, hBlen, hBget⟩ := hB
  unfold Gen.Douglas.merge_leaf
  dsimp only
  -- the 3-d product is spelled `np.einsum("ij,ik->ijk", a, b)` or, by broadcasting, `a[:, :, np.newaxis] * b[:, np.newaxis, :]`
  refine ⟨?_, ?_, ?_, fun i => by rw [kron_length, hAlen, hBlen], fun i p hp => ?_⟩
  · simp [Arr3.mul, hAok, hBok, hAr, hBr, hAc, hBc, h0]
  · simp [Arr3.mul, hAr, hBr]
  · simp [Arr3.mul, hAc, hBc]
  · have hlb : 0 < lb := Nat.pos_of_ne_zero fun h => h0 (by rw [h, Nat.mul_zero])
    have h1 : p / lb < la := Nat.div_lt_of_lt_mul (by rwa [Nat.mul_comm])
    have h2 : p % lb < lb := Nat.mod_lt _ hlb
    simp only [checked_get, Arr3.flattenTail_get, Arr3.einsumIjIk_get, Arr3.einsumIjIk_d2, Arr3.mul, Arr3.zipWith_get,
      Arr3.zipWith_d2, Arr3.expandLast_get, Arr3.expandMid_get, Arr3.expandLast_d0, Arr3.expandMid_d0, Arr3.expandLast_d1,
      Arr3.expandMid_d2, Arr3.expandLast_d2, bdim_one_left, hAr, hBr, hAc, hBc, bidx_val, bidx_of_lt h1, bidx_of_lt h2]
    rw [hAget i _ h1, hBget i _ h2, kron_getD_divmod _ _ (by rw [hAlen, hBlen]; exact hp), hBlen]

set_option linter.unusedVariables false in
/-- An empty second factor (`lb = 0`): NumPy cannot infer the `-1` of the reshape and raises; the generated `_merge_leaf` carries
    an error (the model's `kron` would be the empty list: such binnings never occur, a binning has `len(cuts) + 1 ≥ 1` entries).
    (`hA` is not used: the reshape fails whatever the first factor is.) -/
theorem merge_leaf_empty_raises {n la : ℕ} {A B : Arr ℝ} {ra rb : Fin n → List ℝ} (hA : IsRows A ra la) (hB : IsRows B rb 0) :
    (Gen.Douglas.merge_leaf A B).ok = false := by
  simp [Gen.Douglas.merge_leaf, Arr3.mul, hB.c]

/-- `Douglas._infer(X)` as written in the source (one `_leaf_binning` per entry of `self.cut_points_list_` on the column
    `X[:, f:f+1]`, `reduce(self._merge_leaf, …)`, `softmax(leaf @ self.leaf_scores_)`), applied to arrays holding the `n × d` data
    `X`, the `L × K` leaf scores `S` and the cut-point lists `cl` — a non-empty `cl` whose feature indices address the data and
    whose leaf count `∏ (len(cuts) + 1)` is `L` (exactly the inputs on which the model's `infer` returns, see
    `infer_accepts_iff` of Props/C15.lean): without error the `(n, K)` matrix of the model's `infer`, and
    `self._leaf` is the `(n, L)` matrix of the model's merged leaf memberships `leafRow`,
    `self._all_binnings` has one array per entry of `cl`, the `i`-th holding row by row the model's `binning` of slot `i`,
    `self._all_orders[i]` is the model's `argsort` of the cut points of slot `i`. -/
theorem infer_eq (T : ℝ) {n d L K : ℕ} {Xa SA : Arr ℝ} {X : Fin n → Fin d → ℝ} {S : Fin L → Fin K → ℝ}
    (hX : IsMat Xa X) (hS : IsMat SA S) {clA : List (ℕ × Arr ℝ)} {cl : List (ℕ × List ℝ)} (hcl : CplIs clA cl)
    (hne : cl ≠ []) (hin : ∀ z ∈ cl, z.1 < d) (hL : (radices cl).prod = L) :
    IsMat (Gen.Douglas.infer clA SA T Xa) (inferM T X cl S) ∧
    IsMat (Gen.Douglas.infer_retained_leaf clA SA T Xa) (leafM T X cl L) ∧
    ((Gen.Douglas.infer_retained_all_binnings clA SA T Xa).length = cl.length ∧
      ∀ i, i < cl.length → IsRows ((Gen.Douglas.infer_retained_all_binnings clA SA T Xa).getD i err)
        (fun r : Fin n => binning T (xget (X r) (feat cl i)) (cutsAt cl i)) ((cutsAt cl i).length + 1)) ∧
    (∀ i, i < cl.length →
      IsVecN ((Gen.Douglas.infer_retained_all_orders clA SA T Xa).getD i errN) (argsort (cutsAt cl i))) := by
  unfold Gen.Douglas.infer Gen.Douglas.infer_retained_leaf Gen.Douglas.infer_retained_all_binnings
    Gen.Douglas.infer_retained_all_orders
  dsimp only
  have hlb : LeafBinningSpec T (Gen.Douglas.leaf_binning T) := fun hX hc => leaf_binning_isRows T hX hc
  have hml : MergeLeafSpec Gen.Douglas.merge_leaf := fun hA hB h0 => merge_leaf_isRows hA hB h0
  have hres := binnings_results_spec hlb hX hcl hin
  have hleaf := leaf_spec hlb hml hX hcl hne hin hL
  generalize (clA.map fun a => Gen.Douglas.leaf_binning T (Arr.colSlice Xa a.1 (a.1 + 1)) a.2) = P at hres hleaf ⊢
  generalize reduce1 Gen.Douglas.merge_leaf (P.map fun x => x.1) = leafA at hleaf ⊢
  obtain ⟨hSok, hSr, hSc, hSget⟩ := hS
  have hleafM : IsMat leafA (leafM T X cl L) := hleaf.isMat
  obtain ⟨hlok, hlr, hlc, hlget⟩ := hleafM
  have hmm : (matmul leafA SA).ok = true := by simp [hlok, hSok, hlc, hSr]
  simp only [hlok, hmm, Bool.and_self]
  refine ⟨⟨?_, ?_, ?_, fun r k => ?_⟩, ⟨by simp [hlok], hlr, hlc, hlget⟩, ⟨?_, fun i hi => ?_⟩, fun i hi => ?_⟩
  · simp [hlok, hSok, hlc, hSr]
  · simp [hlr]
  · simp [hSc]
  · obtain ⟨leaf, hlf⟩ := leafRow_isSome T (X r) hne hin
    have hlen : leaf.length = L := by rw [leafRow_length hlf, ← hL]; rfl
    rw [inferM_eq T X cl S r hlf hlen]
    simp only [checked_get, softmax_get, matmul_c, matmul_get, hSc, hlc]
    rw [softmaxRowN_val (K := K) _ k]
    congr 1
    funext k'
    simp only [sumTo_def, sumFin_eq_sum, hlget, hSget]
  · rw [List.length_map, List.length_map]
    exact hres.length_eq
  · have h2 : List.Forall₂ (fun (B : Arr ℝ) (z : ℕ × List ℝ) =>
        IsRows B (fun r : Fin n => binning T (xget (X r) z.1) z.2) (z.2.length + 1))
        ((P.map fun x => x.1).map (checked true)) cl := by
      rw [List.forall₂_map_left_iff, List.forall₂_map_left_iff]
      exact hres.imp fun P z h => (checked_true P.1).symm ▸ h.1
    exact forall₂_getD h2 err (0, []) hi
  · have h2 : List.Forall₂ (fun (I : Arr ℕ) (z : ℕ × List ℝ) => IsVecN I (argsort z.2))
        ((P.map fun x => x.2).map (checkedN true)) cl := by
      rw [List.forall₂_map_left_iff, List.forall₂_map_left_iff]
      exact hres.imp fun P z h => (checkedN_true P.2).symm ▸ h.2
    exact forall₂_getD h2 errN (0, []) hi

/-- `_infer` on the arrays built from the model's inputs (`ofFn X`, `ofFn S`, `cplOf cl`): for every sample `r` the model's
    `infer` returns a row, and the generated `_infer` is without error the `(n, K)` matrix of these rows. -/
theorem infer_ofFn_eq (T : ℝ) {n d L K : ℕ} (X : Fin n → Fin d → ℝ) (S : Fin L → Fin K → ℝ) {cl : List (ℕ × List ℝ)}
    (hne : cl ≠ []) (hin : ∀ z ∈ cl, z.1 < d) (hL : (radices cl).prod = L) :
    (∀ r, ∃ row, infer T X cl S r = some row ∧ ∀ k : Fin K, row.getD k.val 0 = inferM T X cl S r k) ∧
    Eqv (Gen.Douglas.infer (cplOf cl) (ofFn S) T (ofFn X)) (ofFn (inferM T X cl S)) := by
  refine ⟨fun r => ?_, (infer_eq T (isMat_ofFn X) (isMat_ofFn S) (cplIs_cplOf cl) hne hin hL).1.eqv⟩
  obtain ⟨leaf, hlf⟩ := leafRow_isSome T (X r) hne hin
  have hlen : leaf.length = L := by rw [leafRow_length hlf, ← hL]; rfl
  refine ⟨softmaxRow (scoreRow leaf S), by simp [infer, inferRow, hlf, hlen], fun k => ?_⟩
  simp [inferM, infer, inferRow, hlf, hlen]

/-- An empty `cut_points_list_`: `reduce` of an empty sequence raises TypeError; the generated `_infer` carries an error, as the
    model's `infer` is `none`. -/
theorem infer_empty_raises (T : ℝ) (SA Xa : Arr ℝ) : (Gen.Douglas.infer [] SA T Xa).ok = false := by
  simp [Gen.Douglas.infer]

/-- A feature index of `cut_points_list_` outside the data (`X[:, f:f+1]` is then an empty slice and `X @ W` raises): the
    generated `_infer` carries an error, as the model's `infer` is `none` on every sample (`inRange` fails). -/
theorem infer_out_of_range_raises (T : ℝ) {n d : ℕ} {Xa SA : Arr ℝ} {X : Fin n → Fin d → ℝ} (hX : IsMat Xa X)
    {clA : List (ℕ × Arr ℝ)} {cl : List (ℕ × List ℝ)} (hcl : CplIs clA cl) (hbad : ∃ z ∈ cl, d ≤ z.1) :
    (Gen.Douglas.infer clA SA T Xa).ok = false := by
  have hmerge_l : ∀ A B : Arr ℝ, A.ok = false → (Gen.Douglas.merge_leaf A B).ok = false := fun A B h => by
    simp [Gen.Douglas.merge_leaf, Arr3.mul, h]
  have hmerge_r : ∀ A B : Arr ℝ, B.ok = false → (Gen.Douglas.merge_leaf A B).ok = false := fun A B h => by
    simp [Gen.Douglas.merge_leaf, Arr3.mul, h]
  -- the array of that feature exists in `clA`, with the same index
  obtain ⟨z, hz, hdz⟩ := hbad
  have hmem : ∃ a ∈ clA, d ≤ a.1 := by
    unfold CplIs at hcl
    induction hcl with
    | nil => exact absurd hz (by simp)
    | @cons a z' as zs haz _ ih =>
      rcases List.mem_cons.mp hz with rfl | hz'
      · exact ⟨a, List.mem_cons_self, by rw [haz.1]; exact hdz⟩
      · obtain ⟨a', ha', hd'⟩ := ih hz'
        exact ⟨a', List.mem_cons_of_mem _ ha', hd'⟩
  obtain ⟨a, ha, hda⟩ := hmem
  have hbin : (Gen.Douglas.leaf_binning T (Arr.colSlice Xa a.1 (a.1 + 1)) a.2).1.ok = false := by
    have hc0 := colSlice_c_of_le hX.c hda
    generalize Arr.colSlice Xa a.1 (a.1 + 1) = Xs at hc0 ⊢
    simp [Gen.Douglas.leaf_binning, add, hc0]
  unfold Gen.Douglas.infer
  dsimp only
  have hP : ∃ p ∈ (clA.map fun z => Gen.Douglas.leaf_binning T (Arr.colSlice Xa z.1 (z.1 + 1)) z.2), p.1.ok = false :=
    ⟨_, List.mem_map.mpr ⟨a, ha, rfl⟩, hbin⟩
  generalize (clA.map fun z => Gen.Douglas.leaf_binning T (Arr.colSlice Xa z.1 (z.1 + 1)) z.2) = P at hP ⊢
  obtain ⟨p, hp, hpok⟩ := hP
  have hleaf : (reduce1 Gen.Douglas.merge_leaf (P.map fun x => x.1)).ok = false :=
    reduce1_ok_false hmerge_l hmerge_r ⟨p.1, List.mem_map.mpr ⟨p, hp, rfl⟩, hpok⟩
  simp only [hleaf, checked_ok, Bool.false_and, Bool.and_false]

/-- A `leaf_scores_` whose number of rows is not the number of leaves `∏ (len(cuts) + 1)`: `leaf @ self.leaf_scores_` raises; the
    generated `_infer` carries an error, as the model's `infer` is `none`. -/
theorem infer_wrong_leaf_count_raises (T : ℝ) {n d L K : ℕ} {Xa SA : Arr ℝ} {X : Fin n → Fin d → ℝ} {S : Fin L → Fin K → ℝ}
    (hX : IsMat Xa X) (hS : IsMat SA S) {clA : List (ℕ × Arr ℝ)} {cl : List (ℕ × List ℝ)} (hcl : CplIs clA cl)
    (hne : cl ≠ []) (hin : ∀ z ∈ cl, z.1 < d) (hL : (radices cl).prod ≠ L) :
    (Gen.Douglas.infer clA SA T Xa).ok = false := by
  have hlb : LeafBinningSpec T (Gen.Douglas.leaf_binning T) := fun hX hc => leaf_binning_isRows T hX hc
  have hml : MergeLeafSpec Gen.Douglas.merge_leaf := fun hA hB h0 => merge_leaf_isRows hA hB h0
  have hleaf := leaf_spec hlb hml hX hcl hne hin rfl
  unfold Gen.Douglas.infer
  dsimp only
  generalize reduce1 Gen.Douglas.merge_leaf
    ((clA.map fun z => Gen.Douglas.leaf_binning T (Arr.colSlice Xa z.1 (z.1 + 1)) z.2).map fun x => x.1) = leafA at hleaf ⊢
  have hc := hleaf.c
  have hr := hS.r
  simp [hc, hr, hL]

/-- Meaning of `UpdatesAre L K U G`: the list of arrays `U` and the list of lists `G` have the same length ≥ 1, the first array
    is without error the `(L, K)` matrix stored row-major in the first list, every other array is without error the 1-D array
    of the entries of the corresponding list. -/
theorem updatesAre_spelled_out (L K : ℕ) (u : Arr ℝ) (us : List (Arr ℝ)) (g : List ℝ) (gs : List (List ℝ)) :
    UpdatesAre L K (u :: us) (g :: gs) ↔
      IsMat u (fun (l : Fin L) (k : Fin K) => g.getD (l.val * K + k.val) 0) ∧ List.Forall₂ IsVec us gs :=
  Iff.rfl

set_option linter.unusedVariables false in
/-- `Douglas._compute_grads(X, y_pred, gradient)` as written in the source (soft-max back-propagation, `binning_backprop` and
    `leaf_score_backprop`, the N-d reshape / `*=` / `sum(axes_for_sum)` marginalisation, `bin_grad`, `bias_grad = bin_grad.sum(0)[1:]`,
    the reversed cumulative sum, the sort undone by `cumsum_grad[np.argsort(self._all_orders[i])]` or by a scatter through
    `self._all_orders[i]` into `np.empty_like` memory (see Spellings above), the negations), applied to any retained
    state that holds the model's leaf memberships, binnings and orders and to arrays holding `cl`, `S`, `y_pred`, `gradient`
    (`X` itself is not read): the returned list is, without error, the model's update list in closed form — first
    `-leaf_score_backprop` (`lsbSpec`, row-major `L × K`), then one `-cut_grad` per entry of `cut_points_list_` (`cutGradSpec`), which
    is what the model's `computeGrads` returns (`computeGrads_some` of Lemmas/DouglasGrad.lean).  All sizes, `n = 0` and empty cut
    vectors included.  (`hBlen` is not used: `hB` describes every entry `Bs.getD i err` the loop reads.) -/
theorem compute_grads_closed_form {n d L K : ℕ} (T : ℝ) (X : Fin n → Fin d → ℝ) (cl : List (ℕ × List ℝ)) (S : Fin L → Fin K → ℝ)
    (yPred grad : Fin n → Fin K → ℝ) (hL : (radices cl).prod = L)
    {Bs : List (Arr ℝ)} {Os : List (Arr ℕ)} {leafA SA Xa yA gA : Arr ℝ} {clA : List (ℕ × Arr ℝ)}
    (hcl : CplIs clA cl) (hleaf : IsMat leafA (leafM T X cl L)) (hBlen : Bs.length = cl.length)
    (hB : ∀ i, i < cl.length → IsRows (Bs.getD i err)
            (fun r : Fin n => binning T (xget (X r) (feat cl i)) (cutsAt cl i)) ((cutsAt cl i).length + 1))
    (hO : ∀ i, i < cl.length → IsVecN (Os.getD i errN) (argsort (cutsAt cl i)))
    (hS : IsMat SA S) (hy : IsMat yA yPred) (hg : IsMat gA grad) :
    UpdatesAre L K (Gen.Douglas.compute_grads Bs Os leafA clA SA T Xa yA gA)
      (lsbSpec T X cl L yPred grad :: cl.zipIdx.map (cutGradSpec T X cl (bbM T X cl S yPred grad))) := by
  have hLpos : L ≠ 0 := by rw [← hL]; exact radices_prod_ne_zero cl
  have hlen : clA.length = cl.length := hcl.length_eq
  have hypg := Arr.isMat_y_pred_grad hy hg
  have hbb0 := hypg.matmul_real hS.transpose
  have hlsb := hleaf.transpose.matmul_real hypg
  have hbb1 := isArrN_reshapeOf hbb0 hL hLpos
  have hP : IsArrN _ _ (bbM T X cl S yPred grad) := hbb1.mul (isArrN_reshapeOf hleaf hL hLpos)
  unfold Gen.Douglas.compute_grads
  dsimp only
  rw [axes_eq_radices hcl]
  generalize Arr.mul yA (Arr.sub gA (Arr.sumAxis1 (Arr.mul yA gA))) = ypg at hypg hbb0 hlsb hbb1 hP ⊢
  generalize Arr.matmul ypg (Arr.transpose SA) = bb0 at hbb0 hbb1 hP ⊢
  generalize Arr.matmul (Arr.transpose leafA) ypg = lsb at hlsb ⊢
  generalize ArrN.reshapeOf bb0 (radices cl) = bb1 at hbb1 hP ⊢
  generalize ArrN.mul bb1 (ArrN.reshapeOf leafA (radices cl)) = P at hP ⊢
  -- the loop, read semantically: whatever temporaries a round binds, it raises nothing and appends `-cut_grad`, where `cut_grad`
  -- is `cumsum_grad` with the sort undone in one of three spellings: gathered through `np.argsort(order)` (`loopCut`), scattered
  -- through `order` into `np.empty_like(cumsum_grad)` (`loopCutS`), gathered through ranks built by scatter (`loopCutR`)
  first
    | rw [foldl_updates_true _ (fun zi => Arr.neg (loopCut P Bs Os T zi.2)) clA.zipIdx _ (fun st zi => rfl)]
    | rw [foldl_updates_true _ (fun zi => Arr.neg (loopCutS P Bs Os T zi.2)) clA.zipIdx _ (fun st zi => rfl)]
    | rw [foldl_updates_true _ (fun zi => Arr.neg (loopCutR P Bs Os T zi.2)) clA.zipIdx _ (fun st zi => rfl)]
  · dsimp only
    simp only [hypg.ok, hbb0.ok, hlsb.ok, hbb1.ok, hP.ok, Bool.and_self, List.map_append, List.map_cons, List.map_nil,
      List.singleton_append, List.map_map]
    refine ⟨?_, ?_⟩
    · rw [checked_true]
      obtain ⟨h1, h2, h3, h4⟩ := hlsb.neg
      exact ⟨h1, h2, h3, fun l k => by rw [h4]; exact (lsbSpec_getD T X cl L yPred grad l k).symm⟩
    · rw [List.forall₂_iff_get]
      refine ⟨by simp [hlen], fun i h1 h2 => ?_⟩
      have hi : i < cl.length := by simpa using h2
      simp only [List.get_eq_getElem, List.getElem_map, List.getElem_zipIdx, Function.comp, Nat.zero_add]
      rw [checked_true]
      first
        | exact (loop_round_spec T X cl _ hP hi (hB i hi) (hO i hi)).2
        | exact (loop_round_spec_scatter T X cl _ hP hi (hB i hi) (hO i hi)).2
        | exact (loop_round_spec_ranks T X cl _ hP hi (hB i hi) (hO i hi)).2
  · rintro st ⟨a, i⟩ hzi hst
    have hi : i < cl.length := by rw [← hlen]; exact (List.mem_zipIdx' hzi).1
    have hok := (loop_round_spec T X cl _ hP hi (hB i hi) (hO i hi)).1
    -- the arrays only the scatter spellings bind
    have hS := (loop_round_spec_scatter T X cl _ hP hi (hB i hi) (hO i hi)).1
    have hR := (loop_round_spec_ranks T X cl _ hP hi (hB i hi) (hO i hi)).1
    simp only [loopOk, loopCut, loopCutS, loopCutR, loopRanks, loopCs, loopBias, loopBg1, loopBg, loopWg,
      Bool.and_eq_true] at hok hS hR
    have h7 : (nthN Os i).ok = true := (hO i hi).ok
    have h8 : (nthN Os i).r = 1 := (hO i hi).r
    dsimp only
    simp only [hst, hok, hS, hR, h7, h8, sumAxis1_ok, argsortN_ok, Bool.and_self, beq_self_eq_true]

/-- `_infer(X)` followed by `_compute_grads(X, y_pred, gradient)` as `fit` calls them, both as written in the source, on the
    arrays built from the model's inputs (non-empty `cl`, feature indices inside the data, `L` leaves): the model's
    `computeGrads` returns a list `G`, and the generated `_compute_grads`, reading what the generated `_infer` retained, returns
    without error exactly `G` (`-leaf_score_backprop` as the `(L, K)` matrix, then the `-cut_grad` vectors). -/
theorem compute_grads_eq {n d L K : ℕ} (T : ℝ) (X : Fin n → Fin d → ℝ) {cl : List (ℕ × List ℝ)} (S : Fin L → Fin K → ℝ)
    (yPred grad : Fin n → Fin K → ℝ) (hne : cl ≠ []) (hin : ∀ z ∈ cl, z.1 < d) (hL : (radices cl).prod = L) (Xa' : Arr ℝ) :
    ∃ G, computeGrads T X cl S yPred grad = some G ∧
      UpdatesAre L K
        (Gen.Douglas.compute_grads (Gen.Douglas.infer_retained_all_binnings (cplOf cl) (ofFn S) T (ofFn X))
          (Gen.Douglas.infer_retained_all_orders (cplOf cl) (ofFn S) T (ofFn X))
          (Gen.Douglas.infer_retained_leaf (cplOf cl) (ofFn S) T (ofFn X)) (cplOf cl) (ofFn S) T Xa' (ofFn yPred) (ofFn grad)) G := by
  obtain ⟨G, hG⟩ := computeGrads_isSome T X hne hin hL.symm S yPred grad
  obtain ⟨-, hleaf, ⟨hBlen, hB⟩, hO⟩ := infer_eq T (isMat_ofFn X) (isMat_ofFn S) (cplIs_cplOf cl) hne hin hL
  refine ⟨G, hG, ?_⟩
  rw [(computeGrads_some T X cl S yPred grad hG).2]
  exact compute_grads_closed_form T X cl S yPred grad hL (cplIs_cplOf cl) hleaf hBlen hB hO (isMat_ofFn S) (isMat_ofFn yPred)
    (isMat_ofFn grad)

/-- non-vacuity of the hypotheses of `infer_eq` / `compute_grads_eq`: one feature, one cut point, two leaves -/
example : ([(0, [(0 : ℝ)])] : List (ℕ × List ℝ)) ≠ [] ∧ (∀ z ∈ ([(0, [(0 : ℝ)])] : List (ℕ × List ℝ)), z.1 < 1) ∧
    (radices ([(0, [(0 : ℝ)])] : List (ℕ × List ℝ))).prod = 2 := by
  refine ⟨by simp, by simp, by simp [radices]⟩

end GemVerif.Props.C15Gen
