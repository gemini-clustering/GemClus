/-
  C01 — GEMINI scores equal their defining statistical distances, at interior points (where the clipping is inactive);
  the Wasserstein GEMINI modulo POT's `ot.emd2`.
-/
import GemVerif.Lemmas.GeminiC01
import GemVerif.Lemmas.WassForms
import GemVerif.Gen.Registry

namespace GemVerif.Props.C01
open Model Spec

variable {n K : ℕ}

/-- KL one-vs-all (= the name `mi`): the code's `prediction_entropy - cluster_entropy`
    is `Σ_k π_k · KL(p(x|k) ‖ p(x))`, for every shape and every interior `P`. -/
theorem kl_ova_eq_spec (hn : 0 < n) {ε : ℝ} (hε : 0 < ε) (P : Fin n → Fin K → ℝ) (hI : Interior ε P) :
    klScore ε false P = Spec.ova Spec.KL P := by
  have hP := P_pos hε hI
  rw [klScore_ova_interior hI, Spec.ova, ← Finset.sum_sub_distrib]
  refine Finset.sum_congr rfl fun k _ => ?_
  have hπ := pi_pos hn hP k
  have hlog : ∀ i, Real.log (P i k / Spec.pi P k) = Real.log (P i k) - Real.log (Spec.pi P k) :=
    fun i => Real.log_div (hP i k).ne' hπ.ne'
  rw [pi_mul_dist_ova (fun _ => KL_div) hn hπ]
  simp only [Spec.KL, hlog, mul_sub, Finset.sum_sub_distrib, ← Finset.sum_mul, sum_col_eq hn, sub_div]
  rw [mul_assoc, mul_div_cancel_left₀ _ (Nat.cast_ne_zero.2 hn.ne')]

/-- The hypotheses used below (`0 < ε`, `Interior ε P`, unit row sums) are jointly satisfiable for
    every `n` and every `K ≥ 2` (for `K = 1` a row-stochastic `P` is identically 1 and is always
    clipped). -/
example (hK : 2 ≤ K) :
    ∃ (ε : ℝ) (P : Fin n → Fin K → ℝ), 0 < ε ∧ Interior ε P ∧ ∀ i, ∑ k, P i k = 1 := by
  have hK2 : (2 : ℝ) ≤ K := by exact_mod_cast hK
  have hK0 : (0 : ℝ) < K := two_pos.trans_le hK2
  have h0 : 0 < 1 / (K : ℝ) := one_div_pos.2 hK0
  have h1 : 1 / (K : ℝ) ≤ 1 / 2 := one_div_le_one_div_of_le two_pos hK2
  refine ⟨1 / K / 2, fun _ _ => 1 / K, half_pos h0, fun _ _ => ⟨half_lt_self h0, by linarith⟩, fun _ => ?_⟩
  exact unif_sum (two_pos.trans_le hK)

/-- KL one-vs-one: the code's `prediction_entropy - Σ_k π_k · mean_i log p_ik` is
    `Σ_a Σ_b π_a π_b · KL(p(x|a) ‖ p(x|b))`.  Unit row sums are necessary here: for `P = t • Q` with
    `Q` row-stochastic the spec value is `t` times the code value. -/
theorem kl_ovo_eq_spec (hn : 0 < n) {ε : ℝ} (hε : 0 < ε) (P : Fin n → Fin K → ℝ) (hI : Interior ε P)
    (hrow : ∀ i, ∑ k, P i k = 1) :
    klScore ε true P = Spec.ovo Spec.KL P := by
  have hP := P_pos hε hI
  have hπ := pi_pos hn hP
  rw [klScore_ovo_interior hI, Spec.ovo]
  have hterm : ∀ a b, Spec.pi P a * Spec.pi P b * Spec.KL (Spec.cond P a) (Spec.cond P b)
      = Spec.pi P b * ((∑ i, P i a * Real.log (P i a)) / n)
        - Spec.pi P b * ((∑ i, P i a * Real.log (P i b)) / n)
        + (Spec.pi P a * (Spec.pi P b * Real.log (Spec.pi P b))
            - Spec.pi P b * (Spec.pi P a * Real.log (Spec.pi P a))) := fun a b => by
    have hlog : ∀ i, Spec.pi P b * P i a * Real.log (Spec.pi P b * P i a / (Spec.pi P a * P i b))
        = Spec.pi P b * (P i a * Real.log (P i a)) - Spec.pi P b * (P i a * Real.log (P i b))
          + P i a * (Spec.pi P b * (Real.log (Spec.pi P b) - Real.log (Spec.pi P a))) := fun i => by
      rw [Real.log_div (mul_pos (hπ b) (hP i a)).ne' (mul_pos (hπ a) (hP i b)).ne',
        Real.log_mul (hπ b).ne' (hP i a).ne', Real.log_mul (hπ a).ne' (hP i b).ne']
      ring
    rw [pi_mul_dist_ovo (fun _ => KL_div) hn (hπ a) (hπ b)]
    simp only [Spec.KL, hlog, Finset.sum_add_distrib, Finset.sum_sub_distrib, ← Finset.sum_mul, ← Finset.mul_sum,
      sum_col_eq hn P a]
    rw [add_div, mul_assoc, mul_div_cancel_left₀ _ (Nat.cast_ne_zero.2 hn.ne')]
    ring
  simp only [hterm, Finset.sum_add_distrib, Finset.sum_sub_distrib]
  have h1 : ∑ a, ∑ b, Spec.pi P b * ((∑ i, P i a * Real.log (P i a)) / n)
      = ∑ k, (∑ i, P i k * Real.log (P i k)) / n := by
    simp only [← Finset.sum_mul, sum_pi_eq_one hn hrow, one_mul]
  have h2 : ∑ a, ∑ b, Spec.pi P b * ((∑ i, P i a * Real.log (P i b)) / n)
      = ∑ k, Spec.pi P k * ((∑ i, Real.log (P i k)) / n) := by
    rw [Finset.sum_comm]
    refine Finset.sum_congr rfl fun b _ => ?_
    rw [← Finset.mul_sum, ← Finset.sum_div, Finset.sum_comm]
    simp only [← Finset.sum_mul, hrow, one_mul]
  have h3 : ∑ a, ∑ b, Spec.pi P b * (Spec.pi P a * Real.log (Spec.pi P a))
      = ∑ a, ∑ b, Spec.pi P a * (Spec.pi P b * Real.log (Spec.pi P b)) := Finset.sum_comm
  rw [h1, h2, h3]
  ring

/-- TV one-vs-all: `Σ_k π_k · TV(p(x|k), p(x))` (no row-sum hypothesis needed). -/
theorem tv_ova_eq_spec (hn : 0 < n) {ε : ℝ} (hε : 0 < ε) (P : Fin n → Fin K → ℝ) (hI : Interior ε P) :
    tvScore ε false P = Spec.ova Spec.TV P := by
  rw [tvScore_ova_interior hI, Spec.ova, Finset.mul_sum]
  refine Finset.sum_congr rfl fun k _ => ?_
  rw [pi_mul_dist_ova (fun _ => TV_div) hn (pi_pos hn (P_pos hε hI) k), Spec.TV, mul_div_assoc]

/-- TV one-vs-one: `Σ_a Σ_b π_a π_b · TV(p(x|a), p(x|b))` (no row-sum hypothesis needed). -/
theorem tv_ovo_eq_spec (hn : 0 < n) {ε : ℝ} (hε : 0 < ε) (P : Fin n → Fin K → ℝ) (hI : Interior ε P) :
    tvScore ε true P = Spec.ovo Spec.TV P := by
  rw [tvScore_ovo_interior hI, Spec.ovo, Finset.mul_sum]
  refine Finset.sum_congr rfl fun a _ => ?_
  rw [Finset.mul_sum]
  refine Finset.sum_congr rfl fun b _ => ?_
  rw [pi_mul_dist_ovo (fun _ => TV_div) hn (pi_pos hn (P_pos hε hI) a) (pi_pos hn (P_pos hε hI) b), Spec.TV,
    mul_div_assoc]
  simp only [abs_sub_comm (Spec.pi P b * _)]

/-- Squared Hellinger one-vs-all without the row-sum hypothesis: the code value exceeds
    `Σ_k π_k · H²(p(x|k), p(x))` by `1 - Σ_k π_k` (so unit mean row sum is exactly what is needed). -/
theorem hellinger_ova_eq_spec_gen (hn : 0 < n) {ε : ℝ} (hε : 0 < ε) (P : Fin n → Fin K → ℝ)
    (hI : Interior ε P) :
    hellingerScore ε false P = Spec.ova Spec.H2 P + (1 - ∑ k, Spec.pi P k) := by
  simp only [hellingerScore_ova_interior hI, Spec.ova, Spec.H2]
  have hterm : ∀ k, Spec.pi P k * (1 - ∑ i, Real.sqrt (Spec.cond P k i * Spec.unif n i))
      = Spec.pi P k - (∑ i, Real.sqrt (P i k * Spec.pi P k)) / n := fun k => by
    rw [mul_sub, mul_one, pi_mul_dist_ova (D := fun p q => ∑ i, Real.sqrt (p i * q i)) (fun _ => sum_sqrt_div) hn
      (pi_pos hn (P_pos hε hI) k)]
  simp only [hterm]
  rw [Finset.sum_sub_distrib, Finset.sum_comm, Finset.sum_div]
  ring

/-- Squared Hellinger one-vs-all: `Σ_k π_k · H²(p(x|k), p(x))`.  Unit row sums are necessary
    (the code's leading `1` stands for `Σ_k π_k`, see `hellinger_ova_eq_spec_gen`). -/
theorem hellinger_ova_eq_spec (hn : 0 < n) {ε : ℝ} (hε : 0 < ε) (P : Fin n → Fin K → ℝ)
    (hI : Interior ε P) (hrow : ∀ i, ∑ k, P i k = 1) :
    hellingerScore ε false P = Spec.ova Spec.H2 P := by
  rw [hellinger_ova_eq_spec_gen hn hε P hI, sum_pi_eq_one hn hrow]; ring

/-- Squared Hellinger one-vs-one without the row-sum hypothesis: the code value exceeds
    `Σ_a Σ_b π_a π_b · H²(p(x|a), p(x|b))` by `1 - (Σ_k π_k)²`. -/
theorem hellinger_ovo_eq_spec_gen (hn : 0 < n) {ε : ℝ} (hε : 0 < ε) (P : Fin n → Fin K → ℝ)
    (hI : Interior ε P) :
    hellingerScore ε true P = Spec.ovo Spec.H2 P + (1 - (∑ k, Spec.pi P k) ^ 2) := by
  have hP := P_pos hε hI
  simp only [hellingerScore_ovo_interior hI, Spec.ovo, Spec.H2]
  have hterm : ∀ a b, Spec.pi P a * Spec.pi P b *
      (1 - ∑ i, Real.sqrt (Spec.cond P a i * Spec.cond P b i))
      = Spec.pi P a * Spec.pi P b
        - (∑ i, Real.sqrt (P i a * Spec.pi P a) * Real.sqrt (P i b * Spec.pi P b)) / n := fun a b => by
    have hπa := pi_pos hn hP a
    have hs : ∀ i, Real.sqrt (Spec.pi P b * P i a * (Spec.pi P a * P i b))
        = Real.sqrt (P i a * Spec.pi P a) * Real.sqrt (P i b * Spec.pi P b) := fun i => by
      rw [← Real.sqrt_mul (mul_pos (hP i a) hπa).le]
      congr 1
      ring
    rw [mul_sub, mul_one, pi_mul_dist_ovo (D := fun p q => ∑ i, Real.sqrt (p i * q i)) (fun _ => sum_sqrt_div) hn
      hπa (pi_pos hn hP b)]
    simp only [hs]
  simp only [hterm, Finset.sum_sub_distrib]
  rw [sum_sum_sum_mul_div (fun k i => Real.sqrt (P i k * Spec.pi P k)) fun k i => Real.sqrt (P i k * Spec.pi P k),
    sum_sum_pi]
  ring

/-- Squared Hellinger one-vs-one: `Σ_a Σ_b π_a π_b · H²(p(x|a), p(x|b))`.  Unit row sums are
    necessary (the code's leading `1` stands for `(Σ_k π_k)²`, see `hellinger_ovo_eq_spec_gen`). -/
theorem hellinger_ovo_eq_spec (hn : 0 < n) {ε : ℝ} (hε : 0 < ε) (P : Fin n → Fin K → ℝ)
    (hI : Interior ε P) (hrow : ∀ i, ∑ k, P i k = 1) :
    hellingerScore ε true P = Spec.ovo Spec.H2 P := by
  rw [hellinger_ovo_eq_spec_gen hn hε P hI, sum_pi_eq_one hn hrow]; ring

/-- Pearson chi-square one-vs-all without the row-sum hypothesis: the code value is
    `(Σ_k π_k · χ²(p(x|k) ‖ p(x)) + Σ_k π_k) / 2`. -/
theorem chi2_ova_eq_spec_gen (hn : 0 < n) {ε : ℝ} (hε : 0 < ε) (P : Fin n → Fin K → ℝ)
    (hI : Interior ε P) :
    chi2Score ε false P = (Spec.ova Spec.chi2 P + ∑ k, Spec.pi P k) / 2 := by
  rw [chi2Score_ova_interior hI, Spec.ova]
  -- `(p - π)² / π = p (p / π) - 2 p + π`, and the column sums to `N π`
  have hterm : ∀ k, Spec.pi P k * Spec.chi2 (Spec.cond P k) (Spec.unif n)
      = (∑ i, P i k * (P i k / Spec.pi P k)) / n - Spec.pi P k := fun k => by
    have hπ := pi_pos hn (P_pos hε hI) k
    have hexp : ∀ i, (P i k - Spec.pi P k) ^ 2 / Spec.pi P k
        = P i k * (P i k / Spec.pi P k) - 2 * P i k + Spec.pi P k := fun i => by
      field_simp
      ring
    rw [pi_mul_dist_ova (fun _ => chi2_div) hn hπ]
    simp only [Spec.chi2, hexp, Finset.sum_add_distrib, Finset.sum_sub_distrib, ← Finset.mul_sum, sum_col_eq hn P k,
      Fin.sum_const, nsmul_eq_mul]
    rw [sub_add, ← sub_one_mul, show (2 : ℝ) - 1 = 1 by norm_num, one_mul, sub_div,
      mul_div_cancel_left₀ _ (Nat.cast_ne_zero.2 hn.ne')]
  simp only [hterm]
  rw [Finset.sum_sub_distrib, Finset.sum_comm, Finset.sum_div]
  ring

/-- Pearson chi-square one-vs-all: the code value is `(Σ_k π_k · χ²(p(x|k) ‖ p(x)) + 1) / 2`.
    Unit row sums are necessary (the `+ 1` stands for `Σ_k π_k`, see `chi2_ova_eq_spec_gen`). -/
theorem chi2_ova_eq_spec (hn : 0 < n) {ε : ℝ} (hε : 0 < ε) (P : Fin n → Fin K → ℝ)
    (hI : Interior ε P) (hrow : ∀ i, ∑ k, P i k = 1) :
    chi2Score ε false P = (Spec.ova Spec.chi2 P + 1) / 2 := by
  rw [chi2_ova_eq_spec_gen hn hε P hI, sum_pi_eq_one hn hrow]

/-- Pearson chi-square one-vs-one without the row-sum hypothesis: the code value is
    `(Σ_a Σ_b π_a π_b · χ²(p(x|a) ‖ p(x|b)) + (Σ_k π_k)²) / 2`. -/
theorem chi2_ovo_eq_spec_gen (hn : 0 < n) {ε : ℝ} (hε : 0 < ε) (P : Fin n → Fin K → ℝ)
    (hI : Interior ε P) :
    chi2Score ε true P = (Spec.ovo Spec.chi2 P + (∑ k, Spec.pi P k) ^ 2) / 2 := by
  have hP := P_pos hε hI
  rw [chi2Score_ovo_interior hI, Spec.ovo]
  -- `(x - y)² / y = x² / y - 2 x + y` at `x = π_b P_ia`, `y = π_a P_ib`
  have hterm : ∀ a b, Spec.pi P a * Spec.pi P b * Spec.chi2 (Spec.cond P a) (Spec.cond P b)
      = (∑ i, (P i a * (P i a / Spec.pi P a)) * (Spec.pi P b / (P i b / Spec.pi P b))) / n
        - Spec.pi P a * Spec.pi P b := fun a b => by
    have hπa := pi_pos hn hP a
    have hπb := pi_pos hn hP b
    have hexp : ∀ i, (Spec.pi P b * P i a - Spec.pi P a * P i b) ^ 2 / (Spec.pi P a * P i b)
        = P i a * (P i a / Spec.pi P a) * (Spec.pi P b / (P i b / Spec.pi P b))
          - 2 * (Spec.pi P b * P i a) + Spec.pi P a * P i b := fun i => by
      have := (hP i b).ne'
      field_simp
      ring
    rw [pi_mul_dist_ovo (fun _ => chi2_div) hn hπa hπb]
    simp only [Spec.chi2, hexp, Finset.sum_add_distrib, Finset.sum_sub_distrib, ← Finset.mul_sum, sum_col_eq hn P]
    rw [sub_add, sub_div]
    congr 1
    field_simp
    ring
  simp only [hterm, Finset.sum_sub_distrib, sum_sum_pi]
  rw [sum_sum_sum_mul_div (fun k i => P i k * (P i k / Spec.pi P k)) fun k i => Spec.pi P k / (P i k / Spec.pi P k)]
  ring

/-- Pearson chi-square one-vs-one: the code value is
    `(Σ_a Σ_b π_a π_b · χ²(p(x|a) ‖ p(x|b)) + 1) / 2`.  Unit row sums are necessary
    (the `+ 1` stands for `(Σ_k π_k)²`, see `chi2_ovo_eq_spec_gen`). -/
theorem chi2_ovo_eq_spec (hn : 0 < n) {ε : ℝ} (hε : 0 < ε) (P : Fin n → Fin K → ℝ)
    (hI : Interior ε P) (hrow : ∀ i, ∑ k, P i k = 1) :
    chi2Score ε true P = (Spec.ovo Spec.chi2 P + 1) / 2 := by
  rw [chi2_ovo_eq_spec_gen hn hε P hI, sum_pi_eq_one hn hrow]; norm_num

/-- MMD one-vs-all: `Σ_k π_k · MMD_κ(p(x|k), p(x))` for every symmetric affinity `κ` — no
    positive-semidefiniteness hypothesis (`np.sqrt(np.maximum(x, 0))` and `Real.sqrt` agree on
    negative arguments) and no row-sum hypothesis; `0 < n`, `0 < ε` are not needed either. -/
theorem mmd_ova_eq_spec {ε : ℝ} (P : Fin n → Fin K → ℝ) (hI : Interior ε P)
    (κ : Fin n → Fin n → ℝ) (hκ : ∀ i j, κ i j = κ j i) :
    mmdScore ε false P κ = Spec.ova (Spec.MMD κ) P :=
  mmdScore_ova_interior hI hκ

/-- MMD one-vs-one: `Σ_a Σ_b π_a π_b · MMD_κ(p(x|a), p(x|b))` for every symmetric affinity `κ`
    (no positive-semidefiniteness and no row-sum hypothesis). -/
theorem mmd_ovo_eq_spec {ε : ℝ} (P : Fin n → Fin K → ℝ) (hI : Interior ε P)
    (κ : Fin n → Fin n → ℝ) (hκ : ∀ i j, κ i j = κ j i) :
    mmdScore ε true P κ = Spec.ovo (Spec.MMD κ) P := by
  rw [mmdScore_ovo_interior hI hκ, Spec.ovo]
  refine Finset.sum_congr rfl fun a _ => ?_
  rw [Finset.mul_sum]
  exact Finset.sum_congr rfl fun b _ => by ring

/-- Wasserstein: the weight vector handed to `ot.emd2` for cluster `k` is exactly the empirical
    conditional `p(x|k)`. -/
theorem wassWeights_eq_cond {ε : ℝ} (P : Fin n → Fin K → ℝ) (hI : Interior ε P) (k : Fin K) :
    wassWeights ε P k = Spec.cond P k := by
  rw [wassWeights_eq, clipP_of_interior hI]

/-- Wasserstein: every weight vector handed to `ot.emd2` is a probability vector
    (non-negative — in fact positive — entries that sum to one). -/
theorem wassWeights_prob (hn : 0 < n) {ε : ℝ} (hε : 0 < ε) (P : Fin n → Fin K → ℝ) (hI : Interior ε P)
    (k : Fin K) :
    (∀ i, 0 < wassWeights ε P k i) ∧ ∑ i, wassWeights ε P k i = 1 := by
  rw [wassWeights_eq_cond P hI k]
  exact cond_openSimplex hn (P_pos hε hI) k

/-- Wasserstein: the reference vector `np.ones(N) / N` handed to `ot.emd2` in the one-vs-all mode is a
    probability vector too. -/
theorem unif_prob (hn : 0 < n) : (∀ i, 0 < Spec.unif n i) ∧ ∑ i, Spec.unif n i = 1 :=
  unif_openSimplex hn

/-- Wasserstein one-vs-all, modulo POT: for an arbitrary function `emd2` standing for
    `ot.emd2(·, ·, affinity)`, the code value is `Σ_k π_k · emd2(p(x|k), p(x))`. -/
theorem wass_ova_eq_spec {ε : ℝ} (emd2 : (Fin n → ℝ) → (Fin n → ℝ) → Model.Emd ℝ n)
    (P : Fin n → Fin K → ℝ) (hI : Interior ε P) :
    wassScore emd2 ε false P = ∑ k, Spec.pi P k * (emd2 (Spec.cond P k) (Spec.unif n)).value := by
  simp only [wassScore_eq, wassScoreT_ova, clipP_of_interior hI, mean0_eq_pi, wassWeights_eq_cond P hI]
  rfl

/-- Wasserstein one-vs-one, modulo POT: if `emd2` is symmetric in value and vanishes on equal
    arguments — required only on the conditionals `p(x|k)` actually handed to it — the code's
    mirrored upper-triangular table gives `Σ_a Σ_b π_a π_b · emd2(p(x|a), p(x|b))`. -/
theorem wass_ovo_eq_spec_of_on_cond {ε : ℝ} (emd2 : (Fin n → ℝ) → (Fin n → ℝ) → Model.Emd ℝ n)
    (P : Fin n → Fin K → ℝ) (hI : Interior ε P)
    (hsymm : ∀ a b : Fin K, (emd2 (Spec.cond P a) (Spec.cond P b)).value
      = (emd2 (Spec.cond P b) (Spec.cond P a)).value)
    (hdiag : ∀ a : Fin K, (emd2 (Spec.cond P a) (Spec.cond P a)).value = 0) :
    wassScore emd2 ε true P
      = ∑ a, ∑ b, Spec.pi P a * Spec.pi P b * (emd2 (Spec.cond P a) (Spec.cond P b)).value := by
  simp only [wassScore_eq, wassScoreT_ovo, clipP_of_interior hI, mean0_eq_pi, wassWeights_eq_cond P hI]
  refine Finset.sum_congr rfl fun a _ => ?_
  rw [Finset.mul_sum]
  refine Finset.sum_congr rfl fun b _ => ?_
  rcases lt_trichotomy a.val b.val with h | h | h
  · rw [wPairT_of_lt _ h]; ring
  · rw [Fin.ext h, wPairT_self, hdiag]; ring
  · rw [wPairT_of_gt _ h, hsymm a b]; ring

/-- Wasserstein one-vs-one, modulo POT, with the hypotheses on `emd2` stated globally
    (symmetric value, zero on the diagonal). -/
theorem wass_ovo_eq_spec {ε : ℝ} (emd2 : (Fin n → ℝ) → (Fin n → ℝ) → Model.Emd ℝ n)
    (P : Fin n → Fin K → ℝ) (hI : Interior ε P)
    (hsymm : ∀ a b, (emd2 a b).value = (emd2 b a).value) (hdiag : ∀ a, (emd2 a a).value = 0) :
    wassScore emd2 ε true P
      = ∑ a, ∑ b, Spec.pi P a * Spec.pi P b * (emd2 (Spec.cond P a) (Spec.cond P b)).value :=
  wass_ovo_eq_spec_of_on_cond emd2 P hI (fun _ _ => hsymm _ _) (fun _ => hdiag _)

/-- The translated registry (`_str_to_gemini`) maps every documented name to the documented
    (class, ovo) pair — in particular `mi ↦ KL one-vs-all` — and offers exactly the 13 names. -/
theorem registry_ok :
    Gen.registry.map (fun e => (e.1, e.2.1, e.2.2.1)) = Spec.registryDoc :=
  rfl

/-- The names of the translated `AVAILABLE_GEMINIS` are exactly the keys of the translated registry (`_str_to_gemini`):
    every advertised name resolves, and no registered name is hidden. -/
theorem registry_names :
    (∀ nm ∈ Gen.availableGeminis, nm ∈ Gen.registry.map (·.1)) ∧
    (∀ nm ∈ Gen.registry.map (·.1), nm ∈ Gen.availableGeminis) := by
  decide

end GemVerif.Props.C01
