/-
  C08, control part — "the chosen split is the best one".  `Props/C08.lean` shows that every gain formula of
  `compute_all_splits` is a change ΔJ of the objective; here, over ℝ and with the gain formulas opaque: the control
  skeleton of `compute_all_splits` / `find_best_split` (gemclus/tree/_utils.pyx) and the stopping rule of `Kauri.fit`
  (gemclus/tree/kauri.py).  The vocabulary of `Lemmas/KauriC08.lean` (`Admissible`, `candAt`, `Evaluated`) is
  characterised here by `admissible_iff`, `candAt_fields`, `evaluated_iff`.
-/
import GemVerif.Lemmas.KauriC08
import GemVerif.Lemmas.KauriC09

namespace GemVerif.Props.C08Max
open RealLike Model.Kauri KauriC08

/-- `Admissible c g l r` lists exactly the candidates (gain `g`, cluster `l` for the left part, cluster `r` for the
    right part) that `compute_all_splits` may evaluate for the candidate cut `c`, each under the guard written in the
    code: double star if `n_clusters < K_max - 1 and n_leaf != cluster_sizes[k]`; the two single stars if
    `n_clusters < K_max`; the two switches to every `k' < n_clusters`, `k' ≠ k` if `n_clusters >= 2`; the reallocation
    to every pair `l ≠ r` of clusters `< n_clusters` other than `k` if `n_clusters >= 3 and n_leaf != cluster_sizes[k]`,
    with gain `left_switch(l) + right_switch(r) + corrective_term`. -/
theorem admissible_iff (c : Cand ℝ) (g : ℝ) (l r : Int) :
    Admissible c g l r ↔
      (c.n_clusters + 1 < c.K_max ∧ c.n_leaf ≠ c.cluster_sizes c.k ∧
        g = c.app Gen.Kauri.doubleStar c.k ∧ l = (c.n_clusters : Int) ∧ r = (c.n_clusters : Int) + 1) ∨
      (c.n_clusters < c.K_max ∧ g = c.app Gen.Kauri.leftStar c.k ∧ l = (c.n_clusters : Int) ∧ r = (c.k : Int)) ∨
      (c.n_clusters < c.K_max ∧ g = c.app Gen.Kauri.rightStar c.k ∧ l = (c.k : Int) ∧ r = (c.n_clusters : Int)) ∨
      (∃ p : Nat, 2 ≤ c.n_clusters ∧ p < c.n_clusters ∧ p ≠ c.k ∧
        g = c.app Gen.Kauri.leftSwitch p ∧ l = (p : Int) ∧ r = (c.k : Int)) ∨
      (∃ p : Nat, 2 ≤ c.n_clusters ∧ p < c.n_clusters ∧ p ≠ c.k ∧
        g = c.app Gen.Kauri.rightSwitch p ∧ l = (c.k : Int) ∧ r = (p : Int)) ∨
      (∃ kl kr : Nat, 3 ≤ c.n_clusters ∧ c.n_leaf ≠ c.cluster_sizes c.k ∧ kl < c.n_clusters ∧ kr < c.n_clusters ∧
        kl ≠ c.k ∧ kr ≠ c.k ∧ kl ≠ kr ∧
        g = c.app Gen.Kauri.leftSwitch kl + c.app Gen.Kauri.rightSwitch kr + c.app Gen.Kauri.corrective c.k ∧
        l = (kl : Int) ∧ r = (kr : Int)) := by
  constructor
  · intro h
    cases h with
    | doubleStar h1 h2 => exact Or.inl ⟨h1, h2, rfl, rfl, by push_cast; rfl⟩
    | leftStar h1 => exact Or.inr (Or.inl ⟨h1, rfl, rfl, rfl⟩)
    | rightStar h1 => exact Or.inr (Or.inr (Or.inl ⟨h1, rfl, rfl, rfl⟩))
    | leftSwitch p h2 hp hpk => exact Or.inr (Or.inr (Or.inr (Or.inl ⟨p, h2, hp, hpk, rfl, rfl, rfl⟩)))
    | rightSwitch p h2 hp hpk =>
      exact Or.inr (Or.inr (Or.inr (Or.inr (Or.inl ⟨p, h2, hp, hpk, rfl, rfl, rfl⟩))))
    | realloc kl kr h3 hleaf hl hr hlk hrk hlr =>
      exact Or.inr (Or.inr (Or.inr (Or.inr (Or.inr ⟨kl, kr, h3, hleaf, hl, hr, hlk, hrk, hlr, rfl, rfl, rfl⟩))))
  · rintro (⟨h1, h2, rfl, rfl, rfl⟩ | ⟨h1, rfl, rfl, rfl⟩ | ⟨h1, rfl, rfl, rfl⟩ | ⟨p, h2, hp, hpk, rfl, rfl, rfl⟩ |
      ⟨p, h2, hp, hpk, rfl, rfl, rfl⟩ | ⟨kl, kr, h3, hleaf, hl, hr, hlk, hrk, hlr, rfl, rfl, rfl⟩)
    · have := Admissible.doubleStar h1 h2
      push_cast at this
      exact this
    · exact Admissible.leftStar h1
    · exact Admissible.rightStar h1
    · exact Admissible.leftSwitch p h2 hp hpk
    · exact Admissible.rightSwitch p h2 hp hpk
    · exact Admissible.realloc kl kr h3 hleaf hl hr hlk hrk hlr

/-- In a tree state where the cluster `k` of the leaf is one of the `n_clusters` existing clusters, the guard
    `n_clusters >= 2` of the switch block is implied by the existence of another cluster `p`. -/
theorem switch_guard_redundant {c : Cand ℝ} (hk : c.k < c.n_clusters) {p : Nat} (hp : p < c.n_clusters)
    (hpk : p ≠ c.k) : 2 ≤ c.n_clusters := by
  omega

/-- In such a state the guard `n_clusters >= 3` of the refurbish block is implied by the existence of two different
    other clusters. -/
theorem realloc_guard_redundant {c : Cand ℝ} (hk : c.k < c.n_clusters) {l r : Nat} (hl : l < c.n_clusters)
    (hr : r < c.n_clusters) (hlk : l ≠ c.k) (hrk : r ≠ c.k) (hlr : l ≠ r) : 3 ≤ c.n_clusters := by
  omega

/-- `compute_all_splits` never lowers the gain stored in `best_split`. -/
theorem computeAllSplits_ge_best (best : Split ℝ) (c : Cand ℝ) : best.gain ≤ (computeAllSplits best c).gain :=
  (computeAllSplits_adv best c).gain_le

/-- After `compute_all_splits` the gain stored in `best_split` is at least the gain of every candidate the code may
    evaluate for this cut — star, double star, switch to any other cluster, and reallocation of the two parts to any
    pair of different other clusters.  For the reallocations this is the top-2 argument: tracking the best and second
    best left and right switches (ties included) finds the best pair `l ≠ r` of `left_switch(l) + right_switch(r)`. -/
theorem computeAllSplits_max (best : Split ℝ) (c : Cand ℝ) {g : ℝ} {l r : Int} (h : Admissible c g l r) :
    g ≤ (computeAllSplits best c).gain := by
  rw [computeAllSplits_eq]
  cases h with
  | doubleStar h1 h2 =>
    exact le_trans (stage1_max c best h1 h2) (((stage2_adv c _).trans (stage34_adv c _)).gain_le)
  | leftStar h1 => exact le_trans (stage2_max c _ h1).1 (stage34_adv c _).gain_le
  | rightStar h1 => exact le_trans (stage2_max c _ h1).2 (stage34_adv c _).gain_le
  | leftSwitch p hn hp hpk => exact (stage34_switch_max c _ hn hp hpk).1
  | rightSwitch p hn hp hpk => exact (stage34_switch_max c _ hn hp hpk).2
  | realloc l r h3 hleaf hl hr hlk hrk hlr => exact stage34_realloc_max c _ h3 hleaf hl hr hlk hrk hlr

/-- `compute_all_splits` leaves `best_split` unchanged or overwrites it with the record (gain, this leaf, targets,
    this feature, this threshold) of one of the admissible candidates of this cut.  In the second case the new gain is
    at least the old one, and strictly larger unless the winner is one of the two switch candidates of some cluster
    (the star, double-star and refurbish blocks compare with `>`, the switch block with `>=`). -/
theorem computeAllSplits_attained (best : Split ℝ) (c : Cand ℝ) :
    computeAllSplits best c = best ∨
      ∃ g l r, Admissible c g l r ∧
        computeAllSplits best c = ⟨g, c.leaf_id, l, r, c.feature_id, c.threshold⟩ ∧
        best.gain ≤ g ∧
        (best.gain < g ∨ ∃ p : Nat, p < c.n_clusters ∧ p ≠ c.k ∧
          ((g = c.app Gen.Kauri.leftSwitch p ∧ l = (p : Int) ∧ r = (c.k : Int)) ∨
           (g = c.app Gen.Kauri.rightSwitch p ∧ l = (c.k : Int) ∧ r = (p : Int)))) :=
  computeAllSplits_adv best c

section findBestSplit
variable (κ X : Nat → Nat → ℝ) (a : Assign) (nClusters K_max nLeaves minLeaf : Nat)

/-- The candidate cut `candAt … j f l` that `find_best_split` hands to `compute_all_splits` at leaf `j`, feature `f`,
    sorted position `l`: the left part has `l + 1` samples, the threshold is the feature value of the `l`-th sorted
    sample of the leaf, the cluster `k` is the one of leaf `j`, and the cluster count and `K_max` are the arguments
    of `find_best_split`. -/
theorem candAt_fields (j f l : Nat) :
    let c := candAt κ X a nClusters K_max nLeaves j f l
    c.leaf_id = j ∧ c.feature_id = f ∧ c.split_size = l + 1 ∧ c.threshold = X (nuOf X a j f)[l]! f ∧
      c.k = a.clusterOf[j]! ∧ c.n_clusters = nClusters ∧ c.K_max = K_max ∧ c.n_leaf = (a.samplesOfLeaf j).length :=
  ⟨rfl, rfl, rfl, rfl, rfl, rfl, rfl, rfl⟩

/-- `Evaluated … j f l`: position `l` of the scan of leaf `j` along feature `f` is a position at which the code calls
    `compute_all_splits`: it is one of the `n_leaf - 1` positions, both parts keep at least `min_samples_leaf` samples
    and the feature values of the sorted samples `l` and `l + 1` differ. -/
theorem evaluated_iff (j f l : Nat) :
    Evaluated X a minLeaf j f l ↔
      (l < (a.samplesOfLeaf j).length - 1 ∧ minLeaf ≤ l + 1 ∧ l + minLeaf + 1 ≤ (a.samplesOfLeaf j).length ∧
        X (nuOf X a j f)[l]! f ≠ X (nuOf X a j f)[l + 1]! f) := by
  unfold Evaluated nLeafOf
  simp only [beq_real, decide_eq_false_iff_not, ne_eq]

/-- The model of `find_best_split` is the three nested loops — explorable leaves, candidate features, positions of
    the sorted scan — that call `compute_all_splits` on `candAt … j f l` exactly when the guard of the code holds. -/
theorem findBestSplit_uses_candAt (toExplore features : List Nat) :
    findBestSplit κ X toExplore a nClusters K_max nLeaves minLeaf features =
      toExplore.foldl (fun best j =>
        features.foldl (fun best f =>
          (List.range ((a.samplesOfLeaf j).length - 1)).foldl (fun best l =>
            if evaluatedB X a minLeaf j f l then computeAllSplits best (candAt κ X a nClusters K_max nLeaves j f l)
            else best) best) best)
        Split.init :=
  findBestSplit_eq κ X a nClusters K_max nLeaves minLeaf toExplore features

/-- The guard computed by the scan is true exactly at the evaluated positions. -/
theorem evaluatedB_iff (j f l : Nat) (hl : l < (a.samplesOfLeaf j).length - 1) :
    evaluatedB X a minLeaf j f l = true ↔ Evaluated X a minLeaf j f l :=
  ⟨fun h => ⟨hl, (evaluatedB_eq_true X a minLeaf).1 h⟩, Evaluated.guard⟩

/-- The split returned by `find_best_split` is the best one: its gain is at least the gain of every admissible
    assignment (star, double star, switch, reallocation, as permitted by `K_max`) of every evaluated cut (explorable
    leaf `j`, candidate feature `f`, threshold position `l` respecting `min_samples_leaf`). -/
theorem findBestSplit_max (toExplore features : List Nat) {j f l : Nat} (hj : j ∈ toExplore) (hf : f ∈ features)
    (he : Evaluated X a minLeaf j f l) {g : ℝ} {lt rt : Int}
    (hadm : Admissible (candAt κ X a nClusters K_max nLeaves j f l) g lt rt) :
    g ≤ (findBestSplit κ X toExplore a nClusters K_max nLeaves minLeaf features).gain := by
  rw [findBestSplit_eq]
  have scan := fun j' f' => foldl_gain_le _ (bestUpd_ge κ X a nClusters K_max nLeaves minLeaf j' f')
    (List.range (nLeafOf a j' - 1))
  have feat := fun j' => foldl_gain_le _ (fun b f' => (scan j' f' b).1) features
  refine (foldl_gain_le _ (fun b j' => (feat j' b).1) toExplore _).2 j hj g fun b => ?_
  refine (feat j b).2 f hf g fun b => ?_
  refine (scan j f b).2 l (List.mem_range.2 he.lt) g fun b => ?_
  unfold bestUpd
  rw [if_pos he.guard]
  exact computeAllSplits_max _ _ hadm

/-- The split returned by `find_best_split` is the initial `Split(0, -1, -1, -1, -1, 0, False)` or the record — gain, leaf,
    targets, feature, threshold — of an admissible assignment of an evaluated cut of an explorable leaf along a
    candidate feature. -/
theorem findBestSplit_attained (toExplore features : List Nat) :
    findBestSplit κ X toExplore a nClusters K_max nLeaves minLeaf features = Split.init ∨
      ∃ j f l g lt rt, j ∈ toExplore ∧ f ∈ features ∧ Evaluated X a minLeaf j f l ∧
        Admissible (candAt κ X a nClusters K_max nLeaves j f l) g lt rt ∧
        findBestSplit κ X toExplore a nClusters K_max nLeaves minLeaf features =
          ⟨g, j, lt, rt, f, X (nuOf X a j f)[l]! f⟩ := by
  refine findBestSplit_induction κ X a nClusters K_max nLeaves minLeaf toExplore features
    (fun b => b = Split.init ∨ ∃ j f l g lt rt, j ∈ toExplore ∧ f ∈ features ∧ Evaluated X a minLeaf j f l ∧
      Admissible (candAt κ X a nClusters K_max nLeaves j f l) g lt rt ∧ b = ⟨g, j, lt, rt, f, X (nuOf X a j f)[l]! f⟩)
    (Or.inl rfl) ?_
  intro b j f l hj hf he hb
  rcases computeAllSplits_adv b (candAt κ X a nClusters K_max nLeaves j f l) with e | ⟨g, lt, rt, hadm, e, _⟩
  · rw [e]
    exact hb
  · exact Or.inr ⟨j, f, l, g, lt, rt, hj, hf, he, hadm, e⟩

/-- The gain returned by `find_best_split` is never negative. -/
theorem findBestSplit_gain_nonneg (toExplore features : List Nat) :
    0 ≤ (findBestSplit κ X toExplore a nClusters K_max nLeaves minLeaf features).gain :=
  findBestSplit_induction κ X a nClusters K_max nLeaves minLeaf toExplore features (fun b => 0 ≤ b.gain)
    (le_refl (0 : ℝ)) (fun _ _ _ _ _ _ _ hb => le_trans hb (computeAllSplits_adv _ _).gain_le)

/-- If `find_best_split` reports no positive gain (the test `last_gain > 0` of the loop fails), then no admissible
    assignment of any evaluated cut has a positive gain. -/
theorem no_positive_gain_means_none (toExplore features : List Nat)
    (h : ¬ 0 < (findBestSplit κ X toExplore a nClusters K_max nLeaves minLeaf features).gain)
    {j f l : Nat} (hj : j ∈ toExplore) (hf : f ∈ features) (he : Evaluated X a minLeaf j f l) {g : ℝ} {lt rt : Int}
    (hadm : Admissible (candAt κ X a nClusters K_max nLeaves j f l) g lt rt) : g ≤ 0 :=
  le_trans (findBestSplit_max κ X a nClusters K_max nLeaves minLeaf toExplore features hj hf he hadm) (not_lt.1 h)

end findBestSplit

/-- When no structural limit stops the loop (`n_leaves < max_leaves`, leaves left to explore, previous gain positive)
    and the best gain is positive, the iteration applies exactly the split returned by `find_best_split` — the best
    one by `findBestSplit_max`. -/
theorem fitStep_applies_best (κ X : Nat → Nat → ℝ) (p : Params) (s : FitState ℝ) (features : List Nat)
    (hc : s.continues p = true)
    (hpos : 0 < (findBestSplit κ X s.toExplore s.asg s.nClusters p.maxClusters s.nLeaves p.minLeaf features).gain) :
    fitStep κ X p s features =
      { applySplit X p { s with steps := s.steps + 1 }
          (findBestSplit κ X s.toExplore s.asg s.nClusters p.maxClusters s.nLeaves p.minLeaf features)
        with lastGainPos := true } :=
  KauriC09.stepWith_applied hc (by simpa using hpos)

/-- Fitting stops on the gain test only when no admissible split has a positive gain: if no structural limit stops
    the loop and the iteration records `last_gain > 0` as false, then every admissible assignment of every evaluated
    cut of every explorable leaf along every drawn feature has gain ≤ 0. -/
theorem fit_stops_only_without_positive_gain (κ X : Nat → Nat → ℝ) (p : Params) (s : FitState ℝ)
    (features : List Nat) (hc : s.continues p = true) (hstop : (fitStep κ X p s features).lastGainPos = false)
    {j f l : Nat} (hj : j ∈ s.toExplore) (hf : f ∈ features) (he : Evaluated X s.asg p.minLeaf j f l)
    {g : ℝ} {lt rt : Int}
    (hadm : Admissible (candAt κ X s.asg s.nClusters p.maxClusters s.nLeaves j f l) g lt rt) : g ≤ 0 := by
  refine no_positive_gain_means_none κ X s.asg s.nClusters p.maxClusters s.nLeaves p.minLeaf s.toExplore features
    ?_ hj hf he hadm
  intro hpos
  rw [fitStep_applies_best κ X p s features hc hpos] at hstop
  cases hstop

/-! Examples: the hypotheses are satisfiable and the tie and top-2 cases occur.
  `Example.exA`, `Example.exB` (`Lemmas/KauriC08.lean`) are cuts of a 2-sample leaf of cluster 0 into 1 + 1 samples, with
  three clusters and `K_max = 3`. -/

section witnesses
open KauriC08.Example

/-- The reallocation candidate is admissible for `exA` (left part to cluster 1, right part to cluster 2) … -/
example : Admissible exA (exA.app Gen.Kauri.leftSwitch 1 + exA.app Gen.Kauri.rightSwitch 2
    + exA.app Gen.Kauri.corrective exA.k) (1 : Nat) (2 : Nat) :=
  Admissible.realloc (c := exA) 1 2 (show 3 ≤ 3 by decide) (show 2 ≠ 4 by decide) (show 1 < 3 by decide)
    (show 2 < 3 by decide) (show 1 ≠ 0 by decide) (show 2 ≠ 0 by decide) (by decide)

/-- … and it wins: `compute_all_splits` returns it with gain 23/6 + 23/6 + 1/6 = 47/6, above the best single switch
    (23/6).  Here the two maxima sit on different clusters (`top_k_left = 1 ≠ top_k_right = 2`). -/
example : computeAllSplits Split.init exA = ⟨47 / 6, 0, 1, 2, 0, 0⟩ := resultA

/-- On `exA` the switch loop overwrites the running best on a tie (`right_switch(2) = left_switch(1) = 23/6`): after the
    loop the running best is the right switch to cluster 2, not the left switch to cluster 1 found first. -/
example : ((List.range 3).foldl (switchStep exA) (({} : Top2 ℝ), Split.init)).2 = ⟨23 / 6, 0, 0, 2, 0, 0⟩ := by
  rw [foldA]; rfl

/-- On `exB` both maxima sit on cluster 1 (`top_k_left = top_k_right`), so the second best is needed … -/
example : ((List.range 3).foldl (switchStep exB) (({} : Top2 ℝ), Split.init)).1.topKL =
    ((List.range 3).foldl (switchStep exB) (({} : Top2 ℝ), Split.init)).1.topKR := by
  rw [foldB]

/-- … and the reallocation (left part to cluster 2, its second best; right part to cluster 1) wins with gain
    11/6 + 23/6 + 1/6 = 35/6, above the best single switch (23/6) and above the other pairing (23/6 + 7/6 + 1/6). -/
example : computeAllSplits Split.init exB = ⟨35 / 6, 0, 2, 1, 0, 0⟩ := resultB

/-- two samples in one leaf of one cluster, one feature with values 0 and 1 -/
def exAsg : Assign := ⟨2, #[0, 0], #[0]⟩
/-- `X[i, f] = i` -/
noncomputable def exX : Nat → Nat → ℝ := fun i _ => (i : ℝ)

/-- The hypotheses of `findBestSplit_max` are satisfiable: position 0 of leaf 0 along feature 0 is evaluated
    (`min_samples_leaf = 1`) … -/
example : Evaluated exX exAsg 1 0 0 0 := by
  rw [evaluated_iff]
  have h1 : exAsg.samplesOfLeaf 0 = [0, 1] := by decide
  have h2 : nuOf exX exAsg 0 0 = #[0, 1] := by
    unfold nuOf
    rw [h1]
    simp [sortBy, insertBy, exX]
  rw [h1, h2]
  simp [exX]

/-- … and with one cluster and `K_max = 2` the left star is admissible there, for every kernel. -/
example (κ : Nat → Nat → ℝ) : Admissible (candAt κ exX exAsg 1 2 1 0 0 0)
    ((candAt κ exX exAsg 1 2 1 0 0 0).app Gen.Kauri.leftStar 0) (1 : Nat) (0 : Nat) :=
  Admissible.leftStar (c := candAt κ exX exAsg 1 2 1 0 0 0) (show 1 < 2 by decide)

end witnesses

end GemVerif.Props.C08Max
