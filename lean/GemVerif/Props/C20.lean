/-
  C20 — synthetic data generators follow their documented distributions.

  What is proved (for every n, K, d, every parameter value, every outcome of numpy's primitives) is the assembly:
  which recorded draw ends up in which output row, with which label, through which formula, and that the
  constants the current source hands to numpy are the documented ones.  The distributional half of the property
  ("within sampling error") is a statistical test in `harness/props/c20.py` (DESIGN.md section 10).

  `Spec` below is the hand-written table of documented constants (docstrings of `synthetic_data.py`; Celeux et al.
  2014, sections 3.1 and 3.2, for the two `celeux_*` sets).  `Gen.DataGen.*` is regenerated from the source on every
  run; the `*_documented` theorems compare the two, so a changed constant breaks a theorem.
-/
import GemVerif.Lemmas.DataGen
import Mathlib.Analysis.SpecialFunctions.Trigonometric.Basic

namespace GemVerif.Props.C20

namespace Spec
open GemVerif.Gen.DataGen (Q Q3)

/-- a valid mixture needs at least two components (`K ≥ 2`) -/
def gmmMinComponents : Nat := 2
/-- tests that the documentation requires before / for each component (1-D) / for each component (n-D) -/
def gmmRequiredCommon : List String := ["lenScale", "square", "lenPvals", "pvalsPos", "pvalsSum"]
def gmmRequired1d : List String := ["varPos"]
def gmmRequiredNd : List String := ["eigNonneg"]
/-- guards the source may add on top of the required ones -/
def gmmKnownExtra : List String := ["notAllZero", "symmetric"]
/-- `scale` documents covariances: numpy's `normal` must receive the square root of the 1-D variance -/
def gmmNormalStd : String := "sqrt(scale[k])"
def gmmSelection : String := "X[k][i] for i,k in enumerate(y)"

/-- gstm: Gaussians at (1,1), (1,-1), (-1,1), Student-t at (-1,-1), all times alpha -/
def gstmLocations : List (List Int) := [[1, 1], [1, -1], [-1, 1], [-1, -1]]
def eye (n : Nat) : List (List Q) := (List.range n).map fun i => (List.range n).map fun j => if i = j then (1, 1) else (0, 1)
def gstmProportions : List Q := [(1, 3), (1, 3), (1, 3)]
def gstmSplit : Nat × Nat := (3, 4)
def gstmStudentLabel : Nat := 3

/-- celeux_one: means μ·1₅, −μ·1₅, 0 -/
def c1MeanCoeffs : List (List Int) := [[1, 1, 1, 1, 1], [-1, -1, -1, -1, -1], [0, 0, 0, 0, 0]]
def c1Proportions : List Q := [(1, 3), (1, 3), (1, 3)]

/-- celeux_two (Celeux et al., 3.2) -/
def c2Means : List (List Q) := [[(0, 1), (0, 1)], [(4, 1), (0, 1)], [(0, 1), (2, 1)], [(4, 1), (2, 1)]]
def c2Proportions : List Q := [(1, 4), (1, 4), (1, 4), (1, 4)]
/-- b = ((0.5,1)', (2,0)', (0,3)', (-1,2)', (2,-4)', (0.5,0)', (4,0.5)', (3,0)', (2,1)') -/
def c2BT : List (List Q) :=
  [[(1, 2), (1, 1)], [(2, 1), (0, 1)], [(0, 1), (3, 1)], [(-1, 1), (2, 1)], [(2, 1), (-4, 1)], [(1, 2), (0, 1)],
   [(4, 1), (1, 2)], [(3, 1), (0, 1)], [(2, 1), (1, 1)]]
/-- (0, 0, 0.4, 0.8, …, 2.8) -/
def c2Offsets : List Q := [(0, 1), (0, 1), (2, 5), (4, 5), (6, 5), (8, 5), (2, 1), (12, 5), (14, 5)]
/-- (3.2, 3.6, 4) -/
def c2X1214Mean : List Q := [(16, 5), (18, 5), (4, 1)]
def z3 : Q3 := ((0, 1), (0, 1))
def r3 (a : Q) : Q3 := (a, (0, 1))
/-- Ω = diag(I₃, 0.5·I₂, Ω₁, Ω₂), Ω₁ = Rot(π/3)ᵀ diag(1,3) Rot(π/3) = [[5/2, √3/2], [√3/2, 3/2]],
    Ω₂ = Rot(π/6)ᵀ diag(2,6) Rot(π/6) = [[3, √3], [√3, 5]] -/
def c2NoiseCov : List (List Q3) :=
  [[r3 (1, 1), z3, z3, z3, z3, z3, z3, z3, z3],
   [z3, r3 (1, 1), z3, z3, z3, z3, z3, z3, z3],
   [z3, z3, r3 (1, 1), z3, z3, z3, z3, z3, z3],
   [z3, z3, z3, r3 (1, 2), z3, z3, z3, z3, z3],
   [z3, z3, z3, z3, r3 (1, 2), z3, z3, z3, z3],
   [z3, z3, z3, z3, z3, r3 (5, 2), ((0, 1), (1, 2)), z3, z3],
   [z3, z3, z3, z3, z3, ((0, 1), (1, 2)), r3 (3, 2), z3, z3],
   [z3, z3, z3, z3, z3, z3, z3, r3 (3, 1), ((0, 1), (1, 1))],
   [z3, z3, z3, z3, z3, z3, z3, ((0, 1), (1, 1)), r3 (5, 1)]]
end Spec

open GemVerif GemVerif.Model.DataGen GemVerif.DataGenLemmas

/-- Selection lemma: row `i` of the output is row `i` of the array drawn for component `y[i]`
    (`X = [X[k][i] for i, k in enumerate(y)]`). -/
theorem selectRows_row {ρ : Type} (y : List ℕ) (draws : ℕ → ℕ → ρ) (i k : ℕ) (h : y[i]? = some k) :
    (selectRows y draws)[i]? = some (draws k i) := by
  rw [getElem?_selectRows, h]; rfl

/-- One output row per label. -/
theorem selectRows_length {ρ : Type} (y : List ℕ) (draws : ℕ → ℕ → ρ) : (selectRows y draws).length = y.length := by
  simp [selectRows]

/-- `draw_gmm` returns exactly when the acceptor accepts, and then returns the selected rows and the drawn labels. -/
theorem drawGmm_ok_iff {α : Type} [RealLike α] (p : GmmIn α) (y : List ℕ) (draws : ℕ → ℕ → List α)
    (r : List (List α) × List ℕ) :
    drawGmm p y draws = .ok r ↔ gmmAccept p = none ∧ r = (selectRows y draws, y) := by
  unfold drawGmm
  cases h : gmmAccept p with
  | none => simp [eq_comm]
  | some e => simp

/-- Documented shapes and label range: `X` has one row of length `d` per sample, `y` has one label per sample,
    labels are `< K` (numpy's `choice(K, …)` returns values in `0..K-1`: hypothesis `hy`; each primitive returns
    rows of length `d`: hypothesis `hd`), and row `i` is the draw of the component named by label `i`. -/
theorem drawGmm_shapes_labels {α : Type} [RealLike α] (p : GmmIn α) (n : ℕ) (y : List ℕ) (draws : ℕ → ℕ → List α)
    (X : List (List α)) (lab : List ℕ) (hn : y.length = n) (hy : ∀ k ∈ y, k < p.K)
    (hd : ∀ k i, (draws k i).length = p.d) (h : drawGmm p y draws = .ok (X, lab)) :
    X.length = n ∧ lab.length = n ∧ (∀ r ∈ X, r.length = p.d) ∧ (∀ l ∈ lab, l < p.K) ∧
      ∀ i l, lab[i]? = some l → X[i]? = some (draws l i) := by
  obtain ⟨_, hr⟩ := (drawGmm_ok_iff p y draws (X, lab)).1 h
  obtain ⟨rfl, rfl⟩ := Prod.mk.injEq .. ▸ hr
  exact ⟨by rw [selectRows_length, hn], hn, forall_mem_selectRows lab draws hd, hy,
    fun i l hl => selectRows_row _ draws i l hl⟩

/-- The documented validity of a mixture parameter set: K means, K covariances, K proportions; square d×d
    covariances; strictly positive proportions adding up to one; positive variances (d = 1) or covariances on which
    numpy's eigenvalue test finds no negative eigenvalue (d > 1; that test is numpy's, a parameter of the model). -/
structure ValidMixture (p : GmmIn ℝ) : Prop where
  lenScale : p.scaleShape[0]? = some p.K
  square : p.d ≠ 1 → p.scaleShape[1]? = some p.d ∧ p.scaleShape[2]? = some p.d
  lenPvals : p.pvalsLen = p.K
  pos : ∀ k < p.K, 0 < p.pvals k
  sumOne : ∑ k ∈ Finset.range p.K, p.pvals k = 1
  var : p.d = 1 → ∀ k < p.K, 0 < p.var1 k
  psd : p.d ≠ 1 → ∀ k < p.K, p.eigNeg k = false

/-- The guards of the current source include every documented validity test. -/
theorem gmm_guards_cover_documented :
    (∀ g ∈ Spec.gmmRequiredCommon, g ∈ Gen.DataGen.gmmGuardsCommon) ∧
    (∀ g ∈ Spec.gmmRequired1d, g ∈ Gen.DataGen.gmmGuards1d) ∧
    (∀ g ∈ Spec.gmmRequiredNd, g ∈ Gen.DataGen.gmmGuardsNd) := by decide +kernel

/-- …and nothing beyond them except the known extra tests (all-zero covariance, symmetry). -/
theorem gmm_guards_nothing_else :
    (∀ g ∈ Gen.DataGen.gmmGuardsCommon, g ∈ Spec.gmmRequiredCommon) ∧
    (∀ g ∈ Gen.DataGen.gmmGuards1d, g ∈ Spec.gmmRequired1d) ∧
    (∀ g ∈ Gen.DataGen.gmmGuardsNd, g ∈ Spec.gmmRequiredNd ++ Spec.gmmKnownExtra) := by decide +kernel

/-- Every parameter set that does not describe a mixture is rejected: acceptance implies documented validity. -/
theorem gmmAccept_sound (p : GmmIn ℝ) (h : gmmAccept p = none) : ValidMixture p := by
  obtain ⟨hall, hcomp⟩ := (gmmAccept_none_iff p).1 h
  obtain ⟨hc, h1, hN⟩ := gmm_guards_cover_documented
  have hLS := (commonGuard_lenScale p).1 (hall _ (hc _ (by decide)))
  have hSQ := (commonGuard_square p).1 (hall _ (hc _ (by decide)))
  have hLP := (commonGuard_lenPvals p).1 (hall _ (hc _ (by decide)))
  have hPP := (commonGuard_pvalsPos p).1 (hall _ (hc _ (by decide)))
  have hPS := (commonGuard_pvalsSum p).1 (hall _ (hc _ (by decide)))
  rw [hLP] at hPP hPS
  refine ⟨hLS, hSQ, hLP, hPP, hPS, fun hd k hk => ?_, fun hd k hk => ?_⟩
  · exact (compGuard_varPos p k).1 (hcomp k hk _ (by rw [if_pos hd]; exact h1 _ (by decide)))
  · exact (compGuard_eigNonneg p k).1 (hcomp k hk _ (by rw [if_neg hd]; exact hN _ (by decide)))

/-- Conversely a documented-valid parameter set is accepted, provided no covariance is the zero matrix and every
    covariance is symmetric (the two extra tests the source makes or may make; both hold for every genuine,
    non-degenerate covariance). -/
theorem gmmAccept_complete (p : GmmIn ℝ) (hv : ValidMixture p) (hz : p.d ≠ 1 → ∀ k < p.K, p.allZero k = false)
    (hs : p.d ≠ 1 → ∀ k < p.K, p.symm k = true) : gmmAccept p = none := by
  obtain ⟨hc, h1, hN⟩ := gmm_guards_nothing_else
  refine (gmmAccept_none_iff p).2 ⟨fun g hg => ?_, fun k hk g hg => ?_⟩
  · have := hc g hg
    simp only [Spec.gmmRequiredCommon, List.mem_cons, List.not_mem_nil, or_false] at this
    rcases this with rfl | rfl | rfl | rfl | rfl
    · exact (commonGuard_lenScale p).2 hv.lenScale
    · exact (commonGuard_square p).2 hv.square
    · exact (commonGuard_lenPvals p).2 hv.lenPvals
    · exact (commonGuard_pvalsPos p).2 (hv.lenPvals ▸ hv.pos)
    · exact (commonGuard_pvalsSum p).2 (hv.lenPvals ▸ hv.sumOne)
  by_cases hd : p.d = 1
  · rw [if_pos hd] at hg
    have := h1 g hg
    simp only [Spec.gmmRequired1d, List.mem_cons, List.not_mem_nil, or_false] at this
    subst this
    exact (compGuard_varPos p k).2 (hv.var hd k hk)
  · rw [if_neg hd] at hg
    have := hN g hg
    simp only [Spec.gmmRequiredNd, Spec.gmmKnownExtra, List.cons_append, List.nil_append, List.mem_cons,
      List.not_mem_nil, or_false] at this
    rcases this with rfl | rfl | rfl
    · exact (compGuard_eigNonneg p k).2 (hv.psd hd k hk)
    · exact (compGuard_notAllZero p k).2 (hz hd k hk)
    · exact (compGuard_symmetric p k).2 (hs hd k hk)

/-- The hypotheses of `gmmAccept_complete` are satisfiable (a 2-component mixture in dimension 2). -/
example : ∃ p : GmmIn ℝ, ValidMixture p ∧ (p.d ≠ 1 → ∀ k < p.K, p.allZero k = false) ∧
    (p.d ≠ 1 → ∀ k < p.K, p.symm k = true) :=
  ⟨{ K := 2, d := 2, scaleShape := [2, 2, 2], pvalsLen := 2, pvals := fun _ => 1 / 2, var1 := fun _ => 1,
     eigNeg := fun _ => false, allZero := fun _ => false, symm := fun _ => true },
   ⟨rfl, fun _ => ⟨rfl, rfl⟩, rfl, fun _ _ => by norm_num, by norm_num [Finset.sum_range_succ], fun _ _ _ => by norm_num,
    fun _ _ _ => rfl⟩, fun _ _ _ => rfl, fun _ _ _ => rfl⟩

/-- `scale` documents (co)variances, numpy's `normal` takes a standard deviation: whatever the source hands to
    `normal` for a component of variance `v ≥ 0` is a non-negative number whose square is `v`.
    (Breaks when the variance itself is passed: then `s = v` and `v * v ≠ v`.) -/
theorem gmm_normal_receives_std (v : ℝ) (hv : 0 ≤ v) :
    ∃ s, normalStdOf Gen.DataGen.gmmNormalStd v = some s ∧ s * s = v ∧ 0 ≤ s := by
  refine ⟨Real.sqrt v, ?_, Real.mul_self_sqrt hv, Real.sqrt_nonneg v⟩
  simp [normalStdOf, Gen.DataGen.gmmNormalStd]

/-- Arguments of the primitives of `draw_gmm` are the documented ones: labels by `choice(K, p=pvals, size=n)`,
    1-D components by `normal(loc[k], sqrt(scale[k]), n)`, n-D components by
    `multivariate_normal(loc[k], scale[k], n)`, rows assembled by `X[k][i] for i, k in enumerate(y)`,
    at least two components. -/
theorem gmm_calls_documented :
    Gen.DataGen.gmmChoiceArgs = [("a", "K"), ("p", "pvals"), ("size", "n"), ("replace", "default")] ∧
    Gen.DataGen.gmmDraw1dPrim = "normal" ∧ Gen.DataGen.gmmDraw1dLoc = "loc[k]" ∧
    Gen.DataGen.gmmNormalStd = Spec.gmmNormalStd ∧ Gen.DataGen.gmmDraw1dSize = "n" ∧
    Gen.DataGen.gmmDrawNdPrim = "multivariate_normal" ∧ Gen.DataGen.gmmDrawNdMean = "loc[k]" ∧
    Gen.DataGen.gmmDrawNdCov = "scale[k]" ∧ Gen.DataGen.gmmDrawNdSize = "n" ∧
    Gen.DataGen.gmmSelection = Spec.gmmSelection ∧ Gen.DataGen.gmmMinComponents = Spec.gmmMinComponents :=
  ⟨rfl, rfl, rfl, rfl, rfl, rfl, rfl, rfl, rfl, rfl, rfl⟩

/-- Student-t formula: entry `(i, j)` of the result is `√(df / u_i) · z_{ij} + loc_j`. -/
theorem studentT_entry (n : ℕ) (df : ℝ) (us : ℕ → ℝ) (nxs : ℕ → List ℝ) (loc : List ℝ) (i j : ℕ) (z l : ℝ)
    (hi : i < n) (hz : (nxs i)[j]? = some z) (hl : loc[j]? = some l) :
    ∃ row, (studentT n df us nxs loc)[i]? = some row ∧ row[j]? = some (Real.sqrt (df / us i) * z + l) :=
  ⟨_, getElem?_studentT n df us nxs loc i hi, getElem?_studentRow df (us i) (nxs i) loc j z l hz hl⟩

/-- Shape `(n, d)` of the Student-t sample. -/
theorem studentT_shape {α : Type} [RealLike α] (n d : ℕ) (df : α) (us : ℕ → α) (nxs : ℕ → List α) (loc : List α)
    (hx : ∀ i, (nxs i).length = d) (hl : loc.length = d) :
    (studentT n df us nxs loc).length = n ∧ ∀ r ∈ studentT n df us nxs loc, r.length = d := by
  constructor
  · simp [studentT]
  · intro r hr
    simp only [studentT, List.mem_map, List.mem_range] at hr
    obtain ⟨i, _, rfl⟩ := hr
    simp [studentRow, hx i, hl]

/-- The Gaussian part is `multivariate_normal(zeros(d), scale, n)`, the mixing part `chisquare(df, n)`, combined
    as `sqrt(df / chi2) * normal + loc`. -/
theorem student_calls_documented :
    Gen.DataGen.studentMvnArgs = [("mean", "zeros(d)"), ("cov", "scale"), ("size", "n")] ∧
    Gen.DataGen.studentChiArgs = [("df", "df"), ("size", "n")] ∧
    Gen.DataGen.studentFormula = "add(mul(sqrt(div(df,rng1)),rng0),loc)" :=
  ⟨rfl, rfl, rfl⟩

/-- The split: `n_gaussian = 3n // 4`, and the two parts add up to `n`. -/
theorem gstm_split (n : ℕ) : gstmNGaussian n = 3 * n / 4 ∧ gstmNGaussian n + (n - gstmNGaussian n) = n := by
  have h : gstmNGaussian n = 3 * n / 4 := rfl
  refine ⟨h, ?_⟩
  rw [h]; omega

/-- Shapes: one row and one label per entry of the permutation. -/
theorem gstm_shapes {α : Type} [RealLike α] (n : ℕ) (alpha df : α) (yG : List ℕ) (drawsG : ℕ → ℕ → List α)
    (us : ℕ → α) (nxs : ℕ → List α) (order : List ℕ) :
    (gstm n alpha df yG drawsG us nxs order).1.length = order.length ∧
    (gstm n alpha df yG drawsG us nxs order).2.length = order.length := by
  simp [gstm]

/-- A shuffled position that points into the Gaussian part carries the drawn component as label and that
    component's draw as sample. -/
theorem gstm_gaussian_rows {α : Type} [RealLike α] (n : ℕ) (alpha df : α) (yG : List ℕ) (drawsG : ℕ → ℕ → List α)
    (us : ℕ → α) (nxs : ℕ → List α) (order : List ℕ) (j o k : ℕ) (ho : order[j]? = some o) (hk : yG[o]? = some k) :
    (gstm n alpha df yG drawsG us nxs order).1[j]? = some (some (drawsG k o)) ∧
    (gstm n alpha df yG drawsG us nxs order).2[j]? = some (some k) := by
  have ho' : o < yG.length := by
    by_contra hc
    rw [List.getElem?_eq_none (not_lt.1 hc)] at hk; simp at hk
  constructor
  · simp only [gstm, List.getElem?_map, ho, Option.map_some]
    rw [List.getElem?_append_left (by rw [selectRows_length]; exact ho'), selectRows_row yG drawsG o k hk]
  · simp only [gstm, List.getElem?_map, ho, Option.map_some]
    rw [List.getElem?_append_left ho', hk]

/-- A shuffled position that points into the Student-t part carries label 3 and the Student-t formula applied to
    the corresponding (z, u) draw at location `alpha·(-1,-1)`. -/
theorem gstm_student_rows {α : Type} [RealLike α] (n : ℕ) (alpha df : α) (yG : List ℕ) (drawsG : ℕ → ℕ → List α)
    (us : ℕ → α) (nxs : ℕ → List α) (order : List ℕ) (j o : ℕ) (hG : yG.length = gstmNGaussian n)
    (ho : order[j]? = some o) (h1 : gstmNGaussian n ≤ o) (h2 : o < n) :
    (gstm n alpha df yG drawsG us nxs order).1[j]? =
      some (some (studentRow df (us (o - gstmNGaussian n)) (nxs (o - gstmNGaussian n)) (gstmStudentLoc alpha))) ∧
    (gstm n alpha df yG drawsG us nxs order).2[j]? = some (some 3) := by
  have hlt : o - gstmNGaussian n < n - gstmNGaussian n := by omega
  constructor
  · simp only [gstm, List.getElem?_map, ho, Option.map_some]
    rw [List.getElem?_append_right (by rw [selectRows_length, hG]; exact h1), selectRows_length, hG,
      getElem?_studentT _ _ _ _ _ _ hlt]
  · simp only [gstm, List.getElem?_map, ho, Option.map_some]
    rw [List.getElem?_append_right (by rw [hG]; exact h1), hG, List.getElem?_replicate, if_pos hlt]
    rfl

/-- Labels are in {0, 1, 2, 3}: with `choice(3, …)` labels `< 3` and a permutation of `0..n-1`, every returned label
    exists and is at most 3. -/
theorem gstm_labels_range {α : Type} [RealLike α] (n : ℕ) (alpha df : α) (yG : List ℕ) (drawsG : ℕ → ℕ → List α)
    (us : ℕ → α) (nxs : ℕ → List α) (order : List ℕ) (hG : yG.length = gstmNGaussian n) (hy : ∀ k ∈ yG, k < 3)
    (hord : ∀ o ∈ order, o < n) :
    ∀ l ∈ (gstm n alpha df yG drawsG us nxs order).2, ∃ k, l = some k ∧ k ≤ 3 := by
  intro l hl
  obtain ⟨o, ho, rfl⟩ := List.mem_map.1 hl
  have hle : gstmNGaussian n ≤ n := (gstm_split n).1 ▸ by omega
  have ho' : o < (yG ++ List.replicate (n - gstmNGaussian n) Gen.DataGen.gstmStudentLabel).length := by
    rw [List.length_append, List.length_replicate, hG, Nat.add_sub_cancel' hle]
    exact hord o ho
  refine ⟨_, List.getElem?_eq_getElem ho', ?_⟩
  rcases List.mem_append.1 (List.getElem_mem ho') with h | h
  · exact (hy _ h).le
  · exact (List.eq_of_mem_replicate h).le

/-- Exactly `n − 3n//4` samples carry the Student-t label 3, whatever the shuffle (`order` a permutation of
    `0..n-1`, Gaussian labels `< 3`). -/
theorem gstm_student_count {α : Type} [RealLike α] (n : ℕ) (alpha df : α) (yG : List ℕ) (drawsG : ℕ → ℕ → List α)
    (us : ℕ → α) (nxs : ℕ → List α) (order : List ℕ) (hG : yG.length = gstmNGaussian n) (hy : ∀ k ∈ yG, k < 3)
    (hperm : order.Perm (List.range n)) :
    (gstm n alpha df yG drawsG us nxs order).2.count (some 3) = n - gstmNGaussian n := by
  have hle : gstmNGaussian n ≤ n := (gstm_split n).1 ▸ by omega
  have hlen : (yG ++ List.replicate (n - gstmNGaussian n) 3).length = n := by
    rw [List.length_append, List.length_replicate, hG, Nat.add_sub_cancel' hle]
  -- a permutation reads every label exactly once
  have h1 : (gstm n alpha df yG drawsG us nxs order).2 =
      order.map fun o => (yG ++ List.replicate (n - gstmNGaussian n) 3)[o]? := rfl
  have h2 := map_getElem?_range (yG ++ List.replicate (n - gstmNGaussian n) 3)
  rw [hlen] at h2
  rw [h1, (hperm.map _).count_eq, h2, List.count_map_of_injective _ _ (Option.some_injective _), List.count_append,
    List.count_replicate_self, List.count_eq_zero_of_not_mem fun h3 => absurd (hy 3 h3) (by decide), Nat.zero_add]

/-- Locations are `alpha·(1,1), alpha·(1,-1), alpha·(-1,1)` for the Gaussians (in this order, labels 0, 1, 2) and
    `alpha·(-1,-1)` for the Student-t component. -/
theorem gstm_locations (alpha : ℝ) :
    gstmGaussLocs alpha = [[alpha, alpha], [alpha, -alpha], [-alpha, alpha]] ∧
    gstmStudentLoc alpha = [-alpha, -alpha] ∧
    gstmLocations alpha = [[alpha, alpha], [alpha, -alpha], [-alpha, alpha], [-alpha, -alpha]] := by
  simp [gstmGaussLocs, gstmStudentLoc, gstmLocations, Gen.DataGen.gstmGaussLocs, Gen.DataGen.gstmStudentLoc,
    Gen.DataGen.gstmLocations, ofInt_real]

/-- Constants of gstm are the documented ones: location signs, identity covariances, three equal proportions, the
    3/4 split, label 3 for the Student-t part, `df` forwarded, scaling by `alpha`, and the Gaussian / Student rows
    are the first three / last row of the location table. -/
theorem gstm_constants_documented :
    Gen.DataGen.gstmLocations = Spec.gstmLocations ∧ Gen.DataGen.gstmScaledBy = "alpha" ∧
    Gen.DataGen.gstmGaussLocs = Spec.gstmLocations.take 3 ∧ some Gen.DataGen.gstmStudentLoc = Spec.gstmLocations[3]? ∧
    Gen.DataGen.gstmGaussCovs = [Spec.eye 2, Spec.eye 2, Spec.eye 2] ∧ Gen.DataGen.gstmStudentScale = Spec.eye 2 ∧
    Gen.DataGen.gstmProportions = Spec.gstmProportions ∧ Gen.DataGen.gstmSplit = Spec.gstmSplit ∧
    Gen.DataGen.gstmStudentLabel = Spec.gstmStudentLabel ∧ Gen.DataGen.gstmStudentDf = "df" :=
  ⟨rfl, rfl, rfl, rfl, rfl, rfl, rfl, rfl, rfl, rfl⟩

/-- Row `i` is the draw of component `y[i]` followed by the `p` noise columns of row `i`; labels are returned
    unchanged. -/
theorem celeuxOne_rows {α : Type} [RealLike α] (y : List ℕ) (draws : ℕ → ℕ → List α) (noise : ℕ → List α) (i k : ℕ)
    (h : y[i]? = some k) :
    (celeuxOne y draws noise).1[i]? = some (draws k i ++ noise i) ∧ (celeuxOne y draws noise).2 = y := by
  simp [celeuxOne, List.getElem?_mapIdx, selectRows_row y draws i k h]

/-- Shape `(n, 5 + p)`. -/
theorem celeuxOne_shape {α : Type} [RealLike α] (n p : ℕ) (y : List ℕ) (draws : ℕ → ℕ → List α) (noise : ℕ → List α)
    (hn : y.length = n) (hd : ∀ k i, (draws k i).length = 5) (hp : ∀ i, (noise i).length = p) :
    (celeuxOne y draws noise).1.length = n ∧ ∀ r ∈ (celeuxOne y draws noise).1, r.length = 5 + p := by
  constructor
  · simp [celeuxOne, selectRows_length, hn]
  · intro r hr
    obtain ⟨i, hi, rfl⟩ := List.mem_mapIdx.1 hr
    rw [List.length_append, hp, forall_mem_selectRows (P := fun r => r.length = 5) y draws hd _ (List.getElem_mem hi)]

/-- Means of celeux_one are `μ·1₅`, `−μ·1₅`, `0₅`. -/
theorem c1_means (mu : ℝ) :
    c1Means mu = [[mu, mu, mu, mu, mu], [-mu, -mu, -mu, -mu, -mu], [0, 0, 0, 0, 0]] := by
  simp [c1Means, Gen.DataGen.c1MeanCoeffs, ofInt_real]

/-- Constants of celeux_one are the documented ones. -/
theorem c1_constants_documented :
    Gen.DataGen.c1MeanCoeffs = Spec.c1MeanCoeffs ∧ Gen.DataGen.c1ScaledBy = "mu" ∧
    Gen.DataGen.c1Covs = [Spec.eye 5, Spec.eye 5, Spec.eye 5] ∧ Gen.DataGen.c1Proportions = Spec.c1Proportions ∧
    Gen.DataGen.c1NoiseSize = "[n,p]" ∧ Gen.DataGen.c1Columns = ["good", "noise"] :=
  ⟨rfl, rfl, rfl, rfl, rfl, rfl⟩

/-- Row `i` is `(X1, X2)` = the draw of component `y[i]`, then `X3..X11 = offsets + (X1, X2)·b + noise_i`, then
    `X12..X14` = row `i` of the last draw. -/
theorem celeuxTwo_rows {α : Type} [RealLike α] (y : List ℕ) (draws : ℕ → ℕ → List α) (noise x1214 : ℕ → List α)
    (i k : ℕ) (h : y[i]? = some k) :
    (celeuxTwo y draws noise x1214).1[i]? =
      some (draws k i ++ affineRow c2Offsets c2BT (draws k i) (noise i) ++ x1214 i) ∧
    (celeuxTwo y draws noise x1214).2 = y := by
  simp [celeuxTwo, List.getElem?_mapIdx, selectRows_row y draws i k h]

/-- The affine structure with the documented numbers: for informative variables `(g₁, g₂)` and noise `e`,
    `X3..X11 = (0, 0, 0.4, …, 2.8) + (g₁, g₂)·b + e` with
    `b = ((0.5,1)ᵀ,(2,0)ᵀ,(0,3)ᵀ,(-1,2)ᵀ,(2,-4)ᵀ,(0.5,0)ᵀ,(4,0.5)ᵀ,(3,0)ᵀ,(2,1)ᵀ)`. -/
theorem c2_affine (g1 g2 e1 e2 e3 e4 e5 e6 e7 e8 e9 : ℝ) :
    affineRow c2Offsets c2BT [g1, g2] [e1, e2, e3, e4, e5, e6, e7, e8, e9] =
      [0 + (1 / 2 * g1 + g2) + e1, 0 + (2 * g1) + e2, 2 / 5 + (3 * g2) + e3, 4 / 5 + (-g1 + 2 * g2) + e4,
       6 / 5 + (2 * g1 - 4 * g2) + e5, 8 / 5 + (1 / 2 * g1) + e6, 2 + (4 * g1 + 1 / 2 * g2) + e7,
       12 / 5 + (3 * g1) + e8, 14 / 5 + (2 * g1 + g2) + e9] := by
  simp only [c2Offsets, c2BT, Gen.DataGen.c2Offsets, Gen.DataGen.c2BT, List.map, affineRow_cons, affineRow_nil, dot_pair,
    ofQ_real, List.cons.injEq, and_true]
  refine ⟨?_, ?_, ?_, ?_, ?_, ?_, ?_, ?_, ?_⟩
  all_goals
    push_cast
    ring

/-- Shape `(n, 14)`. -/
theorem celeuxTwo_shape {α : Type} [RealLike α] (n : ℕ) (y : List ℕ) (draws : ℕ → ℕ → List α) (noise x1214 : ℕ → List α)
    (hn : y.length = n) (hd : ∀ k i, (draws k i).length = 2) (he : ∀ i, (noise i).length = 9)
    (hl : ∀ i, (x1214 i).length = 3) :
    (celeuxTwo y draws noise x1214).1.length = n ∧ ∀ r ∈ (celeuxTwo y draws noise x1214).1, r.length = 14 := by
  constructor
  · simp [celeuxTwo, selectRows_length, hn]
  · intro r hr
    obtain ⟨i, hi, rfl⟩ := List.mem_mapIdx.1 hr
    have hg := forall_mem_selectRows (P := fun r => r.length = 2) y draws hd _ (List.getElem_mem hi)
    simp [affineRow, c2Offsets, c2BT, Gen.DataGen.c2Offsets, Gen.DataGen.c2BT, hg, he, hl]

/-- Constants of celeux_two are the documented ones: four means, identity covariances, equal proportions, `b` (and
    its 2 × 9 form used in `good @ b` is the transpose of the documented column list), offsets, zero-mean noise with
    the block covariance Ω, `X12..X14 ~ N((3.2, 3.6, 4), I₃)`, formula and column order. -/
theorem c2_constants_documented :
    Gen.DataGen.c2Means = Spec.c2Means ∧ Gen.DataGen.c2Covs = [Spec.eye 2, Spec.eye 2, Spec.eye 2, Spec.eye 2] ∧
    Gen.DataGen.c2Proportions = Spec.c2Proportions ∧ Gen.DataGen.c2BT = Spec.c2BT ∧
    Gen.DataGen.c2B = [Spec.c2BT.map (·.getD 0 (0, 1)), Spec.c2BT.map (·.getD 1 (0, 1))] ∧
    Gen.DataGen.c2Offsets = Spec.c2Offsets ∧ Gen.DataGen.c2NoiseMean = List.replicate 9 (0, 1) ∧
    Gen.DataGen.c2NoiseCov = Spec.c2NoiseCov ∧ Gen.DataGen.c2X1214Mean = Spec.c2X1214Mean ∧
    Gen.DataGen.c2X1214Cov = Spec.eye 3 ∧ Gen.DataGen.c2Formula = "add(add(offsets,matmul(good,b)),noise)" ∧
    Gen.DataGen.c2Columns = ["good", "X3_11", "X12_14"] :=
  ⟨rfl, rfl, rfl, rfl, rfl, rfl, rfl, rfl, rfl, rfl, rfl, rfl⟩

/-- The arithmetic behind the two non-trivial blocks of the documented Ω: the entries of
    `Rot(θ)ᵀ diag(a, b) Rot(θ)` with `Rot(θ) = [[cos θ, −sin θ], [sin θ, cos θ]]`, for (θ, a, b) = (π/3, 1, 3) and
    (π/6, 2, 6), are the reals `5/2, ½·√3, 3/2` and `3, √3, 5`.  The statement is about `cos`/`sin` only: it does not
    mention `Spec.c2NoiseCov`, which tabulates these numbers as pairs `(x, y)` for `x + y·√3` (rows 5–8; read as reals
    by `DataGenLemmas.ofQ3_real`); that the table holds the same numbers is seen by reading it. -/
theorem c2_omega_blocks_are_rotations :
    (let c := Real.cos (Real.pi / 3); let s := Real.sin (Real.pi / 3)
     (c * 1 * c + s * 3 * s = 5 / 2 ∧ c * 1 * (-s) + s * 3 * c = 1 / 2 * Real.sqrt 3 ∧ (-s) * 1 * (-s) + c * 3 * c = 3 / 2)) ∧
    (let c := Real.cos (Real.pi / 6); let s := Real.sin (Real.pi / 6)
     (c * 2 * c + s * 6 * s = 3 ∧ c * 2 * (-s) + s * 6 * c = 1 * Real.sqrt 3 ∧ (-s) * 2 * (-s) + c * 6 * c = 5)) := by
  have h3 : Real.sqrt 3 * Real.sqrt 3 = 3 := Real.mul_self_sqrt (by norm_num)
  simp only [Real.cos_pi_div_three, Real.sin_pi_div_three, Real.cos_pi_div_six, Real.sin_pi_div_six]
  refine ⟨⟨?_, ?_, ?_⟩, ⟨?_, ?_, ?_⟩⟩
  · linear_combination (3 / 4 : ℝ) * h3
  · ring
  · linear_combination (1 / 4 : ℝ) * h3
  · linear_combination (1 / 2 : ℝ) * h3
  · ring
  · linear_combination (3 / 2 : ℝ) * h3

/-- No generator touches numpy's global RNG (`np.random.*`) or draws from an object other than
    `check_random_state(random_state)`; draw_gmm uses only `choice`, `normal`, `multivariate_normal`, the Student-t
    sampler only `multivariate_normal`, `chisquare`. -/
theorem draws_only_from_passed_generator :
    Gen.DataGen.usesGlobalRng = false ∧
    Gen.DataGen.gmmPrimitives = ["choice", "multivariate_normal", "normal"] ∧
    Gen.DataGen.studentPrimitives = ["chisquare", "multivariate_normal"] :=
  ⟨rfl, rfl, rfl⟩

end GemVerif.Props.C20
