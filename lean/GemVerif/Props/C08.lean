/-
  C08 — KAURI gains are real objective increases.
  (G1) every regenerated gain formula of `compute_all_splits` equals the change of the
  kernel-KMeans objective J = Σ_k σ(C_k²)/|C_k| caused by the corresponding reassignment,
  over ℝ, for all stocks and sizes (no positivity of the kernel is assumed).
-/
import GemVerif.NumReal
import GemVerif.Gen.KauriGains

namespace GemVerif.Props.C08
open Gen.Kauri

/-
  Notation (symmetric kernel): for a leaf N = S_L ⊎ S_R inside cluster C_k,
    sl = σ(S_L²), sr = σ(S_R²), lf = σ(N²) = sl + sr + 2σ(S_L×S_R),
    g = σ(C_k²), c = |C_k|, n = |N|, s = |S_L|,  slk = σ(S_L×C_k), srk = σ(S_R×C_k),
    gp = σ(C_p²), cp = |C_p|, slp = σ(S_L×C_p), srp = σ(S_R×C_p) for another cluster p.
  Removing a set S from C_k turns σ(C_k²) into g - 2σ(S×C_k) + σ(S²); adding S to C_p turns σ(C_p²)
  into gp + 2σ(S×C_p) + σ(S²).
-/

variable (sl sr lf n s c cp g gp slk srk slp srp w : ℝ)

/-! Each formula is a linear combination of the reciprocals `1/s`, `1/(c-s)`, … and so is its ΔJ expression: the two
    agree as polynomials in these reciprocals (`ring`), whether or not a divisor vanishes (`x / 0 = 0` in ℝ).  When
    none vanishes (`s, n - s, c, c - s, … ≠ 0`: the sets are non-empty and the code does not divide by zero) the
    right-hand sides are the changes of J that the comments describe. -/

/-- single star, left part becomes a new cluster -/
theorem leftStar_eq_dJ :
    leftStar sl sr lf n s c cp g gp slk srk slp srp w = sl / s + (g - 2 * slk + sl) / (c - s) - g / c := by
  simp only [leftStar, RealLike.nat_real]
  ring

/-- single star, right part becomes a new cluster (the right formulas are the left ones with the two parts
    exchanged) -/
theorem rightStar_eq_dJ :
    rightStar sl sr lf n s c cp g gp slk srk slp srp w
      = sr / (n - s) + (g - 2 * srk + sr) / (c - (n - s)) - g / c :=
  leftStar_eq_dJ sr sl lf n (n - s) c cp g gp srk slk srp slp w

/-- switch, left part moves to the existing cluster p -/
theorem leftSwitch_eq_dJ :
    leftSwitch sl sr lf n s c cp g gp slk srk slp srp w
      = (g - 2 * slk + sl) / (c - s) - g / c + ((gp + 2 * slp + sl) / (cp + s) - gp / cp) := by
  simp only [leftSwitch, RealLike.nat_real]
  ring

/-- switch, right part moves to the existing cluster p -/
theorem rightSwitch_eq_dJ :
    rightSwitch sl sr lf n s c cp g gp slk srk slp srp w
      = (g - 2 * srk + sr) / (c - (n - s)) - g / c + ((gp + 2 * srp + sr) / (cp + (n - s)) - gp / cp) :=
  leftSwitch_eq_dJ sr sl lf n (n - s) c cp g gp srk slk srp slp w

/-- double star: S_L and S_R become two new clusters and C_k loses the whole leaf N (σ(N×C_k) = slk + srk) -/
theorem doubleStar_eq_dJ :
    doubleStar sl sr lf n s c cp g gp slk srk slp srp w
      = sl / s + sr / (n - s) + (g - 2 * (slk + srk) + lf) / (c - n) - g / c := by
  simp only [doubleStar, RealLike.nat_real]
  ring

/-- The corrective term of the refurbish block is what turns the two single removals counted by `left_switch` and
    `right_switch` (C_k loses S_L; C_k loses S_R) into the removal of the whole leaf N from C_k. -/
theorem corrective_eq_dJ :
    corrective sl sr lf n s c cp g gp slk srk slp srp w
      = ((g - 2 * (slk + srk) + lf) / (c - n) - g / c)
        - ((g - 2 * slk + sl) / (c - s) - g / c) - ((g - 2 * srk + sr) / (c - (n - s)) - g / c) := by
  simp only [corrective, RealLike.nat_real]
  ring

/-- reallocation (see `realloc_eq_dJ`): the sum the code reports is the change of the objective when S_L joins
    cluster l, S_R joins cluster r and C_k loses N.  The two sides agree as polynomials in the inverses of the
    divisors, so no divisor has to be non-zero. -/
theorem realloc_eq (gl cl sll gr cr srr x1 x2 x3 x4 : ℝ) :
    leftSwitch sl sr lf n s c cl g gl slk srk sll x1 w + rightSwitch sl sr lf n s c cr g gr slk srk x2 srr w
        + corrective sl sr lf n s c x3 g x4 slk srk slp srp w
      = ((gl + 2 * sll + sl) / (cl + s) - gl / cl) + ((gr + 2 * srr + sr) / (cr + (n - s)) - gr / cr)
        + ((g - 2 * (slk + srk) + lf) / (c - n) - g / c) := by
  rw [leftSwitch_eq_dJ, rightSwitch_eq_dJ, corrective_eq_dJ]
  -- the two single removals from C_k cancel against the corrective term
  have cancel : ∀ a b a' b' m : ℝ, a + b + (a' + b') + (m - a - a') = b + b' + m := fun _ _ _ _ _ => by ring
  exact cancel _ _ _ _ _

set_option linter.unusedVariables false in
/-- reallocation: S_L joins cluster l, S_R joins cluster r (l ≠ r, both ≠ k), C_k loses N.  The code reports
    `left_switch(l) + right_switch(r) + corrective_term`.  (The hypotheses say that no divisor vanishes; `realloc_eq`
    is the same statement without them.) -/
theorem realloc_eq_dJ (gl cl sll gr cr srr x1 x2 x3 x4 : ℝ)
    (hc : c ≠ 0) (hcs : c - s ≠ 0) (hcr : c - (n - s) ≠ 0) (hcn : c - n ≠ 0)
    (hl : cl ≠ 0) (hls : cl + s ≠ 0) (hr : cr ≠ 0) (hrs : cr + (n - s) ≠ 0) :
    leftSwitch sl sr lf n s c cl g gl slk srk sll x1 w + rightSwitch sl sr lf n s c cr g gr slk srk x2 srr w
        + corrective sl sr lf n s c x3 g x4 slk srk slp srp w
      = ((gl + 2 * sll + sl) / (cl + s) - gl / cl) + ((gr + 2 * srr + sr) / (cr + (n - s)) - gr / cr)
        + ((g - 2 * (slk + srk) + lf) / (c - n) - g / c) :=
  realloc_eq ..

end GemVerif.Props.C08
