/-
  C03 for the Douglas differentiable tree: the list returned by `_compute_grads` is minus the exact gradient of
  `⟨g, _infer⟩`.

  Reading (as in Props/C03.lean).  `g` is any matrix (in `fit`: the GEMINI gradient at `y = _infer(X)`).  The claim
  "the direction handed to the optimiser is minus the gradient of GEMINI∘_infer w.r.t. every parameter" is, by the chain
  rule: the derivative of `t ↦ ∑ r, ∑ k, g r k * _infer(θ + t·E)[r, k]` at `0` is `∑ -(updates) * E`.

  Vocabulary.  `cl : List (ℕ × List ℝ)` is `cut_points_list_`, `S` is `leaf_scores_` (`L × K`), `T` the temperature,
  `pred T X cl S r k` is entry `(r, k)` of `Model.Douglas.infer` (`_infer(X)`), `computeGrads T X cl S yPred g` the list
  `updates` of `_compute_grads(X, y_pred, gradient)`: entry 0 is `-leaf_score_backprop` flattened row-major, entry
  `i + 1` is `-cut_grad` of the `i`-th entry of `cut_points_list_`.  As `fit` does, `_compute_grads` is called with
  `y_pred = _infer(X)`.  The hypothesis `computeGrads … = some G` only says that the Python call does not raise
  (`computeGrads_returns`: it holds as soon as `cut_points_list_` is non-empty, addresses columns of the data and
  `leaf_scores_` has one row per leaf).
  For all sizes `n d L K`, all numbers of cuts, all real `T`, all `g`, all (unsorted) stored orders:
   (a) `updates[0]` is minus the gradient w.r.t. `leaf_scores_` (unconditional);
   (b) `updates[i+1]` is minus the gradient w.r.t. the `i`-th cut vector wherever its entries are pairwise distinct; at a
       tie the derivative need not exist (`cut_points_ties_excluded`: a tree for which it does not);
   (c) jointly in `leaf_scores_` and all cut vectors.
-/
import GemVerif.Lemmas.DouglasGrad

namespace GemVerif.Props.C03Douglas
open Model.Douglas GemVerif.Douglas

variable {n d L K : ℕ}

/-- entry `(r, k)` of the matrix returned by `_infer(X)` (`0` if the call raises) -/
noncomputable def pred (T : ℝ) (X : Fin n → Fin d → ℝ) (cl : List (ℕ × List ℝ)) (S : Fin L → Fin K → ℝ) :
    Fin n → Fin K → ℝ :=
  fun r k => ((infer T X cl S r).getD []).getD k.val 0

/-- `pred` is the matrix `Douglas.inferM` in which `Lemmas/DouglasGrad.lean` states the chain rule
    (`douglas_hasDerivAt`); the theorems below pass through this equation. -/
theorem pred_eq_inferM (T : ℝ) (X : Fin n → Fin d → ℝ) (cl : List (ℕ × List ℝ)) (S : Fin L → Fin K → ℝ) :
    pred T X cl S = inferM T X cl S :=
  rfl

/-- `_compute_grads` returns (does not raise) whenever `cut_points_list_` is non-empty, every feature index addresses
    a column of the data and `leaf_scores_` has one row per leaf: the hypothesis `computeGrads … = some G` of the
    theorems below is satisfied by every model that `fit` builds. -/
theorem computeGrads_returns (T : ℝ) (X : Fin n → Fin d → ℝ) {cl : List (ℕ × List ℝ)}
    (hne : cl ≠ []) (hr : ∀ z ∈ cl, z.1 < d) (hL : L = (radices cl).prod) (S : Fin L → Fin K → ℝ)
    (yPred g : Fin n → Fin K → ℝ) : ∃ G, computeGrads T X cl S yPred g = some G :=
  computeGrads_isSome T X hne hr hL S yPred g

/-- (a) `leaf_scores_`.  For every data set, temperature, `cut_points_list_` (sorted or not, ties allowed), leaf scores
    `S`, upstream gradient `g` and direction `E`: the derivative of `⟨g, _infer⟩` along `S + t·E` at `t = 0` is
    `∑ l k, -(updates[0][l·K + k]) · E l k`: the first array returned by `_compute_grads` is minus the gradient w.r.t.
    `leaf_scores_`.  No condition at all. -/
theorem leaf_scores_direction (T : ℝ) (X : Fin n → Fin d → ℝ) (cl : List (ℕ × List ℝ)) (S : Fin L → Fin K → ℝ)
    (g : Fin n → Fin K → ℝ) (E : Fin L → Fin K → ℝ) {G : List (List ℝ)}
    (hG : computeGrads T X cl S (pred T X cl S) g = some G) :
    HasDerivAt (fun t : ℝ => ∑ r, ∑ k, g r k * pred T X cl (fun l k => S l k + t * E l k) r k)
      (∑ l : Fin L, ∑ k : Fin K, -((G.getD 0 []).getD (l.val * K + k.val) 0) * E l k) 0 := by
  simp only [pred_eq_inferM] at hG ⊢
  have h := douglas_hasDerivAt T X (line_zero S E) (hasDerivAt_line S E) (cutCurve_const cl) g hG
  refine h.congr_deriv ?_
  simp only [mul_zero, Finset.sum_const_zero, add_zero]

/-- (a), entry `(a, c)` of `leaf_scores_`: the partial derivative is `-(updates[0][a·K + c])`. -/
theorem leaf_scores_entry (T : ℝ) (X : Fin n → Fin d → ℝ) (cl : List (ℕ × List ℝ)) (S : Fin L → Fin K → ℝ)
    (g : Fin n → Fin K → ℝ) (a : Fin L) (c : Fin K) {G : List (List ℝ)}
    (hG : computeGrads T X cl S (pred T X cl S) g = some G) :
    HasDerivAt (fun t : ℝ => ∑ r, ∑ k, g r k * pred T X cl (bump2 S a c t) r k)
      (-((G.getD 0 []).getD (a.val * K + c.val) 0)) 0 := by
  have h := leaf_scores_direction T X cl S g (fun l k => if l = a ∧ k = c then 1 else 0) hG
  simpa only [← bump2_apply, sum_ind2] using h

/-- (c) All parameters at once.  Move `leaf_scores_` along `S + t·E` and, simultaneously, every cut vector `cᵢ` of
    `cut_points_list_` along `cᵢ + t·Ecut i`.  At every point where each cut vector that actually moves has pairwise
    distinct entries (`Nodup`; then `np.argsort` is locally constant), for every temperature `T` (for `T = 0`, which
    the parameter validation of the Python class rejects, the statement is about Lean's convention `x / 0 = 0`),
    data set and upstream gradient `g`, the derivative of `⟨g, _infer⟩` at `t = 0` is
    `∑ -(updates[0]) · E + ∑ᵢ ∑ₚ -(updates[i+1][p]) · Ecut i p`: the whole list returned by `_compute_grads` is minus
    the gradient, jointly in `leaf_scores_` and all cut points; in particular no parameter receives a direction
    built from another parameter's gradient. -/
theorem all_parameters_direction (T : ℝ) (X : Fin n → Fin d → ℝ) (cl : List (ℕ × List ℝ)) (S : Fin L → Fin K → ℝ)
    (g : Fin n → Fin K → ℝ) (E : Fin L → Fin K → ℝ) (Ecut : ℕ → ℕ → ℝ)
    (hdist : ∀ (i : ℕ) (hi : i < cl.length), cl[i].2.Nodup ∨ ∀ p < cl[i].2.length, Ecut i p = 0)
    {G : List (List ℝ)} (hG : computeGrads T X cl S (pred T X cl S) g = some G) :
    HasDerivAt
      (fun t : ℝ => ∑ r, ∑ k, g r k * pred T X (movedAll cl Ecut t) (fun l k => S l k + t * E l k) r k)
      (∑ l : Fin L, ∑ k : Fin K, -((G.getD 0 []).getD (l.val * K + k.val) 0) * E l k
        + ∑ i : Fin cl.length, ∑ p : Fin cl[i].2.length, -((G.getD (i.val + 1) []).getD p.val 0) * Ecut i p) 0 := by
  simp only [pred_eq_inferM] at hG ⊢
  have hc := cutCurve_movedAll cl Ecut fun i hi => by rw [cutsAt_eq_getElem cl hi]; exact hdist i hi
  have h := douglas_hasDerivAt T X (line_zero S E) (hasDerivAt_line S E) hc g hG
  refine h.congr_deriv ?_
  rw [Finset.sum_range]
  refine congrArg _ (Finset.sum_congr rfl fun i _ => ?_)
  rw [cutsAt_eq_getElem cl i.isLt, Finset.sum_range]
  rfl

/-- (b) Cut points of one entry of `cut_points_list_`.  Move the `i`-th cut vector `c` along `c + t·e` (everything
    else fixed).  If the entries of `c` are pairwise distinct, the derivative of `⟨g, _infer⟩` at `t = 0` is
    `∑ₚ -(updates[i+1][p]) · e p`: array `i + 1` returned by `_compute_grads` is minus the gradient w.r.t. that cut
    vector — whatever the stored order of the cut points (the final `argsort(order)` of the code undoes the sort). -/
theorem cut_points_direction (T : ℝ) (X : Fin n → Fin d → ℝ) (cl : List (ℕ × List ℝ)) (S : Fin L → Fin K → ℝ)
    (g : Fin n → Fin K → ℝ) (i : ℕ) (hi : i < cl.length) (hdist : cl[i].2.Nodup) (e : ℕ → ℝ)
    {G : List (List ℝ)} (hG : computeGrads T X cl S (pred T X cl S) g = some G) :
    HasDerivAt
      (fun t : ℝ => ∑ r, ∑ k, g r k * pred T X (cl.set i (cl[i].1, moved cl[i].2 e t)) S r k)
      (∑ p : Fin cl[i].2.length, -((G.getD (i + 1) []).getD p.val 0) * e p) 0 := by
  simp only [pred_eq_inferM] at hG ⊢
  have hc := cutCurve_movedAll cl (fun i' p => if i' = i then e p else 0) fun j hj => by
    by_cases hji : j = i
    · subst hji; rw [cutsAt_eq_getElem cl hi]; exact Or.inl hdist
    · exact Or.inr fun p _ => if_neg hji
  rw [funext (movedAll_single cl hi e)] at hc
  have h := douglas_hasDerivAt T X (Sc := fun _ => S) rfl (fun _ _ => hasDerivAt_const _ _) hc g hG
  refine h.congr_deriv ?_
  -- the direction vanishes on `leaf_scores_` and on every cut vector but the `i`-th
  rw [Finset.sum_eq_single_of_mem i (Finset.mem_range.mpr hi) fun j _ hji => by
    simp only [if_neg hji, mul_zero, Finset.sum_const_zero]]
  simp only [mul_zero, Finset.sum_const_zero, zero_add, if_true]
  rw [cutsAt_eq_getElem cl hi, Finset.sum_range]

/-- (b), one cut point: the partial derivative of `⟨g, _infer⟩` w.r.t. cut point number `p₀` (as stored) of the
    `i`-th entry of `cut_points_list_` is `-(updates[i+1][p₀])`, when the cut points of that entry are pairwise
    distinct. -/
theorem cut_point_entry (T : ℝ) (X : Fin n → Fin d → ℝ) (cl : List (ℕ × List ℝ)) (S : Fin L → Fin K → ℝ)
    (g : Fin n → Fin K → ℝ) (i : ℕ) (hi : i < cl.length) (hdist : cl[i].2.Nodup) (p₀ : ℕ) (hp : p₀ < cl[i].2.length)
    {G : List (List ℝ)} (hG : computeGrads T X cl S (pred T X cl S) g = some G) :
    HasDerivAt
      (fun t : ℝ => ∑ r, ∑ k, g r k *
        pred T X (cl.set i (cl[i].1, moved cl[i].2 (fun p => if p = p₀ then 1 else 0) t)) S r k)
      (-((G.getD (i + 1) []).getD p₀ 0)) 0 := by
  have h := cut_points_direction T X cl S g i hi hdist (fun p => if p = p₀ then 1 else 0) hG
  refine h.congr_deriv ?_
  rw [Finset.sum_eq_single_of_mem (⟨p₀, hp⟩ : Fin cl[i].2.length) (Finset.mem_univ _) fun p _ hpp => by
    rw [if_neg fun h => hpp (Fin.ext h), mul_zero]]
  rw [if_pos rfl, mul_one]

/- the hypothesis of (b)/(c) is satisfiable, also for cut points stored in non-sorted order, and then `_compute_grads`
   returns -/
example : ∃ cl : List (ℕ × List ℝ), cl ≠ [] ∧ (∀ z ∈ cl, z.1 < 2) ∧
    (∀ (i : ℕ) (hi : i < cl.length), cl[i].2.Nodup) :=
  ⟨[(0, [1, 0]), (1, [2])], by simp, by simp, fun i hi => by
    have : i = 0 ∨ i = 1 := by simp at hi; omega
    rcases this with rfl | rfl <;> simp⟩

/-- The condition "pairwise distinct" in (b) cannot be dropped.  There is a tree (one sample at 0, one feature, the two
    equal cut points `[0, 0]`, temperature 1, 3 leaves, 2 clusters) for which `⟨g, _infer⟩` has no derivative
    w.r.t. the first cut point: the sorted order changes at the tie, the smaller sorted cut is `min(t, 0)`, and the
    two one-sided slopes differ (`± ψ'(1/3)/9` with `ψ' > 0`).  So at a tie no list whatsoever can be "minus the
    gradient". -/
theorem cut_points_ties_excluded :
    ∃ (X : Fin 1 → Fin 1 → ℝ) (S : Fin 3 → Fin 2 → ℝ) (g : Fin 1 → Fin 2 → ℝ),
      ¬ DifferentiableAt ℝ (fun t : ℝ => ∑ r, ∑ k, g r k *
        pred 1 X ([((0 : ℕ), [(0 : ℝ), 0])].set 0 (0, moved [0, 0] (fun p => if p = 0 then 1 else 0) t)) S r k) 0 := by
  refine ⟨fun _ _ => 0, fun l k => if l = 1 ∧ k = 0 then 1 else 0, fun _ k => if k = 0 then 1 else 0, ?_⟩
  have hm : ∀ t : ℝ, moved [0, 0] (fun p => if p = 0 then 1 else 0) t = [t, 0] := fun t => by
    simp [moved, List.zipIdx]
  simp only [hm, pred_eq_inferM, List.set_cons_zero, tie_example_eq]
  exact tie_example_not_differentiable

end GemVerif.Props.C03Douglas
