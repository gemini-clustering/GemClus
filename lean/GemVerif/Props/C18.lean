/-
  C18 — predictions are per-sample functions of the fitted model.

  Models: `Model.Nets.{linearInfer, mlpInfer, sparseMlpInfer}` (`_infer` of Linear*/RIM/SparseLinear*, MLP*, SparseMLP*),
  `Model.Douglas.infer`, `Model.KernelRim.{kernelRimInfer, trainingKernel, predictLabels, …}` (KernelRIM's
  `_compute_kernel` / `predict_proba`, `predict = argmax(predict_proba)`, `labels_ = _infer(X).argmax(1)`),
  `Model.Kauri.Tree.{route, predictMask}` (`Tree.predict`: per row / as the recursive mask-based numpy code is written).

  Every theorem holds for all sizes `m n d h K`, all parameters, every index map `σ : Fin m → Fin n` (subsets,
  reorderings, repeated rows, single rows `m = 1`, the whole array `σ = id`) and — except where a tree invariant is
  needed, which does not mention numbers either — for every number type `[RealLike α]`: at `α = Float` they are
  statements about IEEE doubles, bit for bit, for the model's fixed summation order.  (What a BLAS matrix product does
  on another batch shape is outside the model; the harness measures it on the real code.)

  For Linear*/MLP*/SparseMLP*/Douglas, `labels_` and `predict(X_train)` are the same expression `_infer(X).argmax(1)`
  on the same weights, so "predicting the training data reproduces what fit stored" is `predict_index_map` with `σ = id`;
  for KernelRIM the prediction path recomputes the kernel against the stored training points (`kernel_rim_train_*`);
  for Kauri it is the C09 routing invariant carried over to the numpy recursion (`kauri_predict_train_eq_labels`).
-/
import GemVerif.Lemmas.RowLocal
import GemVerif.Props.C09

namespace GemVerif.Props.C18
open RealLike Model.Nets Model.KernelRim Model.Kauri RowLocal KauriC09

/-- LinearModel / RIM / SparseLinear*: row `i` of `_infer(X)` is the one-sample forward pass of `X[i]`. -/
theorem linear_row {α : Type} [RealLike α] {n d K : Nat} (X : Fin n → Fin d → α) (W : Fin d → Fin K → α)
    (b : Fin K → α) (i : Fin n) : linearInfer X W b i = linearRow (X i) W b :=
  (perRow_linear W b).row X i

/-- `_infer(X[σ]) = _infer(X)[σ]` for the linear model, every index map `σ`. -/
theorem linear_index_map {α : Type} [RealLike α] {m n d K : Nat} (σ : Fin m → Fin n) (X : Fin n → Fin d → α)
    (W : Fin d → Fin K → α) (b : Fin K → α) :
    linearInfer (fun i => X (σ i)) W b = fun i => linearInfer X W b (σ i) :=
  (perRow_linear W b).index_map σ X

/-- MLPModel and its GEMINI variants: row `i` of `_infer(X)` is the one-sample forward pass of `X[i]`. -/
theorem mlp_row {α : Type} [RealLike α] {n d h K : Nat} (X : Fin n → Fin d → α) (W1 : Fin d → Fin h → α)
    (b1 : Fin h → α) (W2 : Fin h → Fin K → α) (b2 : Fin K → α) (i : Fin n) :
    mlpInfer X W1 b1 W2 b2 i = mlpRow (X i) W1 b1 W2 b2 :=
  (perRow_mlp W1 b1 W2 b2).row X i

/-- `_infer(X[σ]) = _infer(X)[σ]` for the MLP. -/
theorem mlp_index_map {α : Type} [RealLike α] {m n d h K : Nat} (σ : Fin m → Fin n) (X : Fin n → Fin d → α)
    (W1 : Fin d → Fin h → α) (b1 : Fin h → α) (W2 : Fin h → Fin K → α) (b2 : Fin K → α) :
    mlpInfer (fun i => X (σ i)) W1 b1 W2 b2 = fun i => mlpInfer X W1 b1 W2 b2 (σ i) :=
  (perRow_mlp W1 b1 W2 b2).index_map σ X

/-- SparseMLPModel (MLP plus skip connection): row `i` of `_infer(X)` is the one-sample forward pass of `X[i]`. -/
theorem sparse_mlp_row {α : Type} [RealLike α] {n d h K : Nat} (X : Fin n → Fin d → α) (W1 : Fin d → Fin h → α)
    (b1 : Fin h → α) (W2 : Fin h → Fin K → α) (b2 : Fin K → α) (Ws : Fin d → Fin K → α) (i : Fin n) :
    sparseMlpInfer X W1 b1 W2 b2 Ws i = sparseMlpRow (X i) W1 b1 W2 b2 Ws :=
  (perRow_sparseMlp W1 b1 W2 b2 Ws).row X i

/-- `_infer(X[σ]) = _infer(X)[σ]` for the sparse MLP. -/
theorem sparse_mlp_index_map {α : Type} [RealLike α] {m n d h K : Nat} (σ : Fin m → Fin n) (X : Fin n → Fin d → α)
    (W1 : Fin d → Fin h → α) (b1 : Fin h → α) (W2 : Fin h → Fin K → α) (b2 : Fin K → α) (Ws : Fin d → Fin K → α) :
    sparseMlpInfer (fun i => X (σ i)) W1 b1 W2 b2 Ws = fun i => sparseMlpInfer X W1 b1 W2 b2 Ws (σ i) :=
  (perRow_sparseMlp W1 b1 W2 b2 Ws).index_map σ X

/-- Douglas: row `i` of `_infer(X)` (soft binning of every used feature, Kronecker merge, leaf scores, soft-max — or the
    error token when the stored parameters do not fit the data width) is the one-sample function of `X[i]`. -/
theorem douglas_row {α : Type} [RealLike α] {n d L K : Nat} (T : α) (X : Fin n → Fin d → α)
    (cl : List (Nat × List α)) (S : Fin L → Fin K → α) (i : Fin n) :
    Model.Douglas.infer T X cl S i = Model.Douglas.inferRow T (X i) cl S :=
  (perRow_douglas T cl S).row X i

/-- `_infer(X[σ]) = _infer(X)[σ]` for Douglas, row-wise (errors included). -/
theorem douglas_index_map {α : Type} [RealLike α] {m n d L K : Nat} (σ : Fin m → Fin n) (T : α)
    (X : Fin n → Fin d → α) (cl : List (Nat × List α)) (S : Fin L → Fin K → α) :
    Model.Douglas.infer T (fun i => X (σ i)) cl S = fun i => Model.Douglas.infer T X cl S (σ i) :=
  (perRow_douglas T cl S).index_map σ X

/-- KernelRIM: row `i` of `predict_proba(X)` depends on `X[i]`, the stored training points and the weights only: it is
    the linear model applied to the kernel row of `X[i]` against the training points. -/
theorem kernel_rim_row {α : Type} [RealLike α] {m n d K : Nat} (pairwise : (Fin d → α) → (Fin d → α) → α)
    (Xnew : Fin m → Fin d → α) (Xtrain : Fin n → Fin d → α) (W : Fin n → Fin K → α) (b : Fin K → α) (i : Fin m) :
    kernelRimInfer pairwise Xnew Xtrain W b i = kernelRimRow pairwise (Xnew i) Xtrain W b :=
  (perRow_kernelRim pairwise Xtrain W b).row Xnew i

/-- `predict_proba(X[σ]) = predict_proba(X)[σ]` for KernelRIM (new points or training points alike). -/
theorem kernel_rim_index_map {α : Type} [RealLike α] {m' m n d K : Nat} (σ : Fin m' → Fin m)
    (pairwise : (Fin d → α) → (Fin d → α) → α) (Xnew : Fin m → Fin d → α) (Xtrain : Fin n → Fin d → α)
    (W : Fin n → Fin K → α) (b : Fin K → α) :
    kernelRimInfer pairwise (fun i => Xnew (σ i)) Xtrain W b = fun i => kernelRimInfer pairwise Xnew Xtrain W b (σ i) :=
  (perRow_kernelRim pairwise Xtrain W b).index_map σ Xnew

/-- Two arrays of any two sizes that share a row give that row the same probabilities (a single row predicted alone,
    a row of a new array equal to a training row, …): linear model. -/
theorem linear_same_row {α : Type} [RealLike α] {n n' d K : Nat} (X : Fin n → Fin d → α) (Y : Fin n' → Fin d → α)
    (W : Fin d → Fin K → α) (b : Fin K → α) (i : Fin n) (j : Fin n') (h : X i = Y j) :
    linearInfer X W b i = linearInfer Y W b j :=
  (perRow_linear W b).same_row X Y i j h

/-- The same for the MLP. -/
theorem mlp_same_row {α : Type} [RealLike α] {n n' d h K : Nat} (X : Fin n → Fin d → α) (Y : Fin n' → Fin d → α)
    (W1 : Fin d → Fin h → α) (b1 : Fin h → α) (W2 : Fin h → Fin K → α) (b2 : Fin K → α) (i : Fin n) (j : Fin n')
    (hij : X i = Y j) : mlpInfer X W1 b1 W2 b2 i = mlpInfer Y W1 b1 W2 b2 j :=
  (perRow_mlp W1 b1 W2 b2).same_row X Y i j hij

/-- The same for the sparse MLP. -/
theorem sparse_mlp_same_row {α : Type} [RealLike α] {n n' d h K : Nat} (X : Fin n → Fin d → α)
    (Y : Fin n' → Fin d → α) (W1 : Fin d → Fin h → α) (b1 : Fin h → α) (W2 : Fin h → Fin K → α) (b2 : Fin K → α)
    (Ws : Fin d → Fin K → α) (i : Fin n) (j : Fin n') (hij : X i = Y j) :
    sparseMlpInfer X W1 b1 W2 b2 Ws i = sparseMlpInfer Y W1 b1 W2 b2 Ws j :=
  (perRow_sparseMlp W1 b1 W2 b2 Ws).same_row X Y i j hij

/-- The same for Douglas. -/
theorem douglas_same_row {α : Type} [RealLike α] {n n' d L K : Nat} (T : α) (X : Fin n → Fin d → α)
    (Y : Fin n' → Fin d → α) (cl : List (Nat × List α)) (S : Fin L → Fin K → α) (i : Fin n) (j : Fin n')
    (h : X i = Y j) : Model.Douglas.infer T X cl S i = Model.Douglas.infer T Y cl S j :=
  (perRow_douglas T cl S).same_row X Y i j h

/-- The same for KernelRIM. -/
theorem kernel_rim_same_row {α : Type} [RealLike α] {m m' n d K : Nat} (pairwise : (Fin d → α) → (Fin d → α) → α)
    (X : Fin m → Fin d → α) (Y : Fin m' → Fin d → α) (Xtrain : Fin n → Fin d → α) (W : Fin n → Fin K → α)
    (b : Fin K → α) (i : Fin m) (j : Fin m') (h : X i = Y j) :
    kernelRimInfer pairwise X Xtrain W b i = kernelRimInfer pairwise Y Xtrain W b j :=
  (perRow_kernelRim pairwise Xtrain W b).same_row X Y i j h

/-- `np.argmax(P, axis=1)`: the label of row `i` is the arg-max of row `i`. -/
theorem predict_row {α : Type} [RealLike α] {n K : Nat} (P : Fin n → Fin K → α) (i : Fin n) :
    predictLabels P i = argmaxRow (P i) := rfl

/-- `argmax(P[σ]) = argmax(P)[σ]`. -/
theorem predict_index_map {α : Type} [RealLike α] {m n K : Nat} (σ : Fin m → Fin n) (P : Fin n → Fin K → α) :
    predictLabels (fun i => P (σ i)) = fun i => predictLabels P (σ i) := rfl

/-- `predict(X[σ]) = predict(X)[σ]`, linear model. -/
theorem linear_predict_index_map {α : Type} [RealLike α] {m n d K : Nat} (σ : Fin m → Fin n)
    (X : Fin n → Fin d → α) (W : Fin d → Fin K → α) (b : Fin K → α) :
    predictLabels (linearInfer (fun i => X (σ i)) W b) = fun i => predictLabels (linearInfer X W b) (σ i) :=
  ((perRow_linear W b).comp argmaxRow).index_map σ X

/-- `predict(X[σ]) = predict(X)[σ]`, MLP. -/
theorem mlp_predict_index_map {α : Type} [RealLike α] {m n d h K : Nat} (σ : Fin m → Fin n) (X : Fin n → Fin d → α)
    (W1 : Fin d → Fin h → α) (b1 : Fin h → α) (W2 : Fin h → Fin K → α) (b2 : Fin K → α) :
    predictLabels (mlpInfer (fun i => X (σ i)) W1 b1 W2 b2) = fun i => predictLabels (mlpInfer X W1 b1 W2 b2) (σ i) :=
  ((perRow_mlp W1 b1 W2 b2).comp argmaxRow).index_map σ X

/-- `predict(X[σ]) = predict(X)[σ]`, sparse MLP. -/
theorem sparse_mlp_predict_index_map {α : Type} [RealLike α] {m n d h K : Nat} (σ : Fin m → Fin n)
    (X : Fin n → Fin d → α) (W1 : Fin d → Fin h → α) (b1 : Fin h → α) (W2 : Fin h → Fin K → α) (b2 : Fin K → α)
    (Ws : Fin d → Fin K → α) :
    predictLabels (sparseMlpInfer (fun i => X (σ i)) W1 b1 W2 b2 Ws)
      = fun i => predictLabels (sparseMlpInfer X W1 b1 W2 b2 Ws) (σ i) :=
  ((perRow_sparseMlp W1 b1 W2 b2 Ws).comp argmaxRow).index_map σ X

/-- `predict(X[σ]) = predict(X)[σ]`, Douglas (arg-max of each row's probability list, errors kept). -/
theorem douglas_predict_index_map {α : Type} [RealLike α] {m n d L K : Nat} (σ : Fin m → Fin n) (T : α)
    (X : Fin n → Fin d → α) (cl : List (Nat × List α)) (S : Fin L → Fin K → α) :
    (fun i => (Model.Douglas.infer T (fun i => X (σ i)) cl S i).map argmaxList)
      = fun i => (Model.Douglas.infer T X cl S (σ i)).map argmaxList :=
  ((perRow_douglas T cl S).comp (Option.map argmaxList)).index_map σ X

/-- `predict(X[σ]) = predict(X)[σ]`, KernelRIM. -/
theorem kernel_rim_predict_index_map {α : Type} [RealLike α] {m' m n d K : Nat} (σ : Fin m' → Fin m)
    (pairwise : (Fin d → α) → (Fin d → α) → α) (Xnew : Fin m → Fin d → α) (Xtrain : Fin n → Fin d → α)
    (W : Fin n → Fin K → α) (b : Fin K → α) :
    kernelRimPredict pairwise (fun i => Xnew (σ i)) Xtrain W b = fun i => kernelRimPredict pairwise Xnew Xtrain W b (σ i) :=
  ((perRow_kernelRim pairwise Xtrain W b).comp argmaxRow).index_map σ Xnew

/-- the vector arg-max of the models is the list arg-max used for Douglas rows -/
theorem argmax_row_eq_list {α : Type} [RealLike α] {K : Nat} (z : Fin K → α) : argmaxRow z = argmaxList (List.ofFn z) := rfl

/-- `predict_proba(X_train) = _infer(training_kernel)`: the kernel between the "new" points and the stored training
    points, evaluated on the training points themselves, is the training kernel `fit` trained on. -/
theorem kernel_rim_train_proba {α : Type} [RealLike α] {n d K : Nat} (pairwise : (Fin d → α) → (Fin d → α) → α)
    (Xtrain : Fin n → Fin d → α) (W : Fin n → Fin K → α) (b : Fin K → α) :
    kernelRimInfer pairwise Xtrain Xtrain W b = linearInfer (trainingKernel pairwise Xtrain) W b := rfl

/-- `predict(X_train) = labels_` for KernelRIM (`labels_ = _infer(training_kernel).argmax(1)` with the final weights). -/
theorem kernel_rim_train_labels {α : Type} [RealLike α] {n d K : Nat} (pairwise : (Fin d → α) → (Fin d → α) → α)
    (Xtrain : Fin n → Fin d → α) (W : Fin n → Fin K → α) (b : Fin K → α) :
    kernelRimPredict pairwise Xtrain Xtrain W b = kernelRimFitLabels pairwise Xtrain W b := rfl

/-- … and for any selection of training rows (a subset, a reordering, one training sample):
    `predict_proba(X_train[σ]) = _infer(training_kernel)[σ]`. -/
theorem kernel_rim_train_index_map {α : Type} [RealLike α] {m n d K : Nat} (σ : Fin m → Fin n)
    (pairwise : (Fin d → α) → (Fin d → α) → α) (Xtrain : Fin n → Fin d → α) (W : Fin n → Fin K → α) (b : Fin K → α) :
    kernelRimInfer pairwise (fun i => Xtrain (σ i)) Xtrain W b
      = fun i => linearInfer (trainingKernel pairwise Xtrain) W b (σ i) := rfl

/-- The rows of the training kernel that `_batchify` hands to `_infer` during `fit` (`training_kernel[batch_indices]`)
    are the kernel rows `_compute_kernel` gives for those samples at prediction time. -/
theorem kernel_rim_batch_rows {α : Type} [RealLike α] {m n d : Nat} (σ : Fin m → Fin n)
    (pairwise : (Fin d → α) → (Fin d → α) → α) (Xtrain : Fin n → Fin d → α) :
    (fun i => trainingKernel pairwise Xtrain (σ i)) = computeKernel pairwise (fun i => Xtrain (σ i)) Xtrain := rfl

/-- Routing is defined row by row: `routeAll(X[σ]) = routeAll(X)[σ]`. -/
theorem route_index_map {α : Type} [RealLike α] {m n : Nat} (t : Model.Kauri.Tree α) (fuel : Nat) (σ : Fin m → Fin n)
    (X : Fin n → Nat → α) : t.routeAll fuel (fun i => X (σ i)) = fun i => t.routeAll fuel X (σ i) := rfl

/-- The numpy recursion of `Tree.predict` (Boolean masks `X_left`, `~X_left`, recursive calls on `X[X_left]` and
    `X[X_right]`, answers scattered back with `predictions[mask] = …`), started anywhere in a well-formed tree on any
    list of rows, neither raises nor mixes rows: entry `i` of the answer is the routing of row `i` alone. -/
theorem tree_predict_node_eq_route {α : Type} [RealLike α] {t : Model.Kauri.Tree α} (ht : KauriC19.WellFormed t)
    (fuel node : Nat) (X : List (Nat → α)) (hn : node < t.nNodes) (hf : t.nNodes ≤ fuel + node) :
    t.predictMask fuel (node : Int) X = some (X.map fun x => t.route x fuel node) := by
  revert X
  revert fuel node
  refine ht.fuel_induction ?_ ?_
  · intro fuel node hn hl X
    rw [predictMask_leaf ht.sized fuel hn hl X, ← List.map_const']
    congr 1
    apply List.map_congr_left
    intro x _
    exact (KauriC09.route_leaf t x (fuel + 1) node hl).symm
  · intro fuel node hn hl hi ihL ihR X
    obtain ⟨th, hth⟩ := Option.isSome_iff_exists.mp hi.thr_some
    obtain ⟨f, hft, hf0⟩ := hi.feat_some
    have eL : ((t.left[node]!).toNat : Int) = t.left[node]! := Int.toNat_of_nonneg (by have := hi.left_gt; omega)
    have eR : ((t.right[node]!).toNat : Int) = t.right[node]! := Int.toNat_of_nonneg (by have := hi.right_gt; omega)
    rw [predictMask_node ht.sized fuel hn hl hft hf0 hth X (eL ▸ ihL _) (eR ▸ ihR _)]
    rw [← List.map_const', List.map_map, maskAssign_select]
    simp only [Option.bind_some]
    have hcomp : (not ∘ fun x : Nat → α => le (x f.toNat) th) = fun x => !(le (x f.toNat) th) := rfl
    rw [hcomp, maskAssign_select]
    congr 1
    apply List.map_congr_left
    intro x _
    rw [route_node x fuel hl hth, hft, Option.getD_some]
    cases le (x f.toNat) th <;> rfl

/-- `Tree.predict(X)` (from the root, as `Kauri.predict` calls it) = every row routed on its own, for every array. -/
theorem tree_predict_eq_route {α : Type} [RealLike α] {t : Model.Kauri.Tree α} (ht : KauriC19.WellFormed t)
    {n : Nat} (X : Fin n → Nat → α) (fuel : Nat) (hf : t.nNodes ≤ fuel) :
    t.predictMask fuel 0 (List.ofFn X) = some (List.ofFn (t.routeAll fuel X)) := by
  have h := tree_predict_node_eq_route ht fuel 0 (List.ofFn X) ht.pos (by omega)
  rw [List.map_ofFn] at h
  exact h

/-- `Tree.predict(X[σ]) = Tree.predict(X)[σ]` for the numpy recursion, every index map `σ`. -/
theorem tree_predict_index_map {α : Type} [RealLike α] {t : Model.Kauri.Tree α} (ht : KauriC19.WellFormed t)
    {m n : Nat} (σ : Fin m → Fin n) (X : Fin n → Nat → α) (fuel : Nat) (hf : t.nNodes ≤ fuel) :
    t.predictMask fuel 0 (List.ofFn fun i => X (σ i)) = some (List.ofFn fun i => t.routeAll fuel X (σ i)) :=
  tree_predict_eq_route ht (fun i => X (σ i)) fuel hf

/-- Python's recursion has no budget; the model's budget is irrelevant as soon as it covers the tree. -/
theorem route_fuel_irrelevant {α : Type} [RealLike α] {t : Model.Kauri.Tree α} (ht : KauriC19.WellFormed t)
    (x : Nat → α) (fuel fuel' : Nat) (h : t.nNodes ≤ fuel) (h' : t.nNodes ≤ fuel') :
    t.route x fuel 0 = t.route x fuel' 0 :=
  RowLocal.route_fuel_irrelevant ht x fuel 0 ht.pos (by omega) fuel' (by omega)

/-- Every tree reached by the fit loop is well formed (the hypothesis `WellFormed` of the theorems above). -/
theorem fitted_tree_well_formed {α : Type} [RealLike α] {X : Nat → Nat → α} {p : Params} {s : FitState α}
    (h : FullInv X p s) : KauriC19.WellFormed s.tree := by
  have hT := h.tree
  refine
    { pos := by have := hT.count; omega
      size_left := hT.size_left, size_right := hT.size_right, size_target := hT.size_target, size_thr := hT.size_thr,
      size_feat := hT.size_feat, size_depths := hT.size_depths, root_depth := hT.root_depth
      internal := fun k hk hl => ?_ }
  obtain ⟨c, hc⟩ := hT.children hk hl
  obtain ⟨f, hf0, hf, _⟩ := h.route.thr_obs k hk hl
  exact
    { left_gt := by rw [hc.left]; exact Int.ofNat_lt.2 hc.gt
      left_lt := by rw [hc.left]; exact Int.ofNat_lt.2 (Nat.lt_of_succ_lt hc.lt)
      right_gt := by rw [hc.right]; exact Int.ofNat_lt.2 (Nat.lt_succ_of_lt hc.gt)
      right_lt := by rw [hc.right]; exact Int.ofNat_lt.2 hc.lt
      depth_left := by rw [hc.left, Int.toNat_natCast]; exact hc.depth_left
      depth_right := by rw [hc.right, Int.toNat_natCast]; exact hc.depth_right
      thr_some := hc.thr_some
      feat_some := ⟨f, hf, hf0⟩ }

/-- Kauri: `predict(X_train) = labels_` through the numpy recursion, for every state reached by the fit loop
    (`FullInv`: C09's invariants). -/
theorem kauri_predict_train_eq_labels {α : Type} [RealLike α] {X : Nat → Nat → α} {p : Params} {s : FitState α}
    (h : FullInv X p s) (fuel : Nat) (hf : s.tree.nNodes ≤ fuel) :
    s.tree.predictMask fuel 0 ((List.range s.asg.n).map X) = some (s.labels.map fun (c : Nat) => (c : Int)) := by
  have ht := fitted_tree_well_formed h
  rw [show s.tree.predictMask fuel 0 ((List.range s.asg.n).map X) = _ from
    tree_predict_node_eq_route ht fuel 0 _ ht.pos (by omega), List.map_map]
  have := h.inv.nNodes_eq
  exact congrArg some (C09.predict_train_eq_labels h fuel (by omega))

/-- … and for any selection `σ` of training samples: `predict(X_train[σ]) = labels_[σ]`. -/
theorem kauri_predict_train_index_map {α : Type} [RealLike α] {X : Nat → Nat → α} {p : Params} {s : FitState α}
    (h : FullInv X p s) (fuel : Nat) (hf : s.tree.nNodes ≤ fuel) {m : Nat} (σ : Fin m → Fin s.asg.n) :
    s.tree.predictMask fuel 0 (List.ofFn fun i => X (σ i))
      = some (List.ofFn fun i => (s.asg.clusterOfSample (σ i) : Int)) := by
  have ht := fitted_tree_well_formed h
  rw [tree_predict_eq_route ht (fun i => X (σ i)) fuel hf]
  congr 1
  apply List.ofFn_inj.2
  funext i
  have := h.inv.nNodes_eq
  exact KauriC09.route_train h.inv h.route (σ i) (σ i).isLt fuel (by omega)

/-- The same for the model's `fit` itself, under the post-condition of `find_best_split` (C08/C09; `hspec` is
    proved over ℝ and ℚ in `Props.C09Spec.findBestSplitSpec`, `findBestSplitSpec_rat`). -/
theorem kauri_fit_predict_train {α : Type} [RealLike α] {κ X : Nat → Nat → α} {n : Nat} {p : Params} (hn : 1 ≤ n)
    (hmin : p.minLeaf ≤ n) (hspec : FindBestSplitSpec κ X p) (draws : List (List Nat)) (fuel : Nat)
    (hf : (fit κ X n p draws).tree.nNodes ≤ fuel) :
    (fit κ X n p draws).tree.predictMask fuel 0 ((List.range (fit κ X n p draws).asg.n).map X)
      = some ((fit κ X n p draws).labels.map fun (c : Nat) => (c : Int)) :=
  kauri_predict_train_eq_labels (KauriC09.fit_inv hn hmin hspec draws) fuel hf

/-- the generic theorems instantiate at `Float`: bit-for-bit equality of the model's double-precision results -/
theorem linear_index_map_float {m n d K : Nat} (σ : Fin m → Fin n) (X : Fin n → Fin d → Float)
    (W : Fin d → Fin K → Float) (b : Fin K → Float) :
    linearInfer (fun i => X (σ i)) W b = fun i => linearInfer X W b (σ i) :=
  linear_index_map σ X W b

/-- the same for the MLP at `Float` (the memo table `tab2` of the model included) -/
theorem mlp_index_map_float {m n d h K : Nat} (σ : Fin m → Fin n) (X : Fin n → Fin d → Float)
    (W1 : Fin d → Fin h → Float) (b1 : Fin h → Float) (W2 : Fin h → Fin K → Float) (b2 : Fin K → Float) :
    mlpInfer (fun i => X (σ i)) W1 b1 W2 b2 = fun i => mlpInfer X W1 b1 W2 b2 (σ i) :=
  mlp_index_map σ X W1 b1 W2 b2

/-- `WellFormed` is satisfiable by a tree with a split, and the mask recursion really computes on it: rows with
    feature 2 equal to 0, 1, 1/2, 0 go to clusters 0, 1, 0, 0 -/
example : KauriC19.WellFormed KauriC19.Example.tree ∧
    KauriC19.Example.tree.predictMask 3 0
      [fun _ => 0, fun _ => 1, fun f => if f = 2 then 1/2 else 7, fun _ => 0] = some [0, 1, 0, 0] :=
  ⟨KauriC19.Example.wf, by decide +kernel⟩

/-- `FullInv` (hypothesis of `kauri_predict_train_eq_labels`) holds after a run with two applied splits (C09's example) -/
example : FullInv KauriC09.Example.X KauriC09.Example.p
    (fitWith KauriC09.Example.X 3 KauriC09.Example.p [KauriC09.Example.b1, KauriC09.Example.b2]) :=
  KauriC09.fitWith_inv (by decide) (by decide) _ KauriC09.Example.splitsOK

end GemVerif.Props.C18
