/-
  C19 (companion) — `print_kauri_tree` validates `feature_names` before it prints anything, and with accepted names
  the printed tree is as faithful as with the default labels.

  `Model.Kauri.validateNames` / `printNodeNamed` / `printKauriTree` (Model/KauriNames.lean) are the line-by-line model of
  the validation block (fix 781feb7), of `print_node` with the partial lookup `feature_names[feature]` (Python indexing:
  a position past the end raises) and of the whole call; the harness compares, on generated (tree, names) pairs, the
  model's outcome (accepted / which exception / text that reached stdout) with the real function.  Here: the validation
  accepts a name list iff it is one-dimensional and long enough for the feature of every internal node
  (`validate_accepts_iff`), and which exception it raises otherwise; when it accepts, every lookup is in range and the
  call prints `Tree.printNode` (Model/Kauri.lean, the printer C19 is about) with `name f = feature_names[f]`
  (`accepted_prints_named`); when it rejects, the exception comes before any output, and on a well-formed tree that is
  the only way the call can raise (`raises_iff_rejected`); C19's print → read back → evaluate = `predict` for accepted,
  pairwise distinct names (`named_print_parse_eval`).
-/
import GemVerif.Lemmas.KauriNames
import GemVerif.Props.C19

namespace GemVerif.Props.C19Names
open Model.Kauri KauriC19 KauriNames

variable {α : Type} [RealLike α]
set_option linter.unusedSectionVars false

/-- `feature_names=None` passes the validation, whatever the tree. -/
theorem validate_none (t : Tree α) : validateNames t none = .ok () := rfl

/-- **Accept iff long enough.**  For every tree `fit` can build (well formed, leaves without feature) and every
    `feature_names` that is not `None`: the validation accepts iff the argument is one-dimensional and its length
    exceeds the feature index of every internal node (`Covers`: `0 ≤ f` and `f < len(feature_names)`). -/
theorem validate_accepts_iff {t : Tree α} (ht : WellFormed t) (hl : LeavesNoFeature t) (a : NamesArg) :
    validateNames t (some a) = .ok () ↔ a.ndim = 1 ∧ Covers t a.items.size :=
  ⟨fun h => ⟨((validate_ok_iff t a).mp h).1, covers_of_ok ht h⟩, fun h => ok_of_covers ht hl h.1 h.2⟩

/-- The safety direction needs no assumption on the leaves: whatever is accepted is one-dimensional and covers every
    internal node of a well-formed tree. -/
theorem validate_accepts_covers {t : Tree α} (ht : WellFormed t) {a : NamesArg}
    (h : validateNames t (some a) = .ok ()) : a.ndim = 1 ∧ Covers t a.items.size :=
  ⟨((validate_ok_iff t a).mp h).1, covers_of_ok ht h⟩

/-- The first `raise` (`"must be a one-dimensional array-like"`) is reached iff `np.ndim(feature_names) != 1`,
    whatever the tree and the entries. -/
theorem validate_rejects_notOneDim (t : Tree α) (a : NamesArg) :
    validateNames t (some a) = .error .notOneDim ↔ a.ndim ≠ 1 := by
  rcases validateNames_cases t a with ⟨hd, e⟩ | ⟨hd, _, e⟩ | ⟨hd, _, e⟩
  · rw [e]; exact ⟨fun _ => hd, fun _ => rfl⟩
  · rw [e]; exact ⟨nofun, fun h => absurd hd h⟩
  · rw [e]; exact ⟨nofun, fun h => absurd hd h⟩

/-- The validation ends in one of three ways: accepted, or one of its two `ValueError`s (never anything else). -/
theorem validate_outcomes (t : Tree α) (names : Option NamesArg) :
    validateNames t names = .ok () ∨ validateNames t names = .error .notOneDim ∨
      validateNames t names = .error .tooFew := by
  cases names with
  | none => exact .inl rfl
  | some a =>
    rcases validateNames_cases t a with ⟨_, e⟩ | ⟨_, _, e⟩ | ⟨_, _, e⟩
    · exact .inr (.inl e)
    · exact .inr (.inr e)
    · exact .inl e

/-- The second `raise` (`"Fewer feature names than used features"`) is reached iff the argument is one-dimensional
    and some internal node's feature index is not a position of it. -/
theorem validate_rejects_tooFew {t : Tree α} (ht : WellFormed t) (hl : LeavesNoFeature t) (a : NamesArg) :
    validateNames t (some a) = .error .tooFew ↔ a.ndim = 1 ∧ ¬ Covers t a.items.size := by
  rcases validateNames_cases t a with ⟨hd, e⟩ | ⟨hd, _, e⟩ | ⟨_, _, e⟩
  · rw [e]; exact ⟨nofun, fun h => absurd h.1 hd⟩
  · refine ⟨fun _ => ⟨hd, fun hc => ?_⟩, fun _ => e⟩
    have := ok_of_covers ht hl hd hc
    rw [e] at this
    cases this
  · rw [e]; exact ⟨nofun, fun h => absurd (covers_of_ok ht e) h.2⟩

/-- In the tree `fit` starts from, the only node is a leaf without feature. -/
theorem leavesNoFeature_init : LeavesNoFeature (Tree.init : Tree α) := by
  intro n hn _
  have : n = 0 := Nat.lt_one_iff.1 hn
  subst this
  rfl

/-- `Tree._add_child` keeps "every leaf has `features[n] = None`".  For the trees `Kauri.fit` builds, the two
    hypotheses of `validate_accepts_iff` follow from the loop invariant `KauriC09.FullInv`:
    `Props.C18.fitted_tree_well_formed` and `KauriNames.leavesNoFeature_of_treeWF` (applied to `FullInv.tree`). -/
theorem leavesNoFeature_addChild {t : Tree α} (ht : WellFormed t) (hl : LeavesNoFeature t) {father : Nat}
    (s : Split α) : LeavesNoFeature (t.addChild father s) := by
  intro n hn hleaf
  rcases KauriC09.addChild_cases ht.sized father s hn with ⟨h1, _, e⟩ | ⟨_, _, e⟩ | ⟨_, e⟩
  · rw [e.left] at hleaf
    rw [e.feat]
    exact hl n h1 hleaf
  · rw [e.left] at hleaf
    omega
  · exact e.feat

/-- **No lookup out of range.**  When the validation accepts, the `feature_names[feature]` evaluated at any internal
    node of a well-formed tree is a plain in-range access: `0 ≤ feature < len(feature_names)`, and it yields that
    entry (no IndexError, no wrap-around from a negative index). -/
theorem lookups_in_range {t : Tree α} (ht : WellFormed t) {a : NamesArg} (h : validateNames t (some a) = .ok ())
    (n : Nat) (hn : n < t.nNodes) (hleaf : t.left[n]! ≠ -1) :
    0 ≤ featAt t n ∧ (featAt t n).toNat < a.items.size ∧
      nameAt (some a) (t.feat[n]!) = some a.items[(featAt t n).toNat]! := by
  have hc := covers_of_ok ht h n hn hleaf
  obtain ⟨h0, _, hfe⟩ := featAt_mem_used ht hn hleaf
  exact ⟨hc.1, hc.2, by rw [hfe]; exact pyIndex_of_lt _ h0 hc.2⟩

/-- **Accepted names: the call prints the named tree and raises nothing.**  The text is `Tree.printNode` — the printer
    C19 is about — with `name f = feature_names[f]`. -/
theorem accepted_prints_named {t : Tree α} (ht : WellFormed t) (sh : α → String) {a : NamesArg}
    (h : validateNames t (some a) = .ok ()) (fuel : Nat) (hfuel : t.nNodes ≤ fuel) :
    printKauriTree t sh (some a) fuel = ⟨t.printNode sh (fun f => a.items[f.toNat]!) fuel 0, none⟩ := by
  rw [printKauriTree_of_ok sh fuel h]
  exact printNodeNamed_eq_of_nameAt ht sh _ _ (fun n hn hleaf => (lookups_in_range ht h n hn hleaf).2.2) fuel 0 ht.pos
    (by omega)

/-- `feature_names=None`: the call prints the tree with the default labels `X[:, f]` and raises nothing. -/
theorem none_prints_default {t : Tree α} (ht : WellFormed t) (sh : α → String) (fuel : Nat)
    (hfuel : t.nNodes ≤ fuel) :
    printKauriTree t sh none fuel = ⟨t.printNode sh (fun f => s!"X[:, {f}]") fuel 0, none⟩ := by
  rw [printKauriTree_of_ok sh fuel (validate_none t)]
  exact printNodeNamed_eq_of_nameAt ht sh none _ (fun n hn hleaf => by rw [(featAt_mem_used ht hn hleaf).2.2]; rfl)
    fuel 0 ht.pos (by omega)

/-- **Rejected names: nothing is printed.**  The call ends with the validation's exception and an empty stdout, for
    any tree whatsoever. -/
theorem rejected_prints_nothing (t : Tree α) (sh : α → String) (names : Option NamesArg) (fuel : Nat)
    {e : PrintError} (h : validateNames t names = .error e) :
    printKauriTree t sh names fuel = ⟨[], some e⟩ := by
  simp only [printKauriTree, h]

/-- On a well-formed tree the call raises iff the validation rejects: there is no exception half-way through the
    text (in particular no IndexError from `feature_names[feature]`). -/
theorem raises_iff_rejected {t : Tree α} (ht : WellFormed t) (sh : α → String) (names : Option NamesArg) (fuel : Nat)
    (hfuel : t.nNodes ≤ fuel) :
    (printKauriTree t sh names fuel).error ≠ none ↔ validateNames t names ≠ .ok () := by
  cases names with
  | none => simp [none_prints_default ht sh fuel hfuel, validateNames]
  | some a =>
    rcases validate_outcomes t (some a) with h | h | h
    · simp [accepted_prints_named ht sh h fuel hfuel, h]
    · simp [rejected_prints_nothing t sh (some a) fuel h, h]
    · simp [rejected_prints_nothing t sh (some a) fuel h, h]

/-- Whenever the call raises on a well-formed tree, stdout is empty. -/
theorem raises_prints_nothing {t : Tree α} (ht : WellFormed t) (sh : α → String) (names : Option NamesArg)
    (fuel : Nat) (hfuel : t.nNodes ≤ fuel) (h : (printKauriTree t sh names fuel).error ≠ none) :
    (printKauriTree t sh names fuel).printed = [] := by
  have hv := (raises_iff_rejected ht sh names fuel hfuel).mp h
  rcases validate_outcomes t names with h' | h' | h'
  · exact absurd h' hv
  · rw [rejected_prints_nothing t sh names fuel h']
  · rw [rejected_prints_nothing t sh names fuel h']

/-- **Named text = default text, relabelled.**  The structured lines printed with accepted names are the lines printed
    with the default labels in which the label `X[:, f]` of every rule line is replaced by `feature_names[f]`
    (`colOfTree` reads `X[:, f]` back to `f`).  `_h` is not used: `a.items[f.toNat]!` is total. -/
theorem named_lines_relabel {t : Tree α} (ht : WellFormed t) (sh : α → String) {a : NamesArg}
    (_h : validateNames t (some a) = .ok ()) (fuel : Nat) :
    printLines t sh (fun f => a.items[f.toNat]!) fuel 0 =
      (printLines t sh (fun f => s!"X[:, {f}]") fuel 0).map
        (Line.mapName fun s => a.items[colOfTree t (fun f => s!"X[:, {f}]") s]!) := by
  refine printLines_mapName ht sh _ _ _ ?_ fuel 0 ht.pos
  intro n hn hleaf
  rw [colOfTree_name (C19.default_names_distinct t) hn hleaf]

/-- **C19 for the call with names.**  For every well-formed tree, every accepted `feature_names` without repeated
    entry and every point `x`: the call raises nothing, and reading its output back and applying the rules to `x` gives
    the cluster `predict` assigns to `x`.  (Trusted, as in C19: different thresholds print differently and without
    blank — Python's `repr(float)`.) -/
theorem named_print_parse_eval {t : Tree α} (ht : WellFormed t) {sh : α → String} {a : NamesArg}
    (h : validateNames t (some a) = .ok ()) (hnd : a.items.toList.Nodup)
    (hth : ThrDistinct t sh) (hnb : ThrNoBlank t sh) (x : Nat → α) (fuel : Nat) (hfuel : t.nNodes ≤ fuel) :
    (printKauriTree t sh (some a) fuel).error = none ∧
    (parseText (printKauriTree t sh (some a) fuel).printed).map
        (evalRules (colOfTree t fun f => a.items[f.toNat]!) (readThrTree t sh) x) = some (t.route x fuel 0) := by
  rw [accepted_prints_named ht sh h fuel hfuel]
  exact ⟨rfl, C19.print_parse_eval_distinct ht (C19.user_names_distinct t a.items hnd (covers_of_ok ht h)) hth hnb x
    fuel hfuel⟩

/-- The same on the output as one string (every line followed by a newline), when no name and no printed threshold
    contains a newline. -/
theorem named_print_parse_eval_text {t : Tree α} (ht : WellFormed t) {sh : α → String} {a : NamesArg}
    (h : validateNames t (some a) = .ok ()) (hnd : a.items.toList.Nodup)
    (hth : ThrDistinct t sh) (hnb : ThrNoBlank t sh) (hnl : NoNewline t sh fun f => a.items[f.toNat]!)
    (x : Nat → α) (fuel : Nat) (hfuel : t.nNodes ≤ fuel) :
    (parseString (textOf (printKauriTree t sh (some a) fuel).printed)).map
        (evalRules (colOfTree t fun f => a.items[f.toNat]!) (readThrTree t sh) x) = some (t.route x fuel 0) := by
  rw [accepted_prints_named ht sh h fuel hfuel]
  exact C19.print_parse_eval_text ht
    (C19.readBack_distinct (C19.user_names_distinct t a.items hnd (covers_of_ok ht h)) hth) hnb hnl x fuel hfuel

/-! The hypotheses are satisfiable, and both verdicts occur: the 3-node tree `KauriC19.Example.tree`
    (root: feature 2 ≤ 1/2; leaves → clusters 0 and 1) -/

section Example
open KauriC19.Example KauriNames.Example

/-- the example tree is one `fit` can build: leaves carry no feature -/
example : LeavesNoFeature tree :=
  leavesNoFeature_addChild KauriC19.wellFormed_init leavesNoFeature_init _

/-- three names are accepted (the tree uses feature 2), and the call prints the named tree -/
example : printKauriTree tree sh (some ⟨1, #["a", "b", "c"]⟩) 3 =
    ⟨["Node 0", "|=c <= 0.5", "| Node 1", "|  Cluster: 0", "|=c > 0.5", "| Node 2", "|  Cluster: 1"], none⟩ := by
  decide +kernel

/-- two names are rejected before anything is printed: `len(feature_names) = 2 <= 2 = max(used)` -/
example : printKauriTree tree sh (some ⟨1, #["a", "b"]⟩) 3 = ⟨[], some .tooFew⟩ := by
  decide +kernel

/-- a two-dimensional argument is rejected whatever it contains -/
example : printKauriTree tree sh (some ⟨2, #["a", "b", "c"]⟩) 3 = ⟨[], some .notOneDim⟩ := by
  decide +kernel

/-- what the validation prevents: without it, the printer given two names prints the first line and then raises -/
example : tree.printNodeNamed sh (some ⟨1, #["a", "b"]⟩) 3 0 = ⟨["Node 0"], some .lookup⟩ := by
  decide +kernel

/-- `named_print_parse_eval` on this tree with the names `a, b, c`: the output, read back, sends `x` to cluster 0
    when `x₂ ≤ 1/2` and to cluster 1 otherwise -/
example (x : Nat → Rat) :
    (parseText (printKauriTree tree sh (some ⟨1, #["a", "b", "c"]⟩) 3).printed).map
        (evalRules (colOfTree tree fun f => (#["a", "b", "c"] : Array String)[f.toNat]!) (readThrTree tree sh) x)
      = some (if x 2 ≤ 1/2 then 0 else 1) := by
  rw [(named_print_parse_eval wf (a := ⟨1, #["a", "b", "c"]⟩) ok_abc (by decide) thrDistinct noBlank x 3
    (Nat.le_refl 3)).2, route_eq]

end Example

end GemVerif.Props.C19Names
