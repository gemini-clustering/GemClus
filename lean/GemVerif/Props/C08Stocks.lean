/-
  C08, bridge part — "the gain attached to the chosen split equals the actual increase of the objective": from stocks
  to sets, and from one split to the whole run.  `Props/C08.lean` shows that each gain formula of `compute_all_splits`
  equals an algebraic ΔJ expression, given that its arguments are the stocks σ(S_L²), σ(S_R²), σ(N²), σ(S_L×C_p), …;
  `Props/C08Max.lean` that the chosen split is the best admissible one.  This file closes the gap between the two and
  the data, over ℝ, for every symmetric kernel (`∀ i j, κ i j = κ j i`; positive semi-definiteness is not assumed):
  the accumulators of the sorted scan of `find_best_split` (gemclus/tree/_utils.pyx) are the stocks of the sets S_L, S_R,
  N, C_c; for each of the six kinds of candidate the gain computed by the code is
  `gemini_objective(labels after the move) - gemini_objective(labels before)`; the split applied by `Kauri.fit` relabels
  the samples exactly like that, so the entries of `tree_.gains` sum to the final objective minus the root score.
  The vocabulary of `Lemmas/KauriStocks.lean` is characterised by `stock_def`, `parts_spec`, `labels_spec`, `wf_iff`,
  `objective_eq_sum_over_clusters`.
-/
import GemVerif.Lemmas.KauriStocks
import GemVerif.Props.C08
import GemVerif.Props.C08Max

namespace GemVerif.Props.C08Stocks
open RealLike Model.Kauri KauriC08 KauriC09 KauriStocks

/-- `stock κ A B` of the model is σ(A × B) = Σ_{i ∈ A} Σ_{j ∈ B} κ(i, j) (lists, with multiplicity). -/
theorem stock_def (κ : Nat → Nat → ℝ) (A B : List Nat) :
    stock κ A B = (A.map fun i => (B.map fun j => κ i j).sum).sum :=
  stock_eq κ A B

/-- The two parts of the cut of leaf `j` along feature `f` at sorted position `l`: `leftPart` is the first `l + 1`
    entries of the sorted order `nu` of the scan, `rightPart` the remaining ones; together they are a rearrangement of
    the samples of the leaf, and the left part has `l + 1` samples (for every position `l` of the scan). -/
theorem parts_spec (X : Nat → Nat → ℝ) (a : Assign) (j f l : Nat) (hl : l < (a.samplesOfLeaf j).length) :
    leftPart X a j f l = (nuOf X a j f).toList.take (l + 1) ∧
    rightPart X a j f l = (nuOf X a j f).toList.drop (l + 1) ∧
    (leftPart X a j f l ++ rightPart X a j f l).Perm (a.samplesOfLeaf j) ∧
    (leftPart X a j f l).length = l + 1 ∧
    (rightPart X a j f l).length = (a.samplesOfLeaf j).length - (l + 1) :=
  ⟨rfl, rfl, parts_perm X a j f l, length_leftPart X a hl, length_rightPart X a j f l⟩

/-- `labelsBefore a` is the label list of the estimator (`labels_`: the cluster of the leaf of every sample) and
    `labelsAfter X a j f l lt rt` gives label `lt` to the samples of the left part of the cut, `rt` to those of the
    right part, and keeps the label of every other sample. -/
theorem labels_spec (X : Nat → Nat → ℝ) (a : Assign) (j f l lt rt : Nat) :
    labelsBefore a = (List.range a.n).map (fun i => a.clusterOf[a.leafOf[i]!]!) ∧
    labelsAfter X a j f l lt rt = (List.range a.n).map (fun i =>
      if i ∈ leftPart X a j f l then lt else if i ∈ rightPart X a j f l then rt else a.clusterOf[a.leafOf[i]!]!) :=
  ⟨rfl, rfl⟩

/-- `labelsBefore` of the assignment of a fit state is `FitState.labels` (`labels_ = (Y @ Z).argmax(0)`). -/
theorem labelsBefore_eq_labels (s : FitState ℝ) : labelsBefore s.asg = s.labels := rfl

/-- `WF a nClusters nLeaves`: every sample sits in one of the `nLeaves` existing leaves and the cluster of every sample
    is one of the `nClusters` existing clusters. -/
theorem wf_iff (a : Assign) (nClusters nLeaves : Nat) :
    WF a nClusters nLeaves ↔
      (∀ i, i < a.n → a.leafOf[i]! < nLeaves) ∧ (∀ i, i < a.n → a.clusterOf[a.leafOf[i]!]! < nClusters) :=
  ⟨fun h => ⟨h.leaf_lt, h.cluster_lt⟩, fun h => ⟨h.1, h.2⟩⟩

/-- `gemini_objective(labels, kernel)` of the model — a sum over the distinct labels — is the kernel-KMeans objective
    J = Σ_{c < M} σ(C_c²)/|C_c| over the clusters `C_c = {i < n : labels[i] = c}`, for every bound `M` on the labels
    (labels that are not used contribute 0: their cluster is empty). -/
theorem objective_eq_sum_over_clusters (κ : Nat → Nat → ℝ) (n M : Nat) (lab : Nat → Nat)
    (hM : ∀ i, i < n → lab i < M) :
    objective κ ((List.range n).map lab) =
      ∑ c ∈ Finset.range M,
        stock κ ((List.range n).filter fun i => lab i == c) ((List.range n).filter fun i => lab i == c)
          / (((List.range n).filter fun i => lab i == c).length : ℝ) :=
  objective_eq_Jlab κ n M lab hM

section stocks
variable (κ X : Nat → Nat → ℝ) (a : Assign) (nClusters K_max nLeaves : Nat)

/-- `sl_square`, the accumulator updated by `sl_square += 2 * alpha + kernel[nu[l], nu[l]]`, is σ(S_L²) when
    `compute_all_splits` is called at position `l`. -/
theorem sl_square_is_stock (hsym : ∀ i j, κ i j = κ j i) (j f l : Nat) (hl : l < (a.samplesOfLeaf j).length) :
    (candAt κ X a nClusters K_max nLeaves j f l).sl_square =
      stock κ (leftPart X a j f l) (leftPart X a j f l) :=
  (accAt_is X a nClusters nLeaves hsym j f (l + 1) hl).sl

/-- `sr_square`, initialised to σ(N²) and updated by `sr_square -= 2 * beta + kernel[nu[l], nu[l]]`, is σ(S_R²). -/
theorem sr_square_is_stock (hsym : ∀ i j, κ i j = κ j i) (j f l : Nat) (hl : l < (a.samplesOfLeaf j).length) :
    (candAt κ X a nClusters K_max nLeaves j f l).sr_square =
      stock κ (rightPart X a j f l) (rightPart X a j f l) :=
  (accAt_is X a nClusters nLeaves hsym j f (l + 1) hl).sr

/-- `leaf_square` is σ(N²), `N` the samples of the leaf (no hypothesis needed). -/
theorem leaf_square_is_stock (j f l : Nat) :
    (candAt κ X a nClusters K_max nLeaves j f l).leaf_square = stock κ (a.samplesOfLeaf j) (a.samplesOfLeaf j) :=
  rfl

/-- `sl_clusters[c]`, updated by `sl_clusters[c] += omega[c, nu[l]]`, is σ(S_L × C_c) for every existing cluster. -/
theorem sl_clusters_is_stock (hsym : ∀ i j, κ i j = κ j i) (j f l : Nat) (hl : l < (a.samplesOfLeaf j).length)
    (c : Nat) (hc : c < nClusters) :
    (candAt κ X a nClusters K_max nLeaves j f l).sl_clusters c =
      stock κ (leftPart X a j f l) (a.samplesOfCluster nLeaves c) :=
  (accAt_is X a nClusters nLeaves hsym j f (l + 1) hl).slc c hc

/-- `sr_clusters[c]`, initialised to Σ_{i ∈ N} omega[c, i] and updated by `sr_clusters[c] -= omega[c, nu[l]]`, is
    σ(S_R × C_c) for every existing cluster. -/
theorem sr_clusters_is_stock (hsym : ∀ i j, κ i j = κ j i) (j f l : Nat) (hl : l < (a.samplesOfLeaf j).length)
    (c : Nat) (hc : c < nClusters) :
    (candAt κ X a nClusters K_max nLeaves j f l).sr_clusters c =
      stock κ (rightPart X a j f l) (a.samplesOfCluster nLeaves c) :=
  (accAt_is X a nClusters nLeaves hsym j f (l + 1) hl).src c hc

/-- `gamma[c, c]` is σ(C_c²) for every existing cluster (no symmetry needed). -/
theorem gammaDiag_is_stock (j f l c : Nat) (hc : c < nClusters) :
    (candAt κ X a nClusters K_max nLeaves j f l).gammaDiag c =
      stock κ (a.samplesOfCluster nLeaves c) (a.samplesOfCluster nLeaves c) :=
  gammaDiagOf_get κ a nClusters nLeaves hc

/-- `cluster_sizes[c]` is |C_c| for every existing cluster. -/
theorem cluster_sizes_is_card (j f l c : Nat) (hc : c < nClusters) :
    (candAt κ X a nClusters K_max nLeaves j f l).cluster_sizes c = (a.samplesOfCluster nLeaves c).length :=
  sizesOf_get a nClusters nLeaves hc

/-- `n_leaf` is |N| and `split_size` is `l + 1` = |S_L|. -/
theorem sizes_are_cards (j f l : Nat) (hl : l < (a.samplesOfLeaf j).length) :
    (candAt κ X a nClusters K_max nLeaves j f l).n_leaf = (a.samplesOfLeaf j).length ∧
    (candAt κ X a nClusters K_max nLeaves j f l).split_size = (leftPart X a j f l).length :=
  ⟨rfl, (length_leftPart X a hl).symm⟩

/-- The same along the whole scan, not only where `compute_all_splits` is called: after `m ≤ n_leaf` iterations of the
    `l_split` loop the four accumulators are the stocks of the first `m` sorted samples (left) and of the others
    (right). -/
theorem accumulators_are_stocks (hsym : ∀ i j, κ i j = κ j i) (j f m : Nat) (hm : m ≤ (a.samplesOfLeaf j).length) :
    (accAt κ X a nClusters nLeaves j f m).sl =
        stock κ ((nuOf X a j f).toList.take m) ((nuOf X a j f).toList.take m) ∧
    (accAt κ X a nClusters nLeaves j f m).sr =
        stock κ ((nuOf X a j f).toList.drop m) ((nuOf X a j f).toList.drop m) ∧
    (∀ c, c < nClusters → (accAt κ X a nClusters nLeaves j f m).slc[c]! =
        stock κ ((nuOf X a j f).toList.take m) (a.samplesOfCluster nLeaves c)) ∧
    (∀ c, c < nClusters → (accAt κ X a nClusters nLeaves j f m).src[c]! =
        stock κ ((nuOf X a j f).toList.drop m) (a.samplesOfCluster nLeaves c)) :=
  have h := accAt_is X a nClusters nLeaves hsym j f m hm
  ⟨h.sl, h.sr, h.slc, h.src⟩

end stocks

/-! Hypotheses of the six `…_gain_is_increase` theorems, all guaranteed by the fit loop (see `wf_of_fullInv`, `clusters_nonempty_of_fullInv`):
  `WF a nClusters nLeaves`; `l < n_leaf - 1` (the range of the `l_split` loop); for a switch / reallocation the target
  cluster is an existing, non-empty cluster other than `k` (the code divides by `cluster_sizes[k']`); for double star
  and reallocation the guard `n_leaf != cluster_sizes[k]` of the code.  That the leaf is contained in its cluster
  `k = clusterOf[j]`, that `k < nClusters` and that different clusters are disjoint follow from `WF`.

  The hypotheses "non-empty target" and `n_leaf != cluster_sizes[k]` are those under which the code does not divide by
  zero.  Over ℝ, where `x / 0 = 0`, both sides agree without them (`Props.C08.leftSwitch_eq_dJ` … need no hypothesis, and an
  emptied cluster contributes `0 / 0 = 0` to the objective), so the proofs do not use them. -/

section kinds
set_option linter.unusedVariables false
variable (κ X : Nat → Nat → ℝ) (a : Assign) (nClusters K_max nLeaves : Nat)

/-- Left star: the value `left_star` computed for the cut `(j, f, l)` is the objective of the labels after the
    left part has become the new cluster `n_clusters` (the right part stays in `k`) minus the current objective. -/
theorem leftStar_gain_is_increase (hsym : ∀ i j, κ i j = κ j i) (hwf : WF a nClusters nLeaves) (j f l : Nat)
    (hl : l < (a.samplesOfLeaf j).length - 1) :
    (candAt κ X a nClusters K_max nLeaves j f l).app Gen.Kauri.leftStar a.clusterOf[j]! =
      objective κ (labelsAfter X a j f l nClusters a.clusterOf[j]!) - objective κ (labelsBefore a) := by
  obtain ⟨hk, hl⟩ := cut_range hwf hl
  -- both sides become one expression in the stocks: the right one through the labelling (`objective_diff`, `dJ_left`),
  -- the left one through what the formula receives (`candAt_app`) and its algebra (`Props.C08`); so for all six kinds
  rw [objective_diff X κ hwf j f l (Nat.le_succ nClusters) (Nat.lt_succ_self _) (Nat.lt_succ_of_lt hk),
    dJ_left hsym (cut_of_scan X a j f l) (Nat.lt_succ_of_lt hk) (Nat.lt_succ_self _) hk.ne',
    class_new_empty hwf (le_refl nClusters), class_eq_cluster hwf, List.nil_append, term_nil, sub_zero,
    candAt_app X a nClusters K_max nLeaves hsym hl hk hk,
    Props.C08.leftStar_eq_dJ, add_sub_assoc, add_comm]
  rfl

/-- Right star: the same with the right part becoming the new cluster `n_clusters`. -/
theorem rightStar_gain_is_increase (hsym : ∀ i j, κ i j = κ j i) (hwf : WF a nClusters nLeaves) (j f l : Nat)
    (hl : l < (a.samplesOfLeaf j).length - 1) :
    (candAt κ X a nClusters K_max nLeaves j f l).app Gen.Kauri.rightStar a.clusterOf[j]! =
      objective κ (labelsAfter X a j f l a.clusterOf[j]! nClusters) - objective κ (labelsBefore a) := by
  obtain ⟨hk, hl⟩ := cut_range hwf hl
  rw [objective_diff X κ hwf j f l (Nat.le_succ nClusters) (Nat.lt_succ_of_lt hk) (Nat.lt_succ_self _),
    relabel_swap (cut_of_scan X a j f l),
    dJ_left hsym (cut_of_scan X a j f l).symm (Nat.lt_succ_of_lt hk) (Nat.lt_succ_self _) hk.ne',
    class_new_empty hwf (le_refl nClusters), class_eq_cluster hwf, List.nil_append, term_nil, sub_zero,
    candAt_app X a nClusters K_max nLeaves hsym hl hk hk,
    Props.C08.rightStar_eq_dJ, add_sub_cancel_left, add_sub_assoc, add_comm]
  rfl

/-- Left switch: the value `left_switch` computed for the other cluster `p` is the objective of the labels after the
    left part has joined cluster `p` minus the current objective. -/
theorem leftSwitch_gain_is_increase (hsym : ∀ i j, κ i j = κ j i) (hwf : WF a nClusters nLeaves) (j f l p : Nat)
    (hl : l < (a.samplesOfLeaf j).length - 1) (hp : p < nClusters) (hpk : p ≠ a.clusterOf[j]!)
    (hne : a.samplesOfCluster nLeaves p ≠ []) :
    (candAt κ X a nClusters K_max nLeaves j f l).app Gen.Kauri.leftSwitch p =
      objective κ (labelsAfter X a j f l p a.clusterOf[j]!) - objective κ (labelsBefore a) := by
  obtain ⟨hk, hl⟩ := cut_range hwf hl
  rw [objective_diff X κ hwf j f l (M := nClusters) (le_refl _) hp hk,
    dJ_left hsym (cut_of_scan X a j f l) hk hp hpk, class_eq_cluster hwf, class_eq_cluster hwf, term_append hsym,
    candAt_app X a nClusters K_max nLeaves hsym hl hk hp,
    Props.C08.leftSwitch_eq_dJ]
  rfl

/-- Right switch: the same with the right part joining cluster `p`. -/
theorem rightSwitch_gain_is_increase (hsym : ∀ i j, κ i j = κ j i) (hwf : WF a nClusters nLeaves) (j f l p : Nat)
    (hl : l < (a.samplesOfLeaf j).length - 1) (hp : p < nClusters) (hpk : p ≠ a.clusterOf[j]!)
    (hne : a.samplesOfCluster nLeaves p ≠ []) :
    (candAt κ X a nClusters K_max nLeaves j f l).app Gen.Kauri.rightSwitch p =
      objective κ (labelsAfter X a j f l a.clusterOf[j]! p) - objective κ (labelsBefore a) := by
  obtain ⟨hk, hl⟩ := cut_range hwf hl
  rw [objective_diff X κ hwf j f l (M := nClusters) (le_refl _) hk hp,
    relabel_swap (cut_of_scan X a j f l), dJ_left hsym (cut_of_scan X a j f l).symm hk hp hpk, class_eq_cluster hwf, class_eq_cluster hwf, term_append hsym,
    candAt_app X a nClusters K_max nLeaves hsym hl hk hp,
    Props.C08.rightSwitch_eq_dJ, add_sub_cancel_left]
  rfl

/-- Double star: the value `double_star_gain` is the objective of the labels after the two parts have become the new
    clusters `n_clusters` and `n_clusters + 1` minus the current objective, when cluster `k` has a sample outside the
    leaf (the guard `n_leaf != cluster_sizes[k]` of the code). -/
theorem doubleStar_gain_is_increase (hsym : ∀ i j, κ i j = κ j i) (hwf : WF a nClusters nLeaves) (j f l : Nat)
    (hl : l < (a.samplesOfLeaf j).length - 1)
    (hleaf : (a.samplesOfLeaf j).length ≠ (a.samplesOfCluster nLeaves a.clusterOf[j]!).length) :
    (candAt κ X a nClusters K_max nLeaves j f l).app Gen.Kauri.doubleStar a.clusterOf[j]! =
      objective κ (labelsAfter X a j f l nClusters (nClusters + 1)) - objective κ (labelsBefore a) := by
  obtain ⟨hk, hl⟩ := cut_range hwf hl
  have hk1 : a.clusterOf[j]! < nClusters + 1 := Nat.lt_succ_of_lt hk
  rw [objective_diff X κ hwf j f l (Nat.le_add_right nClusters 2) (Nat.lt_succ_of_lt (Nat.lt_succ_self _))
      (Nat.lt_succ_self _),
    dJ_both hsym (cut_of_scan X a j f l) (Nat.lt_succ_of_lt hk1) (Nat.lt_succ_of_lt (Nat.lt_succ_self _))
      (Nat.lt_succ_self _) hk.ne' hk1.ne' (Nat.lt_succ_self _).ne,
    class_new_empty hwf (le_refl nClusters), class_new_empty hwf (Nat.le_succ nClusters), class_eq_cluster hwf,
    List.nil_append, List.nil_append, term_nil, sub_zero, sub_zero,
    candAt_app X a nClusters K_max nLeaves hsym hl hk hk,
    Props.C08.doubleStar_eq_dJ, add_sub_cancel_left, add_sub_assoc]
  rfl

/-- Reallocation: `left_switch(pl) + right_switch(pr) + corrective_term` is the objective of the labels after the left
    part has joined `pl` and the right part `pr` (two different existing non-empty clusters other than `k`) minus the
    current objective, when cluster `k` has a sample outside the leaf. -/
theorem realloc_gain_is_increase (hsym : ∀ i j, κ i j = κ j i) (hwf : WF a nClusters nLeaves) (j f l pl pr : Nat)
    (hl : l < (a.samplesOfLeaf j).length - 1)
    (hleaf : (a.samplesOfLeaf j).length ≠ (a.samplesOfCluster nLeaves a.clusterOf[j]!).length)
    (hpl : pl < nClusters) (hpr : pr < nClusters) (hplk : pl ≠ a.clusterOf[j]!) (hprk : pr ≠ a.clusterOf[j]!)
    (hne : pl ≠ pr) (hnel : a.samplesOfCluster nLeaves pl ≠ []) (hner : a.samplesOfCluster nLeaves pr ≠ []) :
    (candAt κ X a nClusters K_max nLeaves j f l).app Gen.Kauri.leftSwitch pl
        + (candAt κ X a nClusters K_max nLeaves j f l).app Gen.Kauri.rightSwitch pr
        + (candAt κ X a nClusters K_max nLeaves j f l).app Gen.Kauri.corrective a.clusterOf[j]! =
      objective κ (labelsAfter X a j f l pl pr) - objective κ (labelsBefore a) := by
  obtain ⟨hk, hl⟩ := cut_range hwf hl
  rw [objective_diff X κ hwf j f l (M := nClusters) (le_refl _) hpl hpr,
    dJ_both hsym (cut_of_scan X a j f l) hk hpl hpr hplk hprk hne, class_eq_cluster hwf, class_eq_cluster hwf,
    class_eq_cluster hwf, term_append hsym, term_append hsym,
    candAt_app X a nClusters K_max nLeaves hsym hl hk hpl,
    candAt_app X a nClusters K_max nLeaves hsym hl hk hpr,
    candAt_app X a nClusters K_max nLeaves hsym hl hk hk,
    Props.C08.realloc_eq, add_sub_cancel_left]
  rfl

/-- All kinds at once: for every candidate (gain `g`, left target `lt`, right target `rt`) that `compute_all_splits`
    may evaluate for the cut `(j, f, l)` (`Admissible`, see `Props/C08Max.lean`), in a well-formed state whose existing
    clusters are all non-empty, `g` is the objective of the labels after moving the left part to `lt` and the right
    part to `rt`, minus the current objective. -/
theorem admissible_gain_is_increase (hsym : ∀ i j, κ i j = κ j i) (hwf : WF a nClusters nLeaves)
    (hne : ∀ c, c < nClusters → a.samplesOfCluster nLeaves c ≠ []) (j f l : Nat)
    (hl : l < (a.samplesOfLeaf j).length - 1) (g : ℝ) (lt rt : Int)
    (hadm : Admissible (candAt κ X a nClusters K_max nLeaves j f l) g lt rt) :
    g = objective κ (labelsAfter X a j f l lt.toNat rt.toNat) - objective κ (labelsBefore a) := by
  have hk := (cut_range hwf hl).1
  have hsz : (candAt κ X a nClusters K_max nLeaves j f l).cluster_sizes
      (candAt κ X a nClusters K_max nLeaves j f l).k = (a.samplesOfCluster nLeaves a.clusterOf[j]!).length :=
    sizesOf_get a nClusters nLeaves hk
  cases hadm with
  | doubleStar h1 h2 =>
    rw [hsz] at h2
    simp only [Int.toNat_natCast]
    exact doubleStar_gain_is_increase κ X a nClusters K_max nLeaves hsym hwf j f l hl h2
  | leftStar h1 =>
    simp only [Int.toNat_natCast]
    exact leftStar_gain_is_increase κ X a nClusters K_max nLeaves hsym hwf j f l hl
  | rightStar h1 =>
    simp only [Int.toNat_natCast]
    exact rightStar_gain_is_increase κ X a nClusters K_max nLeaves hsym hwf j f l hl
  | leftSwitch q hn hq hqk =>
    simp only [Int.toNat_natCast]
    exact leftSwitch_gain_is_increase κ X a nClusters K_max nLeaves hsym hwf j f l q hl hq hqk (hne q hq)
  | rightSwitch q hn hq hqk =>
    simp only [Int.toNat_natCast]
    exact rightSwitch_gain_is_increase κ X a nClusters K_max nLeaves hsym hwf j f l q hl hq hqk (hne q hq)
  | realloc pl pr h3 h2 hpl hpr hplk hprk hlr =>
    rw [hsz] at h2
    simp only [Int.toNat_natCast]
    exact realloc_gain_is_increase κ X a nClusters K_max nLeaves hsym hwf j f l pl pr hl h2 hpl hpr hplk hprk hlr
      (hne pl hpl) (hne pr hpr)

end kinds

section run
variable (κ X : Nat → Nat → ℝ) (p : Params)

/-- Every state reachable by the loop of `Kauri.fit` (`FullInv`, established by `KauriC09.fit_inv`) is well-formed. -/
theorem wf_of_fullInv (s : FitState ℝ) (h : FullInv X p s) : WF s.asg s.nClusters s.nLeaves :=
  ⟨h.inv.leafOf_lt, fun i hi => h.inv.clusterOf_lt _ (h.inv.leafOf_lt i hi)⟩

/-- In every reachable state every existing cluster owns at least one sample. -/
theorem clusters_nonempty_of_fullInv (s : FitState ℝ) (h : FullInv X p s) (c : Nat) (hc : c < s.nClusters) :
    s.asg.samplesOfCluster s.nLeaves c ≠ [] := by
  obtain ⟨i, hi, e⟩ := cluster_has_sample h.inv h.samples hc
  exact List.ne_nil_of_mem (mem_samplesOfCluster.2 ⟨hi, h.inv.leafOf_lt i hi, e⟩)

/-- Applying (as `Kauri.fit` does: `X[i, feature] <= threshold` goes left) a split whose leaf, feature and threshold
    are those of an evaluated cut `(j, f, l)` produces exactly the labels `labelsAfter`: the samples of the left part
    of the cut get the left target, those of the right part the right target, all other labels are unchanged. -/
theorem applySplit_relabels (s : FitState ℝ) (b : Split ℝ) (hI : Inv p s) (hok : SplitOK X p s b)
    (hlt : s.nLeaves < p.maxLeaves) (j f l : Nat) (hev : Evaluated X s.asg p.minLeaf j f l)
    (hleaf : b.leaf = (j : Int)) (hfeat : b.feature = (f : Int))
    (hthr : b.threshold = X (nuOf X s.asg j f)[l]! f) :
    (applySplit X p s b).labels = labelsAfter X s.asg j f l b.left.toNat b.right.toNat := by
  have c : Ctx X p s b := ⟨hI, hok, hlt⟩
  obtain rfl : b.leaf.toNat = j := by rw [hleaf]; exact Int.toNat_natCast j
  obtain rfl : b.feature.toNat = f := by rw [hfeat]; exact Int.toNat_natCast f
  unfold FitState.labels labelsAfter
  rw [applySplit_n]
  apply List.map_congr_left
  intro i hi
  have hi' : i < s.asg.n := List.mem_range.1 hi
  have hL := mem_leftPart_iff X s.asg hev i
  have hR := mem_rightPart_iff X s.asg hev i
  rw [mem_samplesOfLeaf, ← hthr] at hL hR
  unfold relabel
  -- the three places a sample can be after the split are the three branches of `relabel`
  rcases c.sample_cases hi' with ⟨h1, h2, e⟩ | ⟨h1, h2, e⟩ | ⟨h1, e⟩ <;> rw [clusterOfSample_of_leaf e]
  · have hnL : i ∉ leftPart X s.asg b.leaf.toNat b.feature.toNat l := fun h => by
      have := (hL.1 h).2
      rw [show le _ _ = false from h2] at this
      cases this
    rw [c.clusterOf_new, if_neg hnL, if_pos (hR.2 ⟨⟨hi', h1⟩, h2⟩)]
  · rw [c.clusterOf_leaf, if_pos (hL.2 ⟨⟨hi', h1⟩, h2⟩)]
  · rw [c.clusterOf_other (c.inv.leafOf_lt i hi') h1, if_neg fun h => h1 (hL.1 h).1.2, if_neg fun h => h1 (hR.1 h).1.2]
    exact (clusterOfSample_of_leaf rfl).symm

/-- `stepGain κ X p s features` is the gain one iteration of the loop records: the gain returned by `find_best_split`
    if the loop guard holds and that gain is positive (the split is then applied), and 0 otherwise. -/
theorem stepGain_def (s : FitState ℝ) (features : List Nat) :
    stepGain κ X p s features =
      if s.continues p = true ∧
          0 < (findBestSplit κ X s.toExplore s.asg s.nClusters p.maxClusters s.nLeaves p.minLeaf features).gain then
        (findBestSplit κ X s.toExplore s.asg s.nClusters p.maxClusters s.nLeaves p.minLeaf features).gain
      else 0 :=
  rfl

/-- `runGains κ X p s draws` lists the gains recorded by the successive iterations of a run from state `s`. -/
theorem runGains_def (s : FitState ℝ) (d : List Nat) (ds : List (List Nat)) :
    runGains κ X p s [] = [] ∧
    runGains κ X p s (d :: ds) = stepGain κ X p s d :: runGains κ X p (fitStep κ X p s d) ds :=
  ⟨rfl, rfl⟩

/-- One iteration of `Kauri.fit` from a reachable state: the gain attached to the chosen split equals the actual
    increase of the objective of `labels_` caused by applying it (and nothing changes when no split is applied). -/
theorem fitStep_gain_is_increase (hsym : ∀ i j, κ i j = κ j i) (s : FitState ℝ) (hF : FullInv X p s)
    (features : List Nat) :
    stepGain κ X p s features = objective κ (fitStep κ X p s features).labels - objective κ s.labels := by
  have hch := Props.C08Max.findBestSplit_attained κ X s.asg s.nClusters p.maxClusters s.nLeaves p.minLeaf s.toExplore
    features
  obtain ⟨b, rfl, ha | ⟨eg, g, k, e⟩⟩ := fitStep_cases (κ := κ) hF features
  · rw [ha.stepGain_eq, ha.fitStep_eq]
    have hpos := ha.gain_pos
    have c := ha.ctx
    -- the applied split is the record of an admissible candidate of an evaluated cut
    rcases hch with e0 | ⟨j, f, l, g, lt, rt, hj, hf, hev, hadm, e0⟩ <;> rw [e0] at hpos c ⊢
    · exact absurd hpos (lt_irrefl (0 : ℝ))
    · rw [admissible_gain_is_increase κ X s.asg s.nClusters p.maxClusters s.nLeaves hsym (wf_of_fullInv X p s hF)
        (clusters_nonempty_of_fullInv X p s hF) j f l hev.lt g lt rt hadm]
      rw [← applySplit_relabels X p _ _ c.inv c.ok c.lt j f l hev rfl rfl rfl]
      rfl
  · rw [eg, e]
    exact (sub_self _).symm

/-- Telescoping, abstractly: if every recorded gain is the objective difference of its step, the recorded gains sum
    to the final objective minus the initial one. -/
theorem gains_telescope (J g : ℕ → ℝ) (T : ℕ) (h : ∀ t, t < T → g t = J (t + 1) - J t) :
    ∑ t ∈ Finset.range T, g t = J T - J 0 := by
  rw [Finset.sum_congr rfl (fun t ht => h t (Finset.mem_range.1 ht))]
  exact Finset.sum_range_sub J T

/-- Along any run of the loop from a reachable state, the recorded gains sum to the objective of the final labels minus
    the objective of the initial labels. -/
theorem run_gains_sum (hsym : ∀ i j, κ i j = κ j i) (s : FitState ℝ) (hF : FullInv X p s)
    (draws : List (List Nat)) :
    (runGains κ X p s draws).sum =
      objective κ (draws.foldl (fitStep κ X p) s).labels - objective κ s.labels := by
  induction draws generalizing s with
  | nil => simp [runGains]
  | cons d ds ih =>
    rw [runGains, List.sum_cons, List.foldl_cons, ih _ (fitStep_inv (κ := κ) hF d),
      fitStep_gain_is_increase κ X p hsym s hF d]
    ring

/-- The root score: before the first split all samples are in cluster 0 and the objective is σ(all²)/n. -/
theorem root_score (n : Nat) :
    objective κ (FitState.init n p : FitState ℝ).labels = stock κ (List.range n) (List.range n) / (n : ℝ) := by
  rw [labels_init, objective_eq_Jlab κ n 1 _ (fun _ _ => Nat.zero_lt_one)]
  unfold Jlab
  rw [Finset.sum_range_one]
  have : classOf n (fun _ => 0) 0 = List.range n := by
    unfold classOf
    rw [List.filter_eq_self]
    intro i _
    rfl
  rw [this, term, List.length_range]

/-- `Kauri.fit` as a whole (any data `X`, any symmetric kernel, any parameters and feature draws, `n ≥ 1` samples and
    `min_samples_leaf ≤ n` as `validate_data` ensures): the entries of `tree_.gains` sum to the objective of the final
    `labels_` minus the root score, i.e. final score = root score + sum of the recorded gains. -/
theorem fit_final_score (hsym : ∀ i j, κ i j = κ j i) (n : Nat) (hn : 1 ≤ n) (hmin : p.minLeaf ≤ n)
    (draws : List (List Nat)) :
    objective κ (fit κ X n p draws).labels =
      stock κ (List.range n) (List.range n) / (n : ℝ) + (fit κ X n p draws).tree.gains.toList.sum := by
  have hF := fullInv_init X n p hn hmin
  have h := (run_gainsInv (κ := κ) draws _ 0 hF (gainsInv_init n p)).sum
  rw [zero_add, run_gains_sum κ X p hsym _ hF, root_score] at h
  unfold fit
  rw [h]
  ring

/-- Gain and control together (`Props/C08Max.lean`): when an iteration applies a split, the objective of the labels
    after the iteration is at least the objective that any admissible alternative (any explorable leaf, drawn feature,
    evaluated threshold position, and star / double-star / switch / reallocation assignment) would have reached. -/
theorem chosen_split_gives_largest_increase (hsym : ∀ i j, κ i j = κ j i) (s : FitState ℝ) (hF : FullInv X p s)
    (features : List Nat) (hc : s.continues p = true)
    (hpos : 0 < (findBestSplit κ X s.toExplore s.asg s.nClusters p.maxClusters s.nLeaves p.minLeaf features).gain)
    (j f l : Nat) (hj : j ∈ s.toExplore) (hf : f ∈ features) (hev : Evaluated X s.asg p.minLeaf j f l)
    (g : ℝ) (lt rt : Int)
    (hadm : Admissible (candAt κ X s.asg s.nClusters p.maxClusters s.nLeaves j f l) g lt rt) :
    objective κ (labelsAfter X s.asg j f l lt.toNat rt.toNat) ≤ objective κ (fitStep κ X p s features).labels := by
  have hg := admissible_gain_is_increase κ X s.asg s.nClusters p.maxClusters s.nLeaves hsym (wf_of_fullInv X p s hF)
    (clusters_nonempty_of_fullInv X p s hF) j f l hev.lt g lt rt hadm
  have hmax := Props.C08Max.findBestSplit_max κ X s.asg s.nClusters p.maxClusters s.nLeaves p.minLeaf s.toExplore features hj
    hf hev hadm
  rw [labelsBefore_eq_labels] at hg
  have h2 := fitStep_gain_is_increase κ X p hsym s hF features
  rw [stepGain, if_pos ⟨hc, hpos⟩] at h2
  linarith

/-- When `find_best_split` reports no positive gain (the loop then stops), no admissible alternative would have
    increased the objective of the labels. -/
theorem stop_means_no_alternative_increases (hsym : ∀ i j, κ i j = κ j i) (s : FitState ℝ) (hF : FullInv X p s)
    (features : List Nat)
    (hstop : ¬ 0 < (findBestSplit κ X s.toExplore s.asg s.nClusters p.maxClusters s.nLeaves p.minLeaf features).gain)
    (j f l : Nat) (hj : j ∈ s.toExplore) (hf : f ∈ features) (hev : Evaluated X s.asg p.minLeaf j f l)
    (g : ℝ) (lt rt : Int)
    (hadm : Admissible (candAt κ X s.asg s.nClusters p.maxClusters s.nLeaves j f l) g lt rt) :
    objective κ (labelsAfter X s.asg j f l lt.toNat rt.toNat) ≤ objective κ s.labels := by
  have hg := admissible_gain_is_increase κ X s.asg s.nClusters p.maxClusters s.nLeaves hsym (wf_of_fullInv X p s hF)
    (clusters_nonempty_of_fullInv X p s hF) j f l hev.lt g lt rt hadm
  have hmax := Props.C08Max.findBestSplit_max κ X s.asg s.nClusters p.maxClusters s.nLeaves p.minLeaf s.toExplore features hj
    hf hev hadm
  rw [labelsBefore_eq_labels] at hg
  linarith [not_lt.1 hstop]

end run

section witnesses

/-- five samples, four leaves `{0,1}, {2}, {3}, {4}`, three clusters: leaves 0 and 1 in cluster 0, leaf 2 in cluster 1,
    leaf 3 in cluster 2 -/
def exAsg : Assign := ⟨5, #[0, 0, 1, 2, 3], #[0, 0, 1, 2]⟩

/-- The hypotheses of the six `…_gain_is_increase` theorems hold together for the cut of leaf 0 at position 0 in `exAsg`: the
    state is well-formed, … -/
example : WF exAsg 3 4 := by
  rw [wf_iff]
  decide

/-- … position 0 is in the range of the scan of leaf 0, cluster 0 has a sample outside leaf 0, clusters 1 and 2 are
    existing non-empty clusters other than the cluster 0 of the leaf, … -/
example : 0 < (exAsg.samplesOfLeaf 0).length - 1 ∧
    (exAsg.samplesOfLeaf 0).length ≠ (exAsg.samplesOfCluster 4 exAsg.clusterOf[0]!).length ∧
    1 ≠ exAsg.clusterOf[0]! ∧ 2 ≠ exAsg.clusterOf[0]! ∧
    exAsg.samplesOfCluster 4 1 ≠ [] ∧ exAsg.samplesOfCluster 4 2 ≠ [] := by
  decide

/-- … and every existing cluster is non-empty (hypothesis `hne` of `admissible_gain_is_increase`). -/
example : ∀ c, c < 3 → exAsg.samplesOfCluster 4 c ≠ [] := by
  decide

/-- The hypothesis `FullInv` of the theorems about the fit loop holds in the initial state of `Kauri.fit` (and is preserved by every
    iteration, `KauriC09.fit_inv`). -/
example (X : Nat → Nat → ℝ) (p : Params) (n : Nat) (hn : 1 ≤ n) (hmin : p.minLeaf ≤ n) :
    FullInv X p (FitState.init n p : FitState ℝ) :=
  fullInv_init X n p hn hmin

/-- Symmetric kernels that are not positive semi-definite are covered: `κ(i, j) = -1` is symmetric. -/
example : ∀ i j : Nat, (fun _ _ => (-1 : ℝ)) i j = (fun _ _ => (-1 : ℝ)) j i := fun _ _ => rfl

end witnesses

end GemVerif.Props.C08Stocks
