/-
  C11 (companion) — the congruence "precomputed ≡ named", stated on everything the forwarding model says an estimator
  hands to the rest of its code, for an arbitrary interpretation `ops` of scikit-learn's pairwise functions.

  In `Model.Forwarding` an estimator `Est(**hyper)` touches its kernel / metric hyperparameters in two places only:
  `get_gemini()` (`resolveGemini`: the GEMINI object) and `get_gemini().compute_affinity(X, y)` (`estAffinity`: the
  matrix, the exception, the warnings); `Kauri` in `_compute_kernel` (`estOwnKernel`).  `trainingInputs` below packs
  the two: the GEMINI object without the attributes that name the affinity (`kernel`, `kernel_params`, `metric`,
  `metric_params`) — its constructor, the class whose `evaluate` runs and every other attribute (`ovo`, `epsilon`, and
  whatever a later version of the constructor may add) — together with the affinity outcome.

  What this model cannot say, and what therefore stays an observation of harness/props/c11.py (named vs precomputed
  fits / paths / scores compared bitwise): that the Python `fit`, `path` and `score` are functions of `trainingInputs`,
  i.e. read `self.kernel`, `self.kernel_params`, `self.metric`, `self.metric_params` nowhere else.  The forwarding model
  has no `fit`; the dataflow frames of C12 list the attributes a method reads, not where it reads them.
-/
import GemVerif.Props.C11

namespace GemVerif.Props.C11Cong
open GemVerif.Model.Forwarding GemVerif.Lemmas.Forwarding
open GemVerif.Gen.Forwarding (tables)

/-- the attributes through which a GEMINI object names its affinity -/
def affinityAttrs : List String := ["kernel", "kernel_params", "metric", "metric_params"]

/-- a GEMINI object without the attributes that name its affinity: constructor, class whose `evaluate` runs, every
    other attribute (in the order the constructor binds them) -/
def objectiveOf (g : GeminiObj) : String × String × List (String × Atom) :=
  (g.ctor, g.evalCls, g.attrs.filter fun a => !affinityAttrs.contains a.1)

/-- everything `Est(**hyper)` derives from its kernel / metric hyperparameters, according to the forwarding model:
    the GEMINI of `get_gemini()` up to the affinity-naming attributes, and the outcome of
    `get_gemini().compute_affinity(X, y)` (matrix or exception, number of warnings) -/
def trainingInputs {M : Type} (T : Tables) (ops : Ops M) (e : EstDesc) (h : Hyper) (y : Option M) :
    Except String (String × String × List (String × Atom)) × Out M :=
  ((resolveGemini T e h).map objectiveOf, estAffinity T ops e h y)

section generic
variable {M : Type} (ops : Ops M)

/-- **Congruence, MMD estimators** (Linear, MLP, SparseLinear, SparseMLP, Categorical; both modes; every documented
    kernel name `s`; any parameter dictionary or none; whatever `y` the named estimator receives): the estimator with
    `kernel="precomputed"` that is given the matrix `pairwise_kernels(X, metric=s, **params)` and the estimator with
    `kernel=s, kernel_params=params` resolve to GEMINI objects that agree on everything but `kernel` /
    `kernel_params`, and have the same outcome of `compute_affinity` (matrix, number of warnings). -/
theorem mmd_congruence :
    ∀ e ∈ mmdEstimators, ∀ ovo : Bool, ∀ s ∈ namedKernels, ∀ (p : Option Params) (y : Option M),
      trainingInputs tables ops (est e) (mmdHyper (some ovo) (some (.str "precomputed")) (some .none))
          (some (ops.pairwise "pairwise_kernels" [.X] (.name s) (p.getD [])))
        = trainingInputs tables ops (est e) (mmdHyper (some ovo) (some (.str s)) (some (optAtom p))) y := by
  intro e he ovo s hs p y
  unfold trainingInputs
  rw [C11.mmd_precomputed_eq_named ops e he ovo s hs p y,
    mmd_est_obj ovo .none (Or.inl rfl) e he "precomputed" (List.mem_cons_self ..),
    mmd_est_obj ovo _ (optAtom_cases p) e he s (List.mem_cons_of_mem _ hs)]
  -- `objectiveOf` filters out `kernel` and `kernel_params`, the only attributes in which the two `mmdObj` differ
  rfl

/-- **Congruence, Wasserstein estimators** (Linear, MLP, Categorical): same statement with `pairwise_distances`,
    `metric`, `metric_params`. -/
theorem wasserstein_congruence :
    ∀ e ∈ wassEstimators, ∀ ovo : Bool, ∀ s ∈ namedMetrics, ∀ (p : Option Params) (y : Option M),
      trainingInputs tables ops (est e) (wassHyper (some ovo) (some (.str "precomputed")) (some .none))
          (some (ops.pairwise "pairwise_distances" [.X] (.name s) (p.getD [])))
        = trainingInputs tables ops (est e) (wassHyper (some ovo) (some (.str s)) (some (optAtom p))) y := by
  intro e he ovo s hs p y
  unfold trainingInputs
  rw [C11.wasserstein_precomputed_eq_named ops e he ovo s hs p y,
    wass_est_obj ovo .none (Or.inl rfl) e he "precomputed" (List.mem_cons_self ..),
    wass_est_obj ovo _ (optAtom_cases p) e he s (List.mem_cons_of_mem _ hs)]
  -- `objectiveOf` filters out `metric` and `metric_params`, the only attributes in which the two `wassObj` differ
  rfl

/-- A generic estimator (LinearModel, MLPModel, SparseLinearModel, SparseMLPModel, CategoricalModel, Douglas) given a
    GEMINI instance returns that very instance from `get_gemini()`, whatever the instance. -/
theorem instance_is_itself_any :
    ∀ e ∈ genericEstimators, ∀ g : GeminiObj, resolveGemini tables (est e) [("gemini", .gem g)] = .ok g :=
  fun e he g => generic_est_keeps_instance g e he

/-- The two instance congruences below, for any GEMINI class `cls` whose `compute_affinity` is the tree
    `affTree k kp fn`. -/
theorem instance_congruence (cls k kp fn : String)
    (hc : ∀ (g : GeminiObj) (y : Option M), g.ctor = cls →
      computeAffinity tables ops g y = runAff ops g.attrs y (affTree k kp fn)) :
    ∀ e ∈ genericEstimators, ∀ (gP gN : GeminiObj) (s : String) (pa : Atom) (y : Option M),
      gP.ctor = cls → gN.ctor = cls → objectiveOf gP = objectiveOf gN →
      lookup gP.attrs k = some (.str "precomputed") →
      lookup gN.attrs k = some (.str s) → s ≠ "precomputed" →
      lookup gN.attrs kp = some pa → (pa = .none ∨ ∃ d, pa = .dict d) →
      trainingInputs tables ops (est e) [("gemini", .gem gP)] (some (ops.pairwise fn [.X] (.name s) (paramsOf pa)))
        = trainingInputs tables ops (est e) [("gemini", .gem gN)] y := by
  intro e he gP gN s pa y hcP hcN hobj hkP hkN hs hp hpa
  have hP := instance_is_itself_any e he gP
  have hN := instance_is_itself_any e he gN
  unfold trainingInputs
  rw [estAffinity_eq ops hP, estAffinity_eq ops hN, hP, hN, hc gP _ hcP, hc gN _ hcN,
    affTree_precomputed_eq_named ops gN.attrs gP.attrs s pa y hkN hs hp hpa hkP]
  simp only [Except.map, hobj]

/-- **Congruence, generic estimators with MMD instances.**  For any two `MMDGEMINI` instances that agree on everything
    but the affinity-naming attributes — one with `kernel="precomputed"`, the other with a kernel name `s` and
    parameters `pa` (`None` or a dictionary): the estimator holding the first and given the matrix
    `pairwise_kernels(X, metric=s, **pa)` has the same `trainingInputs` as the estimator holding the second. -/
theorem generic_mmd_instance_congruence :
    ∀ e ∈ genericEstimators, ∀ (gP gN : GeminiObj) (s : String) (pa : Atom) (y : Option M),
      gP.ctor = "MMDGEMINI" → gN.ctor = "MMDGEMINI" → objectiveOf gP = objectiveOf gN →
      lookup gP.attrs "kernel" = some (.str "precomputed") →
      lookup gN.attrs "kernel" = some (.str s) → s ≠ "precomputed" →
      lookup gN.attrs "kernel_params" = some pa → (pa = .none ∨ ∃ d, pa = .dict d) →
      trainingInputs tables ops (est e) [("gemini", .gem gP)]
          (some (ops.pairwise "pairwise_kernels" [.X] (.name s) (paramsOf pa)))
        = trainingInputs tables ops (est e) [("gemini", .gem gN)] y :=
  instance_congruence ops "MMDGEMINI" "kernel" "kernel_params" "pairwise_kernels" fun _ y h =>
    computeAffinity_MMDGEMINI ops h y

/-- **Congruence, generic estimators with Wasserstein instances.** -/
theorem generic_wasserstein_instance_congruence :
    ∀ e ∈ genericEstimators, ∀ (gP gN : GeminiObj) (s : String) (pa : Atom) (y : Option M),
      gP.ctor = "WassersteinGEMINI" → gN.ctor = "WassersteinGEMINI" → objectiveOf gP = objectiveOf gN →
      lookup gP.attrs "metric" = some (.str "precomputed") →
      lookup gN.attrs "metric" = some (.str s) → s ≠ "precomputed" →
      lookup gN.attrs "metric_params" = some pa → (pa = .none ∨ ∃ d, pa = .dict d) →
      trainingInputs tables ops (est e) [("gemini", .gem gP)]
          (some (ops.pairwise "pairwise_distances" [.X] (.name s) (paramsOf pa)))
        = trainingInputs tables ops (est e) [("gemini", .gem gN)] y :=
  instance_congruence ops "WassersteinGEMINI" "metric" "metric_params" "pairwise_distances" fun _ y h =>
    computeAffinity_WassersteinGEMINI ops h y

/-- The hypotheses of `generic_mmd_instance_congruence` are satisfiable: a precomputed and an rbf instance with a
    non-default `epsilon` and one-vs-one mode. -/
example : ∃ (gP gN : GeminiObj) (s : String) (pa : Atom),
    gP.ctor = "MMDGEMINI" ∧ gN.ctor = "MMDGEMINI" ∧ objectiveOf gP = objectiveOf gN ∧
    lookup gP.attrs "kernel" = some (.str "precomputed") ∧ lookup gN.attrs "kernel" = some (.str s) ∧
    s ≠ "precomputed" ∧ lookup gN.attrs "kernel_params" = some pa ∧ (pa = .none ∨ ∃ d, pa = .dict d) :=
  ⟨⟨"MMDGEMINI", "MMDGEMINI", [("epsilon", .tok "1e-09"), ("ovo", .bool true), ("kernel_params", .none),
      ("kernel", .str "precomputed")]⟩,
   ⟨"MMDGEMINI", "MMDGEMINI", [("epsilon", .tok "1e-09"), ("ovo", .bool true), ("kernel_params", .dict [("gamma", "0.3")]),
      ("kernel", .str "rbf")]⟩,
   "rbf", .dict [("gamma", "0.3")], rfl, rfl, rfl, rfl, rfl, by decide, rfl, Or.inr ⟨_, rfl⟩⟩

/-- **Every downstream function.**  Whatever the rest of an MMD estimator computes from its GEMINI (up to the
    affinity-naming attributes) and from the affinity outcome — `F` arbitrary, any result type — it computes the same
    with `kernel="precomputed"` + the matrix of the named kernel as with the name.  (Instantiate with the other
    congruence theorems for the Wasserstein and the generic estimators.) -/
theorem downstream_congruence {β : Type}
    (F : Except String (String × String × List (String × Atom)) × Out M → β) :
    ∀ e ∈ mmdEstimators, ∀ ovo : Bool, ∀ s ∈ namedKernels, ∀ (p : Option Params) (y : Option M),
      F (trainingInputs tables ops (est e) (mmdHyper (some ovo) (some (.str "precomputed")) (some .none))
          (some (ops.pairwise "pairwise_kernels" [.X] (.name s) (p.getD []))))
        = F (trainingInputs tables ops (est e) (mmdHyper (some ovo) (some (.str s)) (some (optAtom p))) y) := by
  intro e he ovo s hs p y
  rw [mmd_congruence ops e he ovo s hs p y]

/-- `Kauri` has no GEMINI object: all it derives from `kernel` is the outcome of `_compute_kernel`.  Whatever the rest
    of `Kauri.fit` / `score` computes from that outcome (`F` arbitrary), `Kauri(kernel="precomputed")` given
    `pairwise_kernels(X, metric=s)` computes the same as `Kauri(kernel=s)`, for any string `s` other than
    "precomputed". -/
theorem kauri_downstream_congruence {β : Type} (F : Out M → β) (s : String) (hs : s ≠ "precomputed") (y : Option M) :
    F (estOwnKernel ops (est "Kauri") [("kernel", .atom (.str "precomputed"))]
        (some (ops.pairwise "pairwise_kernels" [.X] (.name s) [])))
      = F (estOwnKernel ops (est "Kauri") [("kernel", .atom (.str s))] y) := by
  rw [C11.kauri_precomputed_eq_named ops s hs y]

end generic

end GemVerif.Props.C11Cong
