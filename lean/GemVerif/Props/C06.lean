/-
  C06 — unselected features are inert; selection reads exact zeros; groups stay whole.
  Model: `Model/Sparse.lean` (+ `Model/Prox.lean`, `Model/Nets.lean`).

  All theorems are over ℝ.  Float caveat (outside every theorem, see C17): a non-zero row whose squared entries
  underflow has a computed norm of `0.0` and is reported unselected; `x * 0` is `nan` for a non-finite `x`.

  The optimiser is an arbitrary function `opt` on the weights throughout: nothing is assumed about gradients,
  momenta or learning-rate schedules.  What an arbitrary optimiser can break is said explicitly:
  `groups_all_or_nothing_*` need the rows of a group to be non-zero after the optimiser step (true of every real
  optimiser step from generic data, but not a theorem), because the group operator multiplies all rows of a group by one
  common factor and a row that is already zero stays zero while the others survive.
-/
import GemVerif.Lemmas.Sparse

namespace GemVerif.Props.C06
open GemVerif Model.Prox Model.Nets Model.Sparse Spec.Prox

variable {d h K n : ℕ}

/-- **`get_selection` = the rows that are not exactly zero.**  `np.nonzero(np.linalg.norm(W, axis=1))` over ℝ:
    the norm of a row is `0` iff the row is `0`. -/
theorem selection_reads_exact_zeros (W : Fin d → Fin h → ℝ) (i : Fin d) :
    (i ∈ getSelection W ↔ W i ≠ 0) ∧ (i ∈ getSelection W ↔ ∃ k, W i k ≠ 0) := by
  refine ⟨mem_getSelection_iff W i, (mem_getSelection_iff W i).trans ?_⟩
  rw [Ne, funext_iff, not_forall]
  rfl

/-- the indices come in increasing order, each once (as `np.nonzero` returns them) -/
theorem selection_sorted (W : Fin d → Fin h → ℝ) : (getSelection W).Pairwise (· < ·) := by
  unfold getSelection
  exact (List.pairwise_lt_finRange d).filter _

/-- `_n_selected_features()` is the length of `get_selection()` -/
theorem n_selected_eq_length (W : Fin d → Fin h → ℝ) : nSelected W = (getSelection W).length :=
  sum_indicator_eq_length_filter _ _

/-- `_group_lasso_penalty()` is the sum of the 2-norms of the rows -/
theorem penalty_eq_sum_norms (W : Fin d → Fin h → ℝ) : groupLassoPenalty W = ∑ i, rowNorm (W i) := by
  unfold groupLassoPenalty
  rw [sumL_eq, ← List.sum_ofFn]
  congr 1
  rw [List.ofFn_eq_map]
  refine List.map_congr_left fun i _ => ?_
  rw [norm2_eq_sqrt]; rfl

/-- **Sparse linear model**: `predict_proba` depends only on the selected columns of `X` — two inputs that agree on
    every selected feature get the same probabilities (so changing an unselected feature changes nothing). -/
theorem unselected_inert_linear (w : LinW ℝ d K) (X X' : Fin n → Fin d → ℝ)
    (hX : ∀ r j, j ∈ w.selection → X r j = X' r j) : w.predictProba X = w.predictProba X' :=
  w.predictProba_congr X X' fun r j hj => hX r j ((mem_getSelection_iff w.W j).mpr hj)

/-- **Sparse MLP**: if every zero skip row has a zero first-layer row (`HierInv`, which holds in every reachable
    state: `reachable_hier`), `predict_proba` depends only on the selected columns of `X`. -/
theorem unselected_inert_mlp (w : MlpW ℝ d h K) (hw : HierInv w) (X X' : Fin n → Fin d → ℝ)
    (hX : ∀ r j, j ∈ w.selection → X r j = X' r j) : w.predictProba X = w.predictProba X' := by
  have hsel : ∀ r j, w.Ws j ≠ 0 → X r j = X' r j := fun r j hj => hX r j ((mem_getSelection_iff w.Ws j).mpr hj)
  exact w.predictProba_congr X X' (fun r j hj => hsel r j fun h0 => hj (hw j h0)) hsel

/-- one column at a time, as the property words it: changing the value of one unselected feature `i₀` never changes
    `predict_proba` (its skip row and its first-layer row are zero) -/
theorem unselected_column_inert_mlp (w : MlpW ℝ d h K) (i₀ : Fin d) (hs : w.Ws i₀ = 0) (h1 : w.W1 i₀ = 0)
    (X X' : Fin n → Fin d → ℝ) (hX : ∀ r j, j ≠ i₀ → X r j = X' r j) : w.predictProba X = w.predictProba X' :=
  w.predictProba_congr X X' (fun r j hj => hX r j fun e => hj (e ▸ h1)) (fun r j hj => hX r j fun e => hj (e ▸ hs))

/-- **Threshold identity**: `self.alpha * self.optimiser_.learning_rate`. -/
theorem threshold_is_alpha_times_lr (alpha lr : ℝ) : threshold alpha lr = alpha * lr := rfl

/-- `_update_weights` of the sparse linear model is `prox ∘ opt`: the C05 group-lasso operator `linear_prox_grad`
    applied to the weights the optimiser produced, with threshold `alpha · lr`; the bias is the optimiser's -/
theorem update_linear_is_prox_after_opt (opt : LinW ℝ d K → LinW ℝ d K) (alpha lr : ℝ) (w : LinW ℝ d K) :
    updateLinear none opt alpha lr w = some { W := linearProx (opt w).W (alpha * lr), b := (opt w).b } := rfl

/-- `_update_weights` of the sparse MLP is `prox ∘ opt`: HIER-PROX `mlp_prox_grad` on `(W_skip, W1)` with threshold
    `alpha · lr` and hierarchy coefficient `M`; the other weights are the optimiser's -/
theorem update_mlp_is_prox_after_opt (M : ℝ) (opt : MlpW ℝ d h K → MlpW ℝ d h K) (alpha lr : ℝ) (w : MlpW ℝ d h K) :
    updateMlp none M opt alpha lr w = some
      { W1 := (mlpProx (opt w).Ws (opt w).W1 (alpha * lr) M).2, W2 := (opt w).W2,
        Ws := (mlpProx (opt w).Ws (opt w).W1 (alpha * lr) M).1, b1 := (opt w).b1, b2 := (opt w).b2 } := rfl

/-- with groups: row `g[q]` of the new weights is the `q`-th slice of the C05 row operator applied to the flattened
    group, threshold `alpha · lr` (groups = a partition, as `check_groups` produces) -/
theorem update_linear_group_rows {gs : List (List (Fin d))} (hp : IsPartition gs) (opt : LinW ℝ d K → LinW ℝ d K)
    (alpha lr : ℝ) (w w' : LinW ℝ d K) (hu : updateLinear (some gs) opt alpha lr w = some w')
    {g : List (Fin d)} (hg : g ∈ gs) (q : Fin g.length) (j : Fin K) :
    w'.W (g.get q) j = linearProxRow (flatGroup (opt w).W g) (alpha * lr) (flatIdx q j) := by
  have h1 := ((proxLinear_group_rows hu).1 (g.get q)).symm.trans (scatter_partition hp _ hg q)
  exact congrFun (Option.some.inj h1) j

set_option linter.unusedVariables false in
/-- **After any update** (any previous weights, any optimiser step, any `alpha`, any learning rate, `M ≥ 0`), every
    zero skip row has a zero first-layer row — `θ*` is `u` clipped at `w* = M‖β*‖` (C05), which is `0` when `β* = 0`.
    (`hM` is not used: `hierProxRow_snd_of_fst_zero` holds for every `M`.) -/
theorem update_establishes_hier {M : ℝ} (hM : 0 ≤ M) (opt : MlpW ℝ d h K → MlpW ℝ d h K) (alpha lr : ℝ)
    (w w' : MlpW ℝ d h K) (hu : updateMlp none M opt alpha lr w = some w') : HierInv w' := by
  obtain rfl := Option.some.inj ((update_mlp_is_prox_after_opt M opt alpha lr w).symm.trans hu)
  exact fun i hi => hierProxRow_snd_of_fst_zero _ _ _ M hi

/-- what a group update returns on a group `g` of the partition: the flattened new skip / first-layer rows of `g` are
    the two components of the C05 row operator on the flattened group -/
theorem update_mlp_group_flat {gs : List (List (Fin d))} (hp : IsPartition gs) {M : ℝ}
    (opt : MlpW ℝ d h K → MlpW ℝ d h K) (alpha lr : ℝ) (w w' : MlpW ℝ d h K)
    (hu : updateMlp (some gs) M opt alpha lr w = some w') {g : List (Fin d)} (hg : g ∈ gs) :
    flatGroup w'.Ws g = (hierProxRow (flatGroup (opt w).Ws g) (flatGroup (opt w).W1 g) (alpha * lr) M).1 ∧
    flatGroup w'.W1 g = (hierProxRow (flatGroup (opt w).Ws g) (flatGroup (opt w).W1 g) (alpha * lr) M).2 := by
  obtain ⟨h1, h2, -⟩ := proxMlp_group_rows hu
  exact ⟨flatGroup_scatter hp _ w'.Ws h1 hg, flatGroup_scatter hp _ w'.W1 h2 hg⟩

set_option linter.unusedVariables false in
/-- **After any group update**: a group all of whose skip rows are zero has all its first-layer rows zero.  (`hM` is
    not used, as above.) -/
theorem update_establishes_group_hier {gs : List (List (Fin d))} (hp : IsPartition gs) {M : ℝ} (hM : 0 ≤ M)
    (opt : MlpW ℝ d h K → MlpW ℝ d h K) (alpha lr : ℝ) (w w' : MlpW ℝ d h K)
    (hu : updateMlp (some gs) M opt alpha lr w = some w') : GroupHierInv gs w' := by
  intro g hg hz
  obtain ⟨hs, h1⟩ := update_mlp_group_flat hp opt alpha lr w w' hu hg
  rw [← flatGroup_eq_zero_iff] at hz ⊢
  rw [h1]
  exact hierProxRow_snd_of_fst_zero _ _ _ M (hs ▸ hz)

/-- **Invariant over histories.**  Take any history of a sparse MLP without groups: fits (each starting from arbitrary
    fresh weights and made of updates), path steps (updates with changing `alpha`), snapshots of the current weights and
    restorations of the snapshot — with arbitrary optimiser steps and learning rates.  In the state it reaches, the
    estimator's weights and the snapshot both satisfy: zero skip row ⇒ zero first-layer row.  (Every prefix of a history
    is a history, so this is every reachable state.) -/
theorem reachable_hier {M : ℝ} (hM : 0 ≤ M) (evs : List (Ev (MlpW ℝ d h K) ℝ)) (s : HState (MlpW ℝ d h K))
    (hrun : runEvs (proxMlp none M) {} evs = some s) :
    (∀ w, s.cur = some w → HierInv w) ∧ (∀ w, s.snap = some w → HierInv w) := by
  refine runEvs_inv (proxMlp none M) HierInv ?_ evs {} s (by intro w hw; cases hw) (by intro w hw; cases hw) hrun
  intro a lr w w' hp
  exact update_establishes_hier hM id a lr w w' hp

/-- … at every intermediate point of the history as well -/
theorem reachable_hier_every_prefix {M : ℝ} (hM : 0 ≤ M) (evs₁ evs₂ : List (Ev (MlpW ℝ d h K) ℝ))
    (s : HState (MlpW ℝ d h K)) (hrun : runEvs (proxMlp none M) {} (evs₁ ++ evs₂) = some s) :
    ∃ s₁, runEvs (proxMlp none M) {} evs₁ = some s₁ ∧ (∀ w, s₁.cur = some w → HierInv w) ∧
      (∀ w, s₁.snap = some w → HierInv w) := by
  obtain ⟨s₁, h1, -⟩ := runEvs_append _ evs₁ evs₂ {} s hrun
  exact ⟨s₁, h1, reachable_hier hM evs₁ s₁ h1⟩

/-- the same with groups (a partition): in every reachable state a group with zero skip rows has zero first-layer rows -/
theorem reachable_group_hier {gs : List (List (Fin d))} (hp : IsPartition gs) {M : ℝ} (hM : 0 ≤ M)
    (evs : List (Ev (MlpW ℝ d h K) ℝ)) (s : HState (MlpW ℝ d h K))
    (hrun : runEvs (proxMlp (some gs) M) {} evs = some s) :
    (∀ w, s.cur = some w → GroupHierInv gs w) ∧ (∀ w, s.snap = some w → GroupHierInv gs w) := by
  refine runEvs_inv (proxMlp (some gs) M) (GroupHierInv gs) ?_ evs {} s (by intro w hw; cases hw)
    (by intro w hw; cases hw) hrun
  intro a lr w w' hp'
  exact update_establishes_group_hier hp hM id a lr w w' hp'

/-- **Hence: in every reachable state of a sparse MLP (no groups) the unselected features are inert.** -/
theorem reachable_inert {M : ℝ} (hM : 0 ≤ M) (evs : List (Ev (MlpW ℝ d h K) ℝ)) (s : HState (MlpW ℝ d h K))
    (hrun : runEvs (proxMlp none M) {} evs = some s) (w : MlpW ℝ d h K) (hw : s.cur = some w)
    (X X' : Fin n → Fin d → ℝ) (hX : ∀ r j, j ∈ w.selection → X r j = X' r j) :
    w.predictProba X = w.predictProba X' :=
  unselected_inert_mlp w ((reachable_hier hM evs s hrun).1 w hw) X X' hX

/-- the hypotheses are satisfiable: a fit of two updates, a snapshot, one more update, a restoration -/
example : ∃ s, runEvs (proxMlp (d := 2) (h := 1) (K := 1) none (1 : ℝ)) {}
    [.update (some ⟨fun _ _ => 1, fun _ _ => 1, fun _ _ => 1, fun _ => 0, fun _ => 0⟩) id 1 1,
     .update none id 1 1, .snapshot, .update none id 2 1, .restore] = some s :=
  ⟨_, rfl⟩

/-- **The group operator scales all skip rows of a group by one common factor `x ≥ 0`**, and if that factor is `0` the
    first-layer rows of the whole group are zero as well. -/
theorem group_common_factor_mlp {gs : List (List (Fin d))} (hp : IsPartition gs) {M : ℝ} (hM : 0 ≤ M)
    (opt : MlpW ℝ d h K → MlpW ℝ d h K) (alpha lr : ℝ) (w w' : MlpW ℝ d h K)
    (hu : updateMlp (some gs) M opt alpha lr w = some w') {g : List (Fin d)} (hg : g ∈ gs) :
    ∃ x : ℝ, 0 ≤ x ∧ (∀ i ∈ g, ∀ c, w'.Ws i c = x * (opt w).Ws i c) ∧ (x = 0 → ∀ i ∈ g, w'.W1 i = 0) := by
  obtain ⟨hs, -⟩ := update_mlp_group_flat hp opt alpha lr w w' hu hg
  have hrow : ∀ i ∈ g, ∀ c, w'.Ws i c
      = xStar (flatGroup (opt w).Ws g) (flatGroup (opt w).W1 g) (alpha * lr) M * (opt w).Ws i c := by
    intro i hi c
    obtain ⟨q, rfl⟩ := List.mem_iff_get.mp hi
    rw [← flatGroup_flatIdx w'.Ws g q c, hs, ← flatGroup_flatIdx (opt w).Ws g q c]
    rfl
  refine ⟨_, xStar_nonneg _ _ _ _, hrow, fun hx i hi => ?_⟩
  refine update_establishes_group_hier hp hM opt alpha lr w w' hu g hg (fun i' hi' => ?_) i hi
  funext c
  rw [hrow i' hi' c, hx, zero_mul]; rfl

/-- **All-or-nothing for the sparse MLP with groups**: if no skip row of the group is exactly zero after the optimiser
    step, then after the proximal step either every feature of the group is discarded (zero skip row and zero
    first-layer row: inert) or every feature of the group is selected. -/
theorem groups_all_or_nothing_mlp {gs : List (List (Fin d))} (hp : IsPartition gs) {M : ℝ} (hM : 0 ≤ M)
    (opt : MlpW ℝ d h K → MlpW ℝ d h K) (alpha lr : ℝ) (w w' : MlpW ℝ d h K)
    (hu : updateMlp (some gs) M opt alpha lr w = some w') {g : List (Fin d)} (hg : g ∈ gs)
    (hnz : ∀ i ∈ g, (opt w).Ws i ≠ 0) :
    (∀ i ∈ g, i ∉ w'.selection ∧ w'.Ws i = 0 ∧ w'.W1 i = 0) ∨ (∀ i ∈ g, i ∈ w'.selection) := by
  obtain ⟨x, -, hrow, -⟩ := group_common_factor_mlp hp hM opt alpha lr w w' hu hg
  rcases rows_smul_all_or_nothing hrow hnz with h0 | h0
  · refine Or.inl fun i hi => ⟨fun hsel => (mem_getSelection_iff w'.Ws i).mp hsel (h0 i hi), h0 i hi, ?_⟩
    exact update_establishes_group_hier hp hM opt alpha lr w w' hu g hg h0 i hi
  · exact Or.inr fun i hi => (mem_getSelection_iff w'.Ws i).mpr (h0 i hi)

/-- **Group lasso, linear model: one common factor per group.** -/
theorem group_common_factor_linear {gs : List (List (Fin d))} (hp : IsPartition gs) (opt : LinW ℝ d K → LinW ℝ d K)
    (alpha lr : ℝ) (w w' : LinW ℝ d K) (hu : updateLinear (some gs) opt alpha lr w = some w')
    {g : List (Fin d)} (hg : g ∈ gs) : ∃ x : ℝ, ∀ i ∈ g, ∀ c, w'.W i c = x * (opt w).W i c := by
  refine ⟨max (norm2 (flatGroup (opt w).W g) - alpha * lr) 0 /
      (if norm2 (flatGroup (opt w).W g) = 0 then 1 else norm2 (flatGroup (opt w).W g)), fun i hi c => ?_⟩
  obtain ⟨q, rfl⟩ := List.mem_iff_get.mp hi
  rw [update_linear_group_rows hp opt alpha lr w w' hu hg q c, linearProxRow_apply, flatGroup_flatIdx]

/-- **All-or-nothing for the sparse linear model with groups** (same proviso on exact zeros after the optimiser step). -/
theorem groups_all_or_nothing_linear {gs : List (List (Fin d))} (hp : IsPartition gs) (opt : LinW ℝ d K → LinW ℝ d K)
    (alpha lr : ℝ) (w w' : LinW ℝ d K) (hu : updateLinear (some gs) opt alpha lr w = some w')
    {g : List (Fin d)} (hg : g ∈ gs) (hnz : ∀ i ∈ g, (opt w).W i ≠ 0) :
    (∀ i ∈ g, i ∉ w'.selection) ∨ (∀ i ∈ g, i ∈ w'.selection) := by
  obtain ⟨x, hrow⟩ := group_common_factor_linear hp opt alpha lr w w' hu hg
  rcases rows_smul_all_or_nothing hrow hnz with h0 | h0
  · exact Or.inl fun i hi hsel => (mem_getSelection_iff w'.W i).mp hsel (h0 i hi)
  · exact Or.inr fun i hi => (mem_getSelection_iff w'.W i).mpr (h0 i hi)

/-- the hypotheses on groups are satisfiable for every `d` (singletons) -/
example : IsPartition ((List.finRange d).map fun i => [i]) := isPartition_singletons d

/-- **`check_groups` accepts a list exactly when its indices are in range and pairwise distinct.**  Only acceptance
    is stated here; what is returned then is `check_groups_returns_completion` (the value) and
    `completion_is_partition` (its shape).  (`groups=None ↦ None`; the empty list is a legal partial list.) -/
theorem check_groups_accepts_iff (gs : List (List Int)) (n : ℕ) :
    (∃ res, checkGroups (some gs) n = .ok res) ↔ ((∀ i ∈ gs.flatten, 0 ≤ i ∧ i < n) ∧ gs.flatten.Nodup) :=
  ⟨fun ⟨res, h⟩ => ((checkGroups_ok_iff gs n res).mp h).1, fun h => ⟨_, (checkGroups_ok_iff gs n _).mpr ⟨h, rfl⟩⟩⟩

/-- When `check_groups` accepts a list of groups, what it returns is that list completed by singletons
    (`completeGroups`). -/
theorem check_groups_returns_completion (gs : List (List Int)) (n : ℕ) (res : Option (List (List Int)))
    (hok : checkGroups (some gs) n = .ok res) : res = some (completeGroups gs n) :=
  ((checkGroups_ok_iff gs n res).mp hok).2

/-- **The completion is a partition of `range n` extending the user's groups by singletons**: the user's groups come
    first, unchanged; every added group is a singleton; every feature `0 … n-1` occurs exactly once overall. -/
theorem completion_is_partition (gs : List (List Int)) (n : ℕ) (hr : ∀ i ∈ gs.flatten, 0 ≤ i ∧ i < n)
    (hnd : gs.flatten.Nodup) :
    gs <+: completeGroups gs n ∧
    (∀ g ∈ (completeGroups gs n).drop gs.length, ∃ i : ℕ, i < n ∧ g = [(i : Int)] ∧ (i : Int) ∉ gs.flatten) ∧
    (completeGroups gs n).flatten.Perm ((List.range n).map Int.ofNat) := by
  refine ⟨prefix_completeGroups gs n, fun g hg => ?_, completeGroups_perm gs n hr hnd⟩
  rw [completeGroups_drop] at hg
  obtain ⟨i, hi, hni, rfl⟩ := mem_singletons.1 hg
  exact ⟨i, hi, rfl, hni⟩

/-- conversely, a list with an index out of range or a repeated index has no completion into a partition of `range n` -/
theorem no_partition_otherwise (gs rest : List (List Int)) (n : ℕ)
    (hperm : (gs ++ rest).flatten.Perm ((List.range n).map Int.ofNat)) :
    (∀ i ∈ gs.flatten, 0 ≤ i ∧ i < n) ∧ gs.flatten.Nodup := by
  have hinj : Function.Injective Int.ofNat := fun a b hab => Int.ofNat.inj hab
  have hnd : (gs ++ rest).flatten.Nodup := hperm.nodup_iff.mpr (List.nodup_range.map hinj)
  rw [List.flatten_append] at hnd hperm
  refine ⟨fun i hi => ?_, (List.nodup_append.mp hnd).1⟩
  have := hperm.subset (List.mem_append_left _ hi)
  obtain ⟨k, hk, rfl⟩ := List.mem_map.mp this
  have := List.mem_range.mp hk
  exact ⟨Int.natCast_nonneg k, by show (k : Int) < n; exact_mod_cast this⟩

/-- the emptiest partial lists: `[]` is completed to all singletons, and empty groups are carried along -/
example : checkGroups (some []) 3 = .ok (some [[0], [1], [2]]) ∧
    checkGroups (some [[]]) 2 = .ok (some [[], [0], [1]]) := by decide

/-- `groups=None` stays `None` -/
theorem check_groups_none (n : ℕ) : checkGroups none n = .ok none := rfl

/-- an accepted example and its completion: 5 features, user groups `[[3,1]]` ↦ `[[3,1],[0],[2],[4]]` -/
example : checkGroups (some [[3, 1]]) 5 = .ok (some [[3, 1], [0], [2], [4]]) := by decide

end GemVerif.Props.C06
