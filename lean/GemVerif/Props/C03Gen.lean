/-
  C03 (companion) — the hand models of Model/Nets.lean are what the Python source says.

  `Gen/Nets.lean` is regenerated on every run by translator/nets.py from the bodies of `_infer` / `_compute_grads`
  (LinearModel, MLPModel, CategoricalModel, SparseMLPModel), `RIM._update_weights` and `KernelRIM._compute_grads`
  in /repo: one definition per method, a literal transcription of the NumPy expressions into the untyped array
  language of GemVerif/Np.lean (shapes are data; `@`, `.T`, broadcasting `+ - *`, `.sum(axis, keepdims=True)`,
  `> 0`, `np.maximum(·, 0)`, `softmax`, scalar factors follow NumPy's rules; a shape NumPy would reject sets
  `ok := false`).

  Every theorem below says: the generated definition, applied to inputs of the shapes the estimator uses
  (`Arr.ofFn` = an `n × k` array, `Arr.ofRow` = a `(1, k)` bias), raises no shape error, has the shape of the hand
  model and has, entry for entry, the hand model's value (`Arr.Eqv`; `Arr.ListEqv` for the returned lists) —
  for all sizes (0 and 1 included, where broadcasting could bite) and for every `[RealLike α]`: the equalities
  hold by unfolding (both sides sum with `sumFin`, in index order), so they hold for `Float` as well as for `ℝ`.
  The gradient theorems of Props/C03.lean, stated about Model/Nets.lean, therefore speak about the source.
  Only Mathlib-free imports.
-/
import GemVerif.Lemmas.Np
import GemVerif.Gen.Nets

namespace GemVerif.Props.C03Gen
open GemVerif.Np GemVerif.Np.Arr GemVerif.Model.Nets

variable {α : Type} [RealLike α] {n m d h K : Nat}

/-- Meaning of the relation used below: `A` is `Eqv` to the `n × k` matrix `f` exactly when no NumPy shape error
    occurred while computing `A`, `A` has shape `(n, k)` and `A[i, j] = f i j` for every index inside the shape. -/
theorem eqv_ofFn_spelled_out {k : Nat} (A : Arr α) (f : Fin n → Fin k → α) :
    Eqv A (ofFn f) ↔ A.ok = true ∧ A.r = n ∧ A.c = k ∧ ∀ (i : Fin n) (j : Fin k), A.get i.val j.val = f i j :=
  eqv_ofFn_iff

/-- A product `A @ B` whose inner sizes differ (NumPy raises) is `Eqv` to nothing: a mutation of the source that
    breaks the shapes cannot satisfy any theorem of this file. -/
theorem matmul_shape_error_not_eqv (A B C : Arr α) (hne : A.c ≠ B.r) : ¬ Eqv (matmul A B) C := by
  rintro ⟨hok, -⟩
  simp [hne] at hok

/-! LinearModel, RIM, KernelRIM (gemclus/linear/_linear_geminis.py) -/

/-- `LinearModel._infer` as written in the source (`softmax(X @ self.W_ + self.b_)`) computes, for an `n × d`
    input, `d × K` weights and a `(1, K)` bias, exactly the model's `linearInfer`: shape `(n, K)`, same entries. -/
theorem linear_infer_eq (X : Fin n → Fin d → α) (W : Fin d → Fin K → α) (b : Fin K → α) :
    Eqv (Gen.Nets.linear_infer (ofFn W) (ofRow b) (ofFn X)) (ofFn (linearInfer X W b)) := by
  rw [eqv_ofFn_iff]
  simp only [np, Gen.Nets.linear_infer, linearInfer, affine_row]

/-- `LinearModel._compute_grads` as written in the source returns the two-element list
    `[linearGradW, linearGradB]` of the model (the already negated `d × K` weight direction and `(1, K)` bias
    direction). -/
theorem linear_compute_grads_eq (X : Fin n → Fin d → α) (y g : Fin n → Fin K → α) :
    ListEqv (Gen.Nets.linear_compute_grads (ofFn X) (ofFn y) (ofFn g))
      [ofFn (linearGradW X y g), ofRow (linearGradB y g)] := by
  simp only [Gen.Nets.linear_compute_grads, listEqv_cons, listEqv_nil, and_true]
  refine ⟨?_, ?_⟩
  · rw [eqv_ofFn_iff]
    simp only [np, linearGradW, tauHat]
  · apply eqv_ofRow <;> simp only [np, linearGradB, tauHat]

/-- `RIM._update_weights` as written in the source, applied to what `_compute_grads` returned, hands the optimiser
    `[rimGradW, linearGradB]`: the penalty line `gradients[0] += self.reg * 2 * self.W_` is the model's. -/
theorem rim_update_weights_eq (reg : α) (X : Fin n → Fin d → α) (W : Fin d → Fin K → α) (y g : Fin n → Fin K → α) :
    ListEqv (Gen.Nets.rim_update_weights (ofFn W) reg (Gen.Nets.linear_compute_grads (ofFn X) (ofFn y) (ofFn g)))
      [ofFn (rimGradW reg X W y g), ofRow (linearGradB y g)] := by
  have hl := linear_compute_grads_eq X y g
  simp only [Gen.Nets.rim_update_weights, Gen.Nets.linear_compute_grads, setNth_cons_zero, nth_cons_zero,
    listEqv_cons, listEqv_nil, and_true] at hl ⊢
  refine ⟨?_, hl.2⟩
  rw [eqv_ofFn_iff]
  simp only [np, rimGradW, linearGradW, tauHat]

/-- `KernelRIM._compute_grads` as written in the source (the parent's gradients, then
    `base_grads[0] += 2 * self.reg * np.dot(self._training_kernel, self.W_)`) returns `[kernelRimGradW, linearGradB]`
    for a batch of `m` kernel rows, the complete `n × n` training kernel and `n × K` weights. -/
theorem kernel_rim_compute_grads_eq (reg : α) (κ : Fin n → Fin n → α) (Xb : Fin m → Fin n → α) (W : Fin n → Fin K → α)
    (y g : Fin m → Fin K → α) :
    ListEqv (Gen.Nets.kernel_rim_compute_grads (ofFn W) (ofFn κ) reg (ofFn Xb) (ofFn y) (ofFn g))
      [ofFn (kernelRimGradW reg κ Xb W y g), ofRow (linearGradB y g)] := by
  have hl := linear_compute_grads_eq Xb y g
  simp only [Gen.Nets.kernel_rim_compute_grads, Gen.Nets.linear_compute_grads, setNth_cons_zero, nth_cons_zero,
    listEqv_cons, listEqv_nil, and_true] at hl ⊢
  refine ⟨?_, hl.2⟩
  rw [eqv_ofFn_iff]
  simp only [np, kernelRimGradW, linearGradW, tauHat]

/-! MLPModel (gemclus/mlp/_mlp_geminis.py) -/

/-- `MLPModel._infer` as written in the source computes the model's `mlpInfer` (`n × d` input, `d × h` and `h × K`
    weights, `(1, h)` and `(1, K)` biases). -/
theorem mlp_infer_eq (X : Fin n → Fin d → α) (W1 : Fin d → Fin h → α) (b1 : Fin h → α) (W2 : Fin h → Fin K → α)
    (b2 : Fin K → α) :
    Eqv (Gen.Nets.mlp_infer (ofFn W1) (ofFn W2) (ofRow b1) (ofRow b2) (ofFn X)) (ofFn (mlpInfer X W1 b1 W2 b2)) := by
  rw [eqv_ofFn_iff]
  simp only [np, Gen.Nets.mlp_infer, mlpInfer, hidden, affine, affine_row]

/-- What `MLPModel._infer` retains in `self.H_` (read back by `_compute_grads`) is the model's hidden activation
    `hidden X W1 b1 = max(X @ W1 + b1, 0)`, the `H` the C03 theorems instantiate `mlpGrads` with. -/
theorem mlp_infer_retained_eq (X : Fin n → Fin d → α) (W1 : Fin d → Fin h → α) (b1 : Fin h → α)
    (W2 : Fin h → Fin K → α) (b2 : Fin K → α) :
    Eqv (Gen.Nets.mlp_infer_retained_H_ (ofFn W1) (ofFn W2) (ofRow b1) (ofRow b2) (ofFn X)) (ofFn (hidden X W1 b1)) := by
  rw [eqv_ofFn_iff]
  simp only [np, Gen.Nets.mlp_infer_retained_H_, hidden, affine]

/-- `MLPModel._compute_grads` as written in the source returns `[W1, W2, b1, b2]` of the model's `mlpGrads`
    (same order as `_get_weights`), for any retained activation `H`. -/
theorem mlp_compute_grads_eq (X : Fin n → Fin d → α) (H : Fin n → Fin h → α) (W2 : Fin h → Fin K → α)
    (y g : Fin n → Fin K → α) :
    ListEqv (Gen.Nets.mlp_compute_grads (ofFn H) (ofFn W2) (ofFn X) (ofFn y) (ofFn g))
      [ofFn (mlpGrads X H W2 y g).W1, ofFn (mlpGrads X H W2 y g).W2, ofRow (mlpGrads X H W2 y g).b1,
       ofRow (mlpGrads X H W2 y g).b2] := by
  -- the output layer is a linear model on `H`: its two arrays are those of `LinearModel._compute_grads` at `X := H`
  have hl := linear_compute_grads_eq H y g
  simp only [Gen.Nets.mlp_compute_grads, Gen.Nets.linear_compute_grads, listEqv_cons, listEqv_nil, and_true] at hl ⊢
  refine ⟨?_, hl.1, ?_, hl.2⟩
  · rw [eqv_ofFn_iff]
    simp only [np, mlpGrads, tauHat]
  · apply eqv_ofRow <;> simp only [np, mlpGrads, tauHat]

/-! CategoricalModel (gemclus/nonparametric/_categorical_models.py) -/

/-- `CategoricalModel._infer` as written in the source is `softmax(self.logits_)` = the model's `categoricalInfer`,
    whatever `X` is passed. -/
theorem categorical_infer_eq (logits : Fin n → Fin K → α) (X : Arr α) :
    Eqv (Gen.Nets.categorical_infer (ofFn logits) X) (ofFn (categoricalInfer logits)) := by
  rw [eqv_ofFn_iff]
  simp only [np, Gen.Nets.categorical_infer, categoricalInfer]

/-- `CategoricalModel._compute_grads` as written in the source returns the one-element list `[categoricalGrad]`,
    whatever `X` is passed. -/
theorem categorical_compute_grads_eq (y g : Fin n → Fin K → α) (X : Arr α) :
    ListEqv (Gen.Nets.categorical_compute_grads X (ofFn y) (ofFn g)) [ofFn (categoricalGrad y g)] := by
  simp only [Gen.Nets.categorical_compute_grads, listEqv_cons, listEqv_nil, and_true]
  rw [eqv_ofFn_iff]
  simp only [np, categoricalGrad, tauHat]

/-! SparseMLPModel (gemclus/sparse/_mlp_sparse.py) -/

/-- `SparseMLPModel._infer` as written in the source computes the model's `sparseMlpInfer` (MLP logits plus the
    skip connection `X @ W_skip`). -/
theorem sparse_mlp_infer_eq (X : Fin n → Fin d → α) (W1 : Fin d → Fin h → α) (b1 : Fin h → α)
    (W2 : Fin h → Fin K → α) (b2 : Fin K → α) (Ws : Fin d → Fin K → α) :
    Eqv (Gen.Nets.sparse_mlp_infer (ofFn W1) (ofFn W2) (ofFn Ws) (ofRow b1) (ofRow b2) (ofFn X))
      (ofFn (sparseMlpInfer X W1 b1 W2 b2 Ws)) := by
  rw [eqv_ofFn_iff]
  simp only [np, Gen.Nets.sparse_mlp_infer, sparseMlpInfer, hidden, affine]

/-- What `SparseMLPModel._infer` retains in `self.H_` is the model's hidden activation `hidden X W1 b1`. -/
theorem sparse_mlp_infer_retained_eq (X : Fin n → Fin d → α) (W1 : Fin d → Fin h → α) (b1 : Fin h → α)
    (W2 : Fin h → Fin K → α) (b2 : Fin K → α) (Ws : Fin d → Fin K → α) :
    Eqv (Gen.Nets.sparse_mlp_infer_retained_H_ (ofFn W1) (ofFn W2) (ofFn Ws) (ofRow b1) (ofRow b2) (ofFn X))
      (ofFn (hidden X W1 b1)) :=
  -- the two generated units differ only in `let`s bound after `H` and not returned: equal by unfolding
  mlp_infer_retained_eq X W1 b1 W2 b2

/-- `SparseMLPModel._compute_grads` as written in the source returns `[W1, W2, Ws, b1, b2]` of the model's
    `mlpGrads` (same order as `_get_weights`: the skip-connection direction comes third). -/
theorem sparse_mlp_compute_grads_eq (X : Fin n → Fin d → α) (H : Fin n → Fin h → α) (W2 : Fin h → Fin K → α)
    (y g : Fin n → Fin K → α) :
    ListEqv (Gen.Nets.sparse_mlp_compute_grads (ofFn H) (ofFn W2) (ofFn X) (ofFn y) (ofFn g))
      [ofFn (mlpGrads X H W2 y g).W1, ofFn (mlpGrads X H W2 y g).W2, ofFn (mlpGrads X H W2 y g).Ws,
       ofRow (mlpGrads X H W2 y g).b1, ofRow (mlpGrads X H W2 y g).b2] := by
  -- the source repeats the lines of `MLPModel._compute_grads`; the skip gradient, returned in third place, is the
  -- weight gradient of `LinearModel._compute_grads`
  have hm := mlp_compute_grads_eq X H W2 y g
  have hl := linear_compute_grads_eq X y g
  simp only [Gen.Nets.mlp_compute_grads, Gen.Nets.sparse_mlp_compute_grads, Gen.Nets.linear_compute_grads,
    listEqv_cons, listEqv_nil, and_true] at hm hl ⊢
  exact ⟨hm.1, hm.2.1, hl.1, hm.2.2⟩

/-- instance at `Float`: the generated linear gradients are the model's, double for double (non-vacuity of "every
    `RealLike`") -/
example (X : Fin n → Fin d → Float) (y g : Fin n → Fin K → Float) :
    ListEqv (Gen.Nets.linear_compute_grads (ofFn X) (ofFn y) (ofFn g))
      [ofFn (linearGradW X y g), ofRow (linearGradB y g)] :=
  linear_compute_grads_eq X y g

end GemVerif.Props.C03Gen
