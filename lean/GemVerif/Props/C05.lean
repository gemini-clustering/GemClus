/-
  C05 — proximal operators return the exact minimiser of their penalised problem.
  The penalised problems are defined in `Lemmas/ProxSpec.lean`, independently of the model `Model/Prox.lean`.

  All theorems are over ℝ.  The one place where ℝ and IEEE doubles take different routes is the
  unguarded division by `‖v‖ = 0` in `mlp_prox_grad` (`x/0 = 0` in Lean, `±inf`/`nan` in numpy):
  see `hier_prox_zero_row`; the floating-point behaviour of those rows is checked by the harness
  (both reach `β = θ = 0` when `u = 0`, `α > 0`).
-/
import GemVerif.Lemmas.ProxHier

namespace GemVerif.Props.C05
open GemVerif Model.Prox Spec.Prox

variable {d k h : ℕ}

/-- **Strong minimum in any real inner-product space.**  For `α ≥ 0`,
    `z* = if ‖w‖ ≤ α then 0 else (1 − α/‖w‖)•w` satisfies
    `½‖z−w‖² + α‖z‖ ≥ ½‖z*−w‖² + α‖z*‖ + ½‖z−z*‖²` for every `z`. -/
theorem glProx_strong_min {E : Type*} [NormedAddCommGroup E] [InnerProductSpace ℝ E]
    (w : E) {α : ℝ} (hα : 0 ≤ α) (z : E) :
    glObj w α z ≥ glObj w α (glProx w α) + 1 / 2 * ‖z - glProx w α‖ ^ 2 :=
  Spec.Prox.glProx_strong_min w hα z

/-- `z* = glProx w α` is the unique minimiser of `glObj w α` (from the strong minimum above). -/
theorem glProx_unique_minimiser {E : Type*} [NormedAddCommGroup E] [InnerProductSpace ℝ E]
    (w : E) {α : ℝ} (hα : 0 ≤ α) :
    (∀ z, glObj w α (glProx w α) ≤ glObj w α z) ∧
    (∀ z, glObj w α z ≤ glObj w α (glProx w α) → z = glProx w α) :=
  ⟨glProx_minimises w hα, glProx_unique w hα⟩

/-- The row formula of `linear_prox_grad` (with the `np.where(W_norms == 0, 1, W_norms)` guard) is
    the group soft-threshold of the row in Euclidean space — every row, zero rows included, every `α`. -/
theorem linear_prox_row_eq (W : Fin d → Fin h → ℝ) (α : ℝ) (i : Fin d) :
    toE (linearProx W α i) = glProx (toE (W i)) α :=
  linearProxRow_eq (W i) α

/-- The norm the model computes is the real 2-norm `sqrt(Σ_j w_j²)`, which is the norm of
    `EuclideanSpace ℝ (Fin h)`. -/
theorem model_norm_is_two_norm (w : Fin h → ℝ) :
    norm2 w = Real.sqrt (∑ j, w j ^ 2) ∧ norm2 w = ‖toE w‖ := ⟨norm2_eq_sqrt w, norm2_eq w⟩

/-- Rows of norm `≤ α` become exactly zero. -/
theorem linear_prox_small_row (W : Fin d → Fin h → ℝ) {α : ℝ} (i : Fin d)
    (hsmall : rowNorm (W i) ≤ α) (j : Fin h) : linearProx W α i j = 0 := by
  have h1 := linear_prox_row_eq W α i
  rw [glProx_of_le (by rw [toE_norm_rowNorm]; exact hsmall)] at h1
  exact congrFun (congrArg WithLp.ofLp h1) j

/-- Rows of norm `> α` are shrunk radially by `α`: multiplied by `1 − α/‖W_i‖`, so that the new
    norm is `‖W_i‖ − α`. -/
theorem linear_prox_large_row (W : Fin d → Fin h → ℝ) {α : ℝ} (hα : 0 ≤ α) (i : Fin d)
    (hlarge : α < rowNorm (W i)) :
    (∀ j, linearProx W α i j = (1 - α / rowNorm (W i)) * W i j) ∧
    rowNorm (linearProx W α i) = rowNorm (W i) - α := by
  have h1 := linear_prox_row_eq W α i
  refine ⟨fun j => ?_, ?_⟩
  · rw [glProx_of_lt (by rw [toE_norm_rowNorm]; exact hlarge), toE_norm_rowNorm] at h1
    exact congrFun (congrArg WithLp.ofLp h1) j
  · rw [← toE_norm_rowNorm, h1, norm_glProx _ hα, toE_norm_rowNorm, max_eq_left (sub_nonneg.mpr hlarge.le)]

/-- **Row-separable matrix problem**: `linear_prox_grad` is the strong (hence unique) minimiser of
    `Σ_i (½ Σ_j (Z_ij − W_ij)² + α‖Z_i‖₂)` over all matrices `Z`. -/
theorem linear_prox_strong_min (W : Fin d → Fin h → ℝ) {α : ℝ} (hα : 0 ≤ α) (Z : Fin d → Fin h → ℝ) :
    glRowsObj W α Z ≥ glRowsObj W α (linearProx W α)
      + 1 / 2 * ∑ i, ∑ j, (Z i j - linearProx W α i j) ^ 2 := by
  unfold glRowsObj
  rw [Finset.mul_sum, ← Finset.sum_add_distrib]
  refine Finset.sum_le_sum fun i _ => ?_
  have hs := Spec.Prox.glProx_strong_min (toE (W i)) hα (toE (Z i))
  rw [← linear_prox_row_eq W α i, glObj_toE, glObj_toE, toE_sub_sq] at hs
  exact hs

/-- **Flattening a group** (`W[g].reshape((1, -1))`) gives a row whose 2-norm is the norm of the
    stacked rows of the group, and whose squared distance to another flattened matrix is the
    squared Frobenius distance on the group. -/
theorem flat_group_norm (Z W : Fin d → Fin h → ℝ) (g : List (Fin d)) :
    norm2 (flatGroup Z g) = blockNorm Z g ∧
    ∑ p, (flatGroup Z g p - flatGroup W g p) ^ 2 = blockDist Z W g :=
  ⟨by rw [norm2_eq_sqrt]; exact rowNorm_flatGroup Z g, dist_flatGroup Z W g⟩

/-- What `group_linear_prox_grad` writes into row `g[q]` of a partition: the `q`-th slice of the row
    operator applied to the flattened group. -/
theorem group_linear_prox_row {groups : List (List (Fin d))} (hp : IsPartition groups)
    (W : Fin d → Fin h → ℝ) (α : ℝ) {g : List (Fin d)} (hg : g ∈ groups) (q : Fin g.length) :
    groupLinearProx groups W α (g.get q)
      = some fun j => linearProxRow (flatGroup W g) α (flatIdx q j) :=
  scatter_partition hp _ hg q

/-- rows not covered by any group are left uninitialised by the code (`np.empty`): the model says `none` -/
theorem group_linear_prox_uncovered (groups : List (List (Fin d))) (W : Fin d → Fin h → ℝ) (α : ℝ)
    (i : Fin d) (hi : ∀ g ∈ groups, i ∉ g) : groupLinearProx groups W α i = none :=
  scatter_eq_none _ hi

/-- **Group lasso on a partition of the features**: `group_linear_prox_grad` fills every covered row,
    and its result is the strong (hence unique) minimiser of `½‖Z − W‖² + α Σ_g ‖Z_g‖₂` (each group
    counted with the 2-norm of its stacked rows). -/
theorem group_linear_prox_strong_min {groups : List (List (Fin d))} (hp : IsPartition groups)
    (hcov : ∀ i : Fin d, ∃ g ∈ groups, i ∈ g) (W : Fin d → Fin h → ℝ) {α : ℝ} (hα : 0 ≤ α) :
    ∃ Zs : Fin d → Fin h → ℝ, (∀ i, groupLinearProx groups W α i = some (Zs i)) ∧
      ∀ Z, glMatObj groups W α Z ≥ glMatObj groups W α Zs + 1 / 2 * (groups.map (blockDist Z Zs)).sum := by
  obtain ⟨Zs, hZ, hflat⟩ := scatter_cover hp hcov fun g => linearProxRow (flatGroup W g) α
  refine ⟨Zs, hZ, fun Z => ?_⟩
  unfold glMatObj
  rw [ge_iff_le, ← List.sum_map_mul_left, ← List.sum_map_add]
  refine List.sum_le_sum fun g hg => ?_
  have hs := Spec.Prox.glProx_strong_min (toE (flatGroup W g)) hα (toE (flatGroup Z g))
  rw [← linearProxRow_eq, ← hflat g hg, ← glGroupObj_eq, ← glGroupObj_eq, toE_sub_sq, dist_flatGroup] at hs
  exact hs

/-- `β* = x*·v` with `x* ≥ 0` (every `v`, every `α`, `M`). -/
theorem hier_prox_beta_eq (v : Fin k → ℝ) (u : Fin h → ℝ) (α M : ℝ) :
    (∀ c, (hierProxRow v u α M).1 c = xStar v u α M * v c) ∧ 0 ≤ xStar v u α M :=
  ⟨fun _ => rfl, xStar_nonneg v u α M⟩

/-- `θ*_j = ±min(|u_j|, w*)`: the clipping of `u_j` to `[−w*, w*]`, and `w* = M‖β*‖` (every `v`). -/
theorem hier_prox_theta_eq (v : Fin k → ℝ) (u : Fin h → ℝ) (α M : ℝ) :
    (∀ j, (hierProxRow v u α M).2 j = clipPM (wStar v u α M) (u j)) ∧
    wStar v u α M = M * ‖toE (hierProxRow v u α M).1‖ :=
  ⟨hierProxRow_snd v u α M, by rw [norm_hierProxRow_fst, wStar_eq]⟩

/-- **Feasibility**: `|θ*_j| ≤ M‖β*‖` for every hidden unit — every `v` (zero rows included), every
    `u`, every `α`, every `M ≥ 0`. -/
theorem hier_prox_feasible (v : Fin k → ℝ) (u : Fin h → ℝ) (α : ℝ) {M : ℝ} (hM : 0 ≤ M) :
    Feasible M (toE (hierProxRow v u α M).1) (hierProxRow v u α M).2 := fun j => by
  rw [hierProxRow_snd, norm_hierProxRow_fst, ← wStar_eq]
  refine abs_clipPM_le ?_ _
  rw [wStar_eq]; exact mul_nonneg hM (mul_nonneg (xStar_nonneg v u α M) (norm_nonneg _))

/-- **KKT-sufficiency** (convex problem reduced to the scalar `b = ‖β‖`): if `b ≥ 0` solves
    `b = max(‖v‖ − α + M Σ_j (|u_j| − M b)₊, 0)`, then `(x•v, clip(u, ±M b))` with `x ≥ 0`,
    `x‖v‖ = b` is a global minimiser of `½‖β−v‖² + ½‖θ−u‖² + α‖β‖` over all feasible pairs —
    in any real inner-product space for `β`, any finite index set for `θ`. -/
theorem hier_kkt_optimal {E : Type*} [NormedAddCommGroup E] [InnerProductSpace ℝ E] {ι : Type*}
    [Fintype ι] (v : E) (u : ι → ℝ) (α M b x : ℝ) (hx : 0 ≤ x) (hb : b = x * ‖v‖)
    (hkkt : b = max (‖v‖ - α + M * ∑ j, max (|u j| - M * b) 0) 0)
    (β : E) (θ : ι → ℝ) (hfeas : Feasible M β θ) :
    hObj v u α (x • v) (fun j => clipPM (M * b) (u j)) ≤ hObj v u α β θ := by
  -- lower bound on the θ-part of any feasible competitor
  have hθ : 1 / 2 * ∑ j, (max (|u j| - M * b) 0) ^ 2 - (∑ j, max (|u j| - M * b) 0) * (M * (‖β‖ - b))
      ≤ 1 / 2 * ∑ j, (θ j - u j) ^ 2 := by
    rw [Finset.mul_sum, Finset.mul_sum, Finset.sum_mul, ← Finset.sum_sub_distrib]
    exact Finset.sum_le_sum fun j _ => coord_tangent (hfeas j)
  -- lower bound on the β-part: reverse triangle inequality
  have hβ : (‖β‖ - ‖v‖) ^ 2 ≤ ‖β - v‖ ^ 2 := by
    rw [← sq_abs (‖β‖ - ‖v‖)]
    exact pow_le_pow_left₀ (abs_nonneg _) (abs_norm_sub_norm_le β v) 2
  -- the two bounds leave `½ (c − b)² + (c − b) (b − s)` with `c = ‖β‖`, `b = max s 0`: both terms are `≥ 0`
  have hvar := max_zero_variational hkkt (norm_nonneg β)
  unfold hObj
  -- value at the candidate: `‖x • v − v‖² = (b − ‖v‖)²`, `‖x • v‖ = b`
  simp only [clipPM_sub_sq]
  rw [norm_smul_sub_self_sq, norm_smul_of_nonneg hx, ← hb]
  linear_combination (1 / 2) * hβ + hθ + hvar + (1 / 2) * sq_nonneg (‖β‖ - b)

/-- **The sorted-breakpoint search returns a stationary point**: `b* = x*‖v‖` solves the scalar KKT
    equation, for every row with non-zero skip weights. -/
theorem hier_prox_stationary (v : Fin k → ℝ) (u : Fin h → ℝ) (hv : v ≠ 0) (α : ℝ) {M : ℝ} (hM : 0 ≤ M) :
    xStar v u α M * ‖toE v‖
      = max (‖toE v‖ - α + M * ∑ j, max (|u j| - M * (xStar v u α M * ‖toE v‖)) 0) 0 := by
  have hNpos : 0 < norm2 v := lt_of_le_of_ne (norm2_nonneg v) (fun h0 => hv (norm2_eq_zero.mp h0.symm))
  set L := uAbsSorted u with hL
  have hlen : L.length = h := uAbsSorted_length u
  have hnnL := uAbsSorted_nonneg u
  obtain ⟨hk, hkkt⟩ := breakpoint_kkt (N := norm2 v) (α := α) hM (seqOf_nonneg hnnL)
    (seqOf_antitone (uAbsSorted_pairwise u) hnnL) L.length (seqOf_of_ge (le_refl _))
  rw [← norm2_eq, xStar_mul_norm2 v u α M hNpos hk, sum_abs_eq_range u (fun a => max (a - M * _) 0)]
  rw [hlen] at hkkt ⊢
  exact hkkt

/-- **HIER-PROX optimality, full statement.**  For every skip row `v ≠ 0`, every hidden row `u`
    (ties and zeros included), every `M ≥ 0` and every `α` (the proof does not even need `α ≥ 0`),
    the pair returned by `mlp_prox_grad` attains the minimum of `½‖β−v‖² + ½‖θ−u‖² + α‖β‖₂` over all
    feasible pairs `(β, θ)`, `|θ_j| ≤ M‖β‖`. -/
theorem hier_prox_optimal (v : Fin k → ℝ) (u : Fin h → ℝ) (hv : v ≠ 0) (α : ℝ) {M : ℝ} (hM : 0 ≤ M)
    (β : EuclideanSpace ℝ (Fin k)) (θ : Fin h → ℝ) (hfeas : Feasible M β θ) :
    hObj (toE v) u α (toE (hierProxRow v u α M).1) (hierProxRow v u α M).2 ≤ hObj (toE v) u α β θ := by
  have hθ : (hierProxRow v u α M).2 = fun j => clipPM (M * (xStar v u α M * ‖toE v‖)) (u j) := by
    funext j
    rw [hierProxRow_snd, wStar_eq]
  rw [toE_hierProxRow_fst, hθ]
  exact hier_kkt_optimal (toE v) u α M _ _ (xStar_nonneg v u α M) rfl (hier_prox_stationary v u hv α hM)
    β θ hfeas

/-- The same in coordinates: explicit sums and the explicit 2-norm `rowNorm β = sqrt(Σ_c β_c²)`. -/
theorem hier_prox_optimal_coords (v : Fin k → ℝ) (u : Fin h → ℝ) (hv : v ≠ 0) (α : ℝ) {M : ℝ} (hM : 0 ≤ M)
    (β : Fin k → ℝ) (θ : Fin h → ℝ) (hfeas : ∀ j, |θ j| ≤ M * rowNorm β) :
    1 / 2 * ∑ c, ((hierProxRow v u α M).1 c - v c) ^ 2 + 1 / 2 * ∑ j, ((hierProxRow v u α M).2 j - u j) ^ 2
        + α * rowNorm (hierProxRow v u α M).1
      ≤ 1 / 2 * ∑ c, (β c - v c) ^ 2 + 1 / 2 * ∑ j, (θ j - u j) ^ 2 + α * rowNorm β := by
  have h1 := hier_prox_optimal v u hv α hM (toE β) θ (by
    intro j; rw [toE_norm_rowNorm]; exact hfeas j)
  rwa [hObj_toE, hObj_toE] at h1

/-- The hypotheses of `hier_prox_optimal` are satisfiable in every shape with `k ≥ 1`. -/
example (hk : 0 < k) : ∃ (v : Fin k → ℝ) (M : ℝ), v ≠ 0 ∧ 0 ≤ M :=
  ⟨fun _ => 1, 1, fun h0 => one_ne_zero (congrFun h0 ⟨0, hk⟩), zero_le_one⟩

/-- **Zero skip rows** (in scope only with `u = 0`): over ℝ (`x/0 = 0`) the model returns
    `β = 0`, `θ = 0`, which is the minimiser of the problem for `α ≥ 0` (value `0`, objective is
    non-negative).  On IEEE doubles the same output is reached through `α/0 = +inf` when `α > 0`
    (checked by the harness); for `α = 0` numpy computes `0/0 = nan`, which is why the property
    excludes that case. -/
theorem hier_prox_zero_row (α M : ℝ) (hα : 0 ≤ α) :
    (hierProxRow (fun _ : Fin k => (0 : ℝ)) (fun _ : Fin h => (0 : ℝ)) α M).1 = (fun _ => 0) ∧
    (hierProxRow (fun _ : Fin k => (0 : ℝ)) (fun _ : Fin h => (0 : ℝ)) α M).2 = (fun _ => 0) ∧
    ∀ (β : EuclideanSpace ℝ (Fin k)) (θ : Fin h → ℝ),
      hObj (toE fun _ : Fin k => (0 : ℝ)) (fun _ : Fin h => (0 : ℝ)) α (toE fun _ => 0) (fun _ => 0)
        ≤ hObj (toE fun _ : Fin k => (0 : ℝ)) (fun _ : Fin h => (0 : ℝ)) α β θ := by
  have h1 : (hierProxRow (fun _ : Fin k => (0 : ℝ)) (fun _ : Fin h => (0 : ℝ)) α M).1 = 0 :=
    funext fun c => mul_zero _
  refine ⟨h1, hierProxRow_snd_of_fst_zero _ _ α M h1, fun β θ => ?_⟩
  rw [hObj_self, show (toE fun _ : Fin k => (0 : ℝ)) = 0 from rfl, norm_zero, mul_zero]
  exact hObj_nonneg _ _ hα β θ

/-- **HIER-PROX optimality on the whole scope of the property** (non-zero skip rows, and zero rows
    with zero hidden weights). -/
theorem hier_prox_optimal_in_scope (v : Fin k → ℝ) (u : Fin h → ℝ) (α : ℝ) {M : ℝ} (hM : 0 ≤ M)
    (hs : InScope v u α) (β : EuclideanSpace ℝ (Fin k)) (θ : Fin h → ℝ) (hfeas : Feasible M β θ) :
    hObj (toE v) u α (toE (hierProxRow v u α M).1) (hierProxRow v u α M).2 ≤ hObj (toE v) u α β θ := by
  rcases hs with hv | ⟨hv, hu, hα⟩
  · exact hier_prox_optimal v u hv α hM β θ hfeas
  · subst hv hu
    obtain ⟨h1, h2, h3⟩ := hier_prox_zero_row (k := k) (h := h) α M hα
    exact (congrArg₂ (hObj _ _ α) (congrArg toE h1) h2).trans_le (h3 β θ)

/-- The same in coordinates. -/
theorem hier_prox_optimal_in_scope_coords (v : Fin k → ℝ) (u : Fin h → ℝ) (α : ℝ) {M : ℝ} (hM : 0 ≤ M)
    (hs : InScope v u α) (β : Fin k → ℝ) (θ : Fin h → ℝ) (hfeas : ∀ j, |θ j| ≤ M * rowNorm β) :
    1 / 2 * ∑ c, ((hierProxRow v u α M).1 c - v c) ^ 2 + 1 / 2 * ∑ j, ((hierProxRow v u α M).2 j - u j) ^ 2
        + α * rowNorm (hierProxRow v u α M).1
      ≤ 1 / 2 * ∑ c, (β c - v c) ^ 2 + 1 / 2 * ∑ j, (θ j - u j) ^ 2 + α * rowNorm β := by
  have h1 := hier_prox_optimal_in_scope v u α hM hs (toE β) θ (by
    intro j; rw [toE_norm_rowNorm]; exact hfeas j)
  rwa [hObj_toE, hObj_toE] at h1

/-- **Matrix level** (`mlp_prox_grad` on a `d × k` / `d × h` pair whose rows are all in scope):
    every row is feasible and the pair minimises the row-separable objective over all row-feasible
    pairs of matrices. -/
theorem mlp_prox_optimal (Ws : Fin d → Fin k → ℝ) (W1 : Fin d → Fin h → ℝ) (α : ℝ) {M : ℝ} (hM : 0 ≤ M)
    (hscope : ∀ i, InScope (Ws i) (W1 i) α) :
    (∀ i j, |(mlpProx Ws W1 α M).2 i j| ≤ M * rowNorm ((mlpProx Ws W1 α M).1 i)) ∧
    ∀ (B : Fin d → Fin k → ℝ) (T : Fin d → Fin h → ℝ), (∀ i j, |T i j| ≤ M * rowNorm (B i)) →
      hRowsObj Ws W1 α (mlpProx Ws W1 α M).1 (mlpProx Ws W1 α M).2 ≤ hRowsObj Ws W1 α B T := by
  refine ⟨fun i j => ?_, fun B T hBT => ?_⟩
  · have := hier_prox_feasible (Ws i) (W1 i) α hM j
    rwa [toE_norm_rowNorm] at this
  · unfold hRowsObj
    exact Finset.sum_le_sum fun i _ =>
      hier_prox_optimal_in_scope_coords (Ws i) (W1 i) α hM (hscope i) (B i) (T i) (hBT i)

/-- **Group level** (`group_mlp_prox_grad` on a partition of the features, every group in scope: some
    non-zero skip weight, or all skip and hidden weights of the group zero): all rows are written, every group
    is feasible (each hidden weight of the group bounded by `M` times the norm of the group's stacked skip
    weights), and the result minimises
    `Σ_g (½‖B_g − Wskip_g‖² + ½‖T_g − W1_g‖² + α‖B_g‖₂)` over all group-feasible pairs. -/
theorem group_mlp_prox_optimal {groups : List (List (Fin d))} (hp : IsPartition groups)
    (hcov : ∀ i : Fin d, ∃ g ∈ groups, i ∈ g) (Ws : Fin d → Fin k → ℝ) (W1 : Fin d → Fin h → ℝ)
    (α : ℝ) {M : ℝ} (hM : 0 ≤ M) (hscope : ∀ g ∈ groups, InScope (flatGroup Ws g) (flatGroup W1 g) α) :
    ∃ (Bs : Fin d → Fin k → ℝ) (Ts : Fin d → Fin h → ℝ),
      (∀ i, (groupMlpProx groups Ws W1 α M).1 i = some (Bs i)) ∧
      (∀ i, (groupMlpProx groups Ws W1 α M).2 i = some (Ts i)) ∧
      (∀ g ∈ groups, GroupFeasible M Bs Ts g) ∧
      ∀ B T, (∀ g ∈ groups, GroupFeasible M B T g) →
        hMatObj groups Ws W1 α Bs Ts ≤ hMatObj groups Ws W1 α B T := by
  obtain ⟨Bs, hB, hBflat⟩ := scatter_cover hp hcov fun g => (hierProxRow (flatGroup Ws g) (flatGroup W1 g) α M).1
  obtain ⟨Ts, hT, hTflat⟩ := scatter_cover hp hcov fun g => (hierProxRow (flatGroup Ws g) (flatGroup W1 g) α M).2
  refine ⟨Bs, Ts, hB, hT, fun g hg => ?_, fun B T hBT => ?_⟩
  · rw [groupFeasible_iff, hBflat g hg, hTflat g hg]
    exact hier_prox_feasible _ _ α hM
  · unfold hMatObj
    refine List.sum_le_sum fun g hg => ?_
    rw [hGroupObj_eq, hGroupObj_eq, hBflat g hg, hTflat g hg]
    exact hier_prox_optimal_in_scope _ _ α hM (hscope g hg) _ _ ((groupFeasible_iff M B T g).mp (hBT g hg))

/-- The hypotheses on `groups` are satisfiable: the partition into singletons. -/
example : IsPartition ((List.finRange d).map fun i => [i]) ∧
    ∀ i : Fin d, ∃ g ∈ (List.finRange d).map fun i => [i], i ∈ g :=
  ⟨isPartition_singletons d, fun i => ⟨[i], List.mem_map.mpr ⟨i, List.mem_finRange i, rfl⟩, List.mem_singleton.mpr rfl⟩⟩

/-- `np.sort(·)[::-1]` is modelled by an insertion sort.  Only the values are observable: the result
    is the unique non-increasing rearrangement (any non-increasing permutation of the input equals it). -/
theorem sortDesc_is_the_rearrangement (l : List ℝ) :
    (sortDesc l).Perm l ∧ (sortDesc l).Pairwise (· ≥ ·) ∧
    ∀ l' : List ℝ, l'.Perm l → l'.Pairwise (· ≥ ·) → l' = sortDesc l := by
  refine ⟨sortDesc_perm l, sortDesc_pairwise l, fun l' hp hs => ?_⟩
  exact (hp.trans (sortDesc_perm l).symm).eq_of_pairwise' hs (sortDesc_pairwise l)

end GemVerif.Props.C05
