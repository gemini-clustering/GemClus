/-
  C10 — Mini-batches partition the data and stay aligned with the affinity matrix.

  All statements are about the executable model `GemVerif.Model.Batch` (tied to `/repo` by the correspondence run of
  `./check C10`), for every permutation, every data size `n`, every batch size `bs ≥ 1` (what `_validate_params`
  admits) and `None`.  `perm` is what `random_state.permutation(len(X))` returned (numpy: a permutation of `range n`).
-/
import GemVerif.Lemmas.Batch
import Mathlib.Data.List.Nodup
import Mathlib.Data.Rat.Floor

namespace GemVerif.Props.C10
open GemVerif.Model.Batch GemVerif.BatchLemmas

/-- Concatenating the batches of one epoch gives back the permutation: nothing dropped, nothing repeated,
    order kept (in particular the last, partial batch is not lost). -/
theorem batches_concat (perm : List Nat) (bs : Nat) (hbs : 0 < bs) :
    (batchify perm (some bs)).flatten = perm := by
  rw [batchify_some perm hbs, batchLoop_flatten, List.drop_zero]

/-- Every batch holds at most `batch_size` rows. -/
theorem batches_len (perm : List Nat) (bs : Nat) : ∀ b ∈ batchify perm (some bs), b.length ≤ bs := by
  intro b hb
  obtain ⟨hbs, hb⟩ := mem_batchify hb
  exact (batchLoop_len perm bs hbs 0 b hb).1

/-- No batch is empty (so no optimiser step is made on an empty batch). -/
theorem batches_nonempty (perm : List Nat) (bs : Nat) : ∀ b ∈ batchify perm (some bs), b ≠ [] := by
  intro b hb
  obtain ⟨hbs, hb⟩ := mem_batchify hb
  exact List.ne_nil_of_length_pos (batchLoop_len perm bs hbs 0 b hb).2

/-- There are `(n + bs - 1) / bs` batches per epoch. -/
theorem batches_count (perm : List Nat) (bs : Nat) (hbs : 0 < bs) :
    (batchify perm (some bs)).length = (perm.length + bs - 1) / bs := by
  rw [batchify_some perm hbs, batchLoop_length, Nat.sub_zero]

/-- `(n + bs - 1) / bs` is `⌈n / bs⌉`. -/
theorem count_is_ceil (n bs : Nat) (hbs : 0 < bs) : (n + bs - 1) / bs = ⌈(n : ℚ) / (bs : ℚ)⌉₊ := by
  refine eq_of_forall_ge_iff fun k => ?_
  rw [← not_lt, lt_ceilDiv_iff n bs k hbs, not_lt, Nat.ceil_le, div_le_iff₀ (by exact_mod_cast hbs)]
  exact_mod_cast Iff.rfl

/-- There are `⌈n / bs⌉` batches per epoch. -/
theorem batches_count_ceil (perm : List Nat) (bs : Nat) (hbs : 0 < bs) :
    (batchify perm (some bs)).length = ⌈(perm.length : ℚ) / (bs : ℚ)⌉₊ := by
  rw [batches_count perm bs hbs, count_is_ceil _ _ hbs]

/-- The `k`-th batch is exactly `perm[k·bs : (k+1)·bs]`, in the same order. -/
theorem batches_get (perm : List Nat) (bs : Nat) (hbs : 0 < bs) (k : Nat)
    (hk : k < (perm.length + bs - 1) / bs) :
    (batchify perm (some bs))[k]? = some ((perm.drop (k * bs)).take bs) := by
  rw [batchify_some perm hbs, batchLoop_getElem?, Nat.zero_add, if_pos ((lt_ceilDiv_iff perm.length bs k hbs).1 hk)]

/-- The `k`-th batch has `min bs (n - k·bs)` rows: all batches are full except possibly the last one. -/
theorem batches_get_length (perm : List Nat) (bs : Nat) (hbs : 0 < bs) (k : Nat) (b : List Nat)
    (hb : (batchify perm (some bs))[k]? = some b) : b.length = min bs (perm.length - k * bs) := by
  rw [batchify_some perm hbs, batchLoop_getElem?] at hb
  split at hb
  · cases hb
    rw [List.length_take, List.length_drop, Nat.zero_add]
  · cases hb

/-- Within one epoch the batches are pairwise disjoint, free of repetitions, contain only sample indices `< n`,
    and every sample `i < n` occurs exactly once over all batches. -/
theorem batches_partition (perm : List Nat) (n bs : Nat) (hbs : 0 < bs) (hperm : perm.Perm (List.range n)) :
    (batchify perm (some bs)).Pairwise List.Disjoint
    ∧ (∀ b ∈ batchify perm (some bs), b.Nodup)
    ∧ (∀ b ∈ batchify perm (some bs), ∀ i ∈ b, i < n)
    ∧ (∀ i, i < n → ((batchify perm (some bs)).map (List.count i)).sum = 1) := by
  have hflat := batches_concat perm bs hbs
  have hnd : (batchify perm (some bs)).flatten.Nodup := by
    rw [hflat]; exact (hperm.nodup_iff).2 List.nodup_range
  obtain ⟨h1, h2⟩ := List.nodup_flatten.1 hnd
  refine ⟨h2, h1, ?_, ?_⟩
  · exact fun b hb i hi => List.mem_range.1 ((hperm.mem_iff).1 (subset_of_mem_batchify hb hi))
  · intro i hi
    rw [← List.count_flatten, hflat, hperm.count_eq]
    exact List.count_eq_one_of_mem List.nodup_range (List.mem_range.2 hi)

/-- Every sample belongs to exactly one batch of the epoch. -/
theorem batches_cover_unique (perm : List Nat) (n bs : Nat) (hbs : 0 < bs) (hperm : perm.Perm (List.range n))
    (i : Nat) (hi : i < n) : ∃ (k : Nat) (b : List Nat), (batchify perm (some bs))[k]? = some b ∧ i ∈ b ∧
      ∀ (k' : Nat) (b' : List Nat), (batchify perm (some bs))[k']? = some b' → i ∈ b' → k' = k := by
  obtain ⟨hdis, _, _, _⟩ := batches_partition perm n bs hbs hperm
  have hmem : i ∈ (batchify perm (some bs)).flatten := by
    rw [batches_concat perm bs hbs]; exact (hperm.mem_iff).2 (List.mem_range.2 hi)
  obtain ⟨b, hb, hib⟩ := List.mem_flatten.1 hmem
  obtain ⟨k, hk⟩ := List.getElem?_of_mem hb
  -- two batches holding `i` cannot stand at positions `k₁ < k₂`: they are disjoint
  have key : ∀ (k₁ k₂ : Nat) (b₁ b₂ : List Nat), (batchify perm (some bs))[k₁]? = some b₁ →
      (batchify perm (some bs))[k₂]? = some b₂ → i ∈ b₁ → i ∈ b₂ → ¬ k₁ < k₂ := by
    intro k₁ k₂ b₁ b₂ h₁ h₂ hi₁ hi₂ hlt
    obtain ⟨hl₁, rfl⟩ := List.getElem?_eq_some_iff.1 h₁
    obtain ⟨hl₂, rfl⟩ := List.getElem?_eq_some_iff.1 h₂
    exact List.pairwise_iff_getElem.1 hdis k₁ k₂ hl₁ hl₂ hlt hi₁ hi₂
  exact ⟨k, b, hk, hib, fun k' b' hk' hib' =>
    Nat.le_antisymm (Nat.not_lt.1 (key k k' b b' hk hk' hib hib')) (Nat.not_lt.1 (key k' k b' b hk' hk hib' hib))⟩

/-- Any `batch_size ≥ n` (e.g. `n+1`, `n+2`) gives a single batch holding the whole permutation. -/
theorem batchify_large (perm : List Nat) (bs : Nat) (hne : perm ≠ []) (hle : perm.length ≤ bs) :
    batchify perm (some bs) = [perm] := by
  have hpos := List.length_pos_iff.2 hne
  have hbs : 0 < bs := Nat.lt_of_lt_of_le hpos hle
  -- one pass through the loop takes everything, the next test `j < len(X)` fails
  rw [batchify_some perm hbs, batchLoop_of_lt hbs hpos, batchLoop_of_ge hbs (by omega), List.drop_zero,
    List.take_of_length_le hle]

/-- So does `batch_size = None`. -/
theorem batchify_none (perm : List Nat) (hne : perm ≠ []) : batchify perm none = [perm] :=
  batchify_large perm perm.length hne (Nat.le_refl _)

/-- `None` behaves as `batch_size = n`. -/
theorem batchify_none_eq (perm : List Nat) : batchify perm none = batchify perm (some perm.length) := rfl

/-- Entry `(a, b)` of the delivered block is the full affinity at (sample of row `a`, sample of row `b`). -/
theorem block_entries {α : Type} [Inhabited α] (A : Mat α) (idx : List Nat) (a b : Nat)
    (ha : a < idx.length) (hb : b < idx.length) :
    (block A idx)[a]![b]! = A[idx[a]!]![idx[b]!]! := by
  rw [block_getElem! A idx a ha, gather_getElem! _ idx b hb]

/-- The block is square of the size of the batch. -/
theorem block_shape {α : Type} [Inhabited α] (A : Mat α) (idx : List Nat) :
    (block A idx).length = idx.length ∧ ∀ r ∈ block A idx, r.length = idx.length :=
  ⟨block_length A idx, fun _ hr => length_of_mem_gatherCols hr⟩

/-- Same statement for an affinity given as a function tabulated on `n × n` and in-range indices:
    `block A idx a b = A (idx a) (idx b)`. -/
theorem block_entries_fn {α : Type} [Inhabited α] (n : Nat) (Af : Nat → Nat → α) (idx : List Nat)
    (hidx : ∀ i ∈ idx, i < n) (a b : Nat) (ha : a < idx.length) (hb : b < idx.length) :
    (block ((List.range n).map fun i => (List.range n).map fun j => Af i j) idx)[a]![b]! = Af idx[a]! idx[b]! := by
  rw [block_entries _ idx a b ha hb]
  have h1 : idx[a]! < n := by
    rw [getElem!_pos idx a ha]; exact hidx _ (List.getElem_mem ha)
  have h2 : idx[b]! < n := by
    rw [getElem!_pos idx b hb]; exact hidx _ (List.getElem_mem hb)
  rw [getElem!_pos _ idx[a]! (by simpa using h1), List.getElem_map,
    getElem!_pos _ idx[b]! (by simpa using h2), List.getElem_map]
  simp

/-- The yielded pairs are, batch by batch, `(X[idx], A[idx][:, idx])` for the index lists of `batchify`. -/
theorem yields_spec {β α : Type} [Inhabited β] [Inhabited α] (X : List β) (A : Mat α) (perm : List Nat)
    (bs : Option Nat) (k : Nat) (idx : List Nat) (hk : (batchify perm bs)[k]? = some idx) :
    (batchifyData X (some A) perm bs)[k]? = some ⟨gather X idx, some (block A idx)⟩ := by
  simp [batchifyData, hk, mkBatch]

/-- When the GEMINI needs no affinity (`affinity_matrix is None`), `None` is delivered with every batch,
    and the data part is unchanged. -/
theorem yields_none {β α : Type} [Inhabited β] [Inhabited α] (X : List β) (perm : List Nat)
    (bs : Option Nat) (k : Nat) (idx : List Nat) (hk : (batchify perm bs)[k]? = some idx) :
    (batchifyData X (none : Option (Mat α)) perm bs)[k]? = some ⟨gather X idx, none⟩ := by
  simp [batchifyData, hk, mkBatch]

/-- As many pairs are yielded as there are index lists. -/
theorem yields_length {β α : Type} [Inhabited β] [Inhabited α] (X : List β) (A : Option (Mat α))
    (perm : List Nat) (bs : Option Nat) : (batchifyData X A perm bs).length = (batchify perm bs).length := by
  simp [batchifyData]

/-- `fit` calls the optimiser `max_iter * ⌈n/bs⌉` times. -/
theorem fit_step_count (maxIter n bs : Nat) (hbs : 0 < bs) (perms : Nat → List Nat)
    (hlen : ∀ i, i < maxIter → (perms i).length = n) :
    fitStepCount maxIter perms (some bs) = maxIter * ((n + bs - 1) / bs) :=
  fitStepCount_of_const maxIter perms _ _ fun i hi => by rw [batches_count _ _ hbs, hlen i hi]

/-- With `batch_size = None` (and non-empty data) `fit` makes one step per epoch. -/
theorem fit_step_count_none (maxIter n : Nat) (hn : 0 < n) (perms : Nat → List Nat)
    (hlen : ∀ i, i < maxIter → (perms i).length = n) :
    fitStepCount maxIter perms none = maxIter := by
  rw [fitStepCount_of_const maxIter perms none 1, Nat.mul_one]
  intro i hi
  rw [batchify_none _ (List.ne_nil_of_length_pos (hlen i hi ▸ hn))]
  rfl

/-- The batching skeleton of `fit` on valid hyper-parameters: `max_iter` epochs, `n_iter_ = max_iter`,
    `max_iter * ⌈n/bs⌉` optimiser steps, the epochs being the batchings of the successive permutations. -/
theorem fitRun_valid (n : Nat) (maxIter bs : Int) (hmi : 1 ≤ maxIter) (hbs : 1 ≤ bs) (perms : Nat → List Nat)
    (hlen : ∀ i, (perms i).length = n) :
    ∃ tr, fitRun false n maxIter (some bs) perms = .ok tr
      ∧ tr.nIter = maxIter.toNat
      ∧ tr.epochs = (List.range maxIter.toNat).map (fun i => batchify (perms i) (some bs.toNat))
      ∧ tr.steps = maxIter.toNat * ((n + bs.toNat - 1) / bs.toNat) := by
  have hv : paramsValid maxIter (some bs) = true := paramsValid_iff.2 ⟨hmi, fun b hb => Option.some.inj hb ▸ hbs⟩
  refine ⟨_, fitRun_of_valid hv false n perms, rfl, rfl, ?_⟩
  -- `tr.steps` counts the flattened epochs, which are `fitSteps`
  rw [← fit_step_count maxIter.toNat n bs.toNat (by omega) perms fun i _ => hlen i]
  exact congrArg List.length (List.flatMap_def ..).symm

/-- Hyper-parameters outside `_parameter_constraints` (`batch_size < 1` or `max_iter < 1`) are rejected, not defaulted. -/
theorem fitRun_rejects (cat : Bool) (n : Nat) (maxIter : Int) (bs : Option Int) (perms : Nat → List Nat)
    (h : maxIter < 1 ∨ ∃ b, bs = some b ∧ b < 1) :
    fitRun cat n maxIter bs perms = .error "InvalidParameterError" := by
  refine fitRun_of_invalid (Bool.eq_false_iff.2 fun hv => ?_) cat n perms
  obtain ⟨hmi, hbs⟩ := paramsValid_iff.1 hv
  rcases h with h | ⟨b, rfl, hb⟩
  · omega
  · have := hbs b rfl
    omega

/-- `CategoricalModel._batchify` yields exactly one pair: the whole data and the whole affinity (or `None`). -/
theorem categorical_full {β α : Type} (X : List β) (A : Option (Mat α)) :
    batchifyCategorical X A = [⟨X, A⟩] := rfl

/-- A categorical `fit`: every epoch is the single batch `0, …, n-1`; `max_iter` optimiser steps; `n_iter_ = max_iter`. -/
theorem categorical_fit (n : Nat) (maxIter : Int) (hmi : 1 ≤ maxIter) (perms : Nat → List Nat) :
    ∃ tr, fitRun true n maxIter none perms = .ok tr
      ∧ tr.nIter = maxIter.toNat ∧ tr.steps = maxIter.toNat
      ∧ tr.epochs = List.replicate maxIter.toNat [List.range n] := by
  have hv : paramsValid maxIter none = true := paramsValid_iff.2 ⟨hmi, fun _ hb => nomatch hb⟩
  refine ⟨_, fitRun_of_valid hv true n perms, rfl, ?_, ?_⟩
  · simp
  · apply List.ext_getElem <;> simp

set_option linter.unusedVariables false in
/-- Data-wise the decorated `_batchify` yields exactly what the plain one yields.  (`hbs` is not used:
    `batchifyDecorated_eq` holds for every batch size, `None` included.) -/
theorem decorated_eq_plain {β α : Type} [Inhabited β] [Inhabited α] (X : List β) (A : Option (Mat α))
    (perm : List Nat) (bs : Nat) (hbs : 0 < bs) (hperm : ∀ i ∈ perm, i < X.length) :
    (batchifyDecorated X A perm (some bs)).map (fun b => (⟨b.data, b.aff⟩ : Batch β α))
      = batchifyData X A perm (some bs) := by
  rw [batchifyDecorated_eq X A perm _ hperm, batchifyData, List.map_map]
  rfl

set_option linter.unusedVariables false in
/-- `_batchify.indices` at the `k`-th yield is exactly the list of true sample indices of the `k`-th batch.  (`hbs` is
    not used, as above.) -/
theorem decorated_records {β α : Type} [Inhabited β] [Inhabited α] (X : List β) (A : Option (Mat α))
    (perm : List Nat) (bs : Nat) (hbs : 0 < bs) (hperm : ∀ i ∈ perm, i < X.length) :
    (batchifyDecorated X A perm (some bs)).map (·.recorded) = batchify perm (some bs) := by
  rw [batchifyDecorated_eq X A perm _ hperm, List.map_map]
  exact List.map_id _

/-- The same two facts for `batch_size = None`. -/
theorem decorated_none {β α : Type} [Inhabited β] [Inhabited α] (X : List β) (A : Option (Mat α))
    (perm : List Nat) (hperm : ∀ i ∈ perm, i < X.length) :
    (batchifyDecorated X A perm none).map (fun b => (⟨b.data, b.aff⟩ : Batch β α)) = batchifyData X A perm none
    ∧ (batchifyDecorated X A perm none).map (·.recorded) = batchify perm none := by
  rw [batchifyDecorated_eq X A perm _ hperm, batchifyData, List.map_map, List.map_map]
  exact ⟨rfl, List.map_id _⟩

/-- A decorated categorical model still sees the full data and affinity, and records all indices `0 … n-1`. -/
theorem decorated_categorical {β α : Type} [Inhabited β] (X : List β) (A : Option (Mat α)) :
    batchifyCategoricalDecorated X A = [⟨X, A, List.range X.length⟩] := by
  simp [batchifyCategoricalDecorated, decorate, batchifyCategorical, gather_range_self]

/-- The validation blocks concatenate to `0, 1, …, n-1`: consecutive, disjoint, covering. -/
theorem valBlocks_concat (n bs : Nat) (hbs : 0 < bs) : (valBlocks n bs).flatten = List.range n := by
  rw [valBlocks_eq n hbs, batchLoop_flatten, List.drop_zero]

/-- There are `⌈n/bs⌉` validation blocks and the `k`-th one is the interval `[k·bs, min((k+1)·bs, n))`. -/
theorem valBlocks_get (n bs : Nat) (hbs : 0 < bs) :
    (valBlocks n bs).length = (n + bs - 1) / bs ∧
    ∀ k, k < (n + bs - 1) / bs → (valBlocks n bs)[k]? = some (List.range' (k * bs) (min bs (n - k * bs))) := by
  rw [valBlocks_eq n hbs]
  refine ⟨by rw [batchLoop_length, List.length_range, Nat.sub_zero], fun k hk => ?_⟩
  rw [batchLoop_getElem?, List.length_range, Nat.zero_add, if_pos ((lt_ceilDiv_iff n bs k hbs).1 hk),
    range_drop_take]

/-- With a user-supplied `n × n` affinity `y`, the pairs evaluated by `compute_val_score` are the data rows and the
    rows-and-columns block of `y` for those same consecutive indices. -/
theorem valBatches_spec {β α : Type} [Inhabited β] [Inhabited α] (X : List β) (y : Mat α) (bs : Nat)
    (hy : y.length = X.length) (hrow : ∀ r ∈ y, r.length = X.length) :
    valBatches X y bs = (valBlocks X.length bs).map (mkBatch X (some y)) := by
  by_cases hbs : 0 < bs
  · rw [valBatches_eq X y hbs, valBlocks_eq _ hbs]
    exact valLoop_eq X y bs hbs hy hrow 0
  · rw [valBatches, valBlocks, dif_neg hbs, dif_neg hbs]
    rfl

/-- `_path` validates with `batch_size`, or `n` when it is `None`; this is the block structure of the training batches
    of the identity permutation. -/
theorem valBlocks_eq_batchify (n : Nat) (bs : Option Nat) (hbs : ∀ b, bs = some b → 0 < b) :
    valBlocks n (pathBatchSize n bs) = batchify (List.range n) bs := by
  cases bs with
  | none =>
    -- `None ↦ len(X)` on both sides, which then are the same loop
    show valBlocks n n = batchify (List.range n) (some (List.range n).length)
    rw [List.length_range]
    rfl
  | some b => exact (valBlocks_eq n (hbs b rfl)).trans (batchify_some _ (hbs b rfl)).symm

/-! Non-vacuity: the statements on concrete data. -/

/-- 5 samples, batch size 2: three batches, the last one partial. -/
example : batchify [3, 1, 4, 0, 2] (some 2) = [[3, 1], [4, 0], [2]] := by
  rw [batchify_some _ (by decide), batchLoop_of_lt _ (by decide), batchLoop_of_lt _ (by decide),
    batchLoop_of_lt _ (by decide), batchLoop_of_ge _ (by decide)]
  rfl

example : [3, 1, 4, 0, 2].Perm (List.range 5) := by decide

example : batchify [3, 1, 4, 0, 2] none = [[3, 1, 4, 0, 2]] := batchify_none _ (by decide)

example : batchify [3, 1, 4, 0, 2] (some 7) = [[3, 1, 4, 0, 2]] := batchify_large _ 7 (by decide) (by decide)

/-- a non-symmetric affinity: rows and columns both follow the batch order -/
example : block [[0, 1, 2], [10, 11, 12], [20, 21, 22]] [2, 0] = [[22, 20], [2, 0]] := by decide

example : batchifyDecorated ["a", "b", "c"] (some [[0, 1, 2], [10, 11, 12], [20, 21, 22]]) [2, 0, 1] (some 2)
    = [⟨["c", "a"], some [[22, 20], [2, 0]], [2, 0]⟩, ⟨["b"], some [[11]], [1]⟩] := by
  have e : batchify [2, 0, 1] (some 2) = [[2, 0], [1]] := by
    rw [batchify_some _ (by decide), batchLoop_of_lt _ (by decide), batchLoop_of_lt _ (by decide),
      batchLoop_of_ge _ (by decide)]
    rfl
  rw [batchifyDecorated, decorate, batchifyData, e]
  decide

example : valBlocks 5 2 = [[0, 1], [2, 3], [4]] := by
  rw [valBlocks_eq 5 (by decide), batchLoop_of_lt _ (by decide), batchLoop_of_lt _ (by decide),
    batchLoop_of_lt _ (by decide), batchLoop_of_ge _ (by decide)]
  rfl

example : valBatches ["a", "b", "c"] [[0, 1, 2], [10, 11, 12], [20, 21, 22]] 2
    = [⟨["a", "b"], some [[0, 1], [10, 11]]⟩, ⟨["c"], some [[22]]⟩] := by
  simp [valBatches, valLoop, slice, sliceBlock]

example : fitRun false 3 2 (some 2) (fun i => if i = 0 then [2, 0, 1] else [1, 2, 0])
    = .ok ⟨[[[2, 0], [1]], [[1, 2], [0]]], 4, 2⟩ := by
  have e : ∀ a b c : Nat, batchify [a, b, c] (some 2) = [[a, b], [c]] := fun a b c => by
    rw [batchify_some _ (by decide), batchLoop_of_lt _ (Nat.zero_lt_succ 2), batchLoop_of_lt _ (Nat.lt_succ_self 2),
      batchLoop_of_ge _ (Nat.le_succ 3)]
    rfl
  simp [fitRun, paramsValid, List.range_succ, e]

example : fitRun false 3 2 (some 0) (fun _ => [2, 0, 1]) = .error "InvalidParameterError" :=
  fitRun_of_invalid rfl _ _ _

end GemVerif.Props.C10
