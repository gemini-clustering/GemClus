/-
  C15 — Douglas: masked features are inert, the soft bins are probability vectors, the cell of a
  sample is the number of cut points below it, active points are as defined.
  Model: `GemVerif/Model/Douglas.lean` (tied to `gemclus/tree/douglas.py` by the correspondence run).

  Vocabulary.  `cl : List (ℕ × List α)` is `cut_points_list_` (feature index, cut points as stored),
  `binning T x cuts` the membership row of `_leaf_binning`, `leafRow T x cl` the row of `self._leaf`,
  `inferRow T x cl S` the row of `_infer` / `predict_proba`, `usedFeatures mask d` the features that
  receive cut points in `_init_params`, `numLeaf` the height of `leaf_scores_`.
-/
import GemVerif.Lemmas.DouglasLimit
import GemVerif.Lemmas.DouglasActive

namespace GemVerif.Props.C15
open scoped Topology
open Model.Douglas GemVerif.Douglas Filter

/-- `_infer` reads the data through the feature indices of `cut_points_list_` only: two samples that
    agree on those features get the same prediction.  Holds for every number type, in particular
    bit for bit on IEEE doubles. -/
theorem infer_reads_used_only {α : Type} [RealLike α] {d L K : ℕ} (T : α) (x x' : Fin d → α)
    (cl : List (ℕ × List α)) (S : Fin L → Fin K → α)
    (h : ∀ z ∈ cl, ∀ hf : z.1 < d, x ⟨z.1, hf⟩ = x' ⟨z.1, hf⟩) :
    inferRow T x cl S = inferRow T x' cl S := by
  have hb : binnings T x cl = binnings T x' cl := List.map_congr_left fun z hz => by
    have hx : xget x z.1 = xget x' z.1 := by
      by_cases hf : z.1 < d
      · rw [xget_of_lt x hf, xget_of_lt x' hf]
        exact h z hz hf
      · rw [xget_of_not_lt x hf, xget_of_not_lt x' hf]
    rw [hx]
  unfold inferRow leafRow
  rw [hb]

/-- `_init_params` gives cut points to the positions where `feature_mask` is `True`, and to no other. -/
theorem used_features_mem {m : List Bool} {d : ℕ} {u : List ℕ} (h : usedFeatures (some m) d = some u) (f : ℕ) :
    f ∈ u ↔ f < d ∧ m.getD f false = true := by
  obtain ⟨_, rfl⟩ := usedFeatures_some h
  simp [List.mem_filter]

/-- Masked features are inert: with a `feature_mask`, changing the data on features where the mask is
    `False` never changes `predict_proba`, whatever the values of the cut points and leaf scores
    (`cl` has the feature indices `_init_params` built).  For every number type. -/
theorem unused_inert {α : Type} [RealLike α] {n d L K : ℕ} (T : α) {m : List Bool} {u : List ℕ}
    (hu : usedFeatures (some m) d = some u) (cl : List (ℕ × List α)) (hcl : cl.map Prod.fst = u)
    (S : Fin L → Fin K → α) (X X' : Fin n → Fin d → α)
    (h : ∀ i (f : Fin d), m.getD f.val false = true → X i f = X' i f) :
    infer T X cl S = infer T X' cl S := by
  funext i
  refine infer_reads_used_only T (X i) (X' i) cl S fun z hz hf => h i ⟨z.1, hf⟩ ?_
  have : z.1 ∈ u := hcl ▸ List.mem_map_of_mem hz
  exact ((used_features_mem hu z.1).mp this).2

/-- A mask whose length differs from the number of features is rejected (`ValueError`), and only then. -/
theorem mask_length_check (m : List Bool) (d : ℕ) : usedFeatures (some m) d = none ↔ m.length ≠ d := by
  unfold usedFeatures
  simp only
  split
  · rename_i h; simpa using h
  · rename_i h; simpa using h

/-- The number of used features is the number of `True` entries of the mask (all features without one). -/
theorem used_features_count {d : ℕ} :
    (∀ u, usedFeatures none d = some u → u.length = d) ∧
    (∀ (m : List Bool) u, usedFeatures (some m) d = some u → u.length = m.count true) := by
  refine ⟨fun u h => ?_, fun m u h => ?_⟩
  · simp only [usedFeatures, Option.some.injEq] at h
    subst h
    simp
  · obtain ⟨hlen, rfl⟩ := usedFeatures_some h
    subst hlen
    exact filter_range_length m

/-- Leaf count: with `n_cuts` cut points on each of the used features, every row of `self._leaf` has
    `(n_cuts + 1) ^ (number of used features)` entries, which is the height `num_leaf` given to
    `leaf_scores_` by `_init_params`. -/
theorem leaf_count {d nCuts : ℕ} {mask : Option (List Bool)} {u : List ℕ} (hu : usedFeatures mask d = some u)
    {cl : List (ℕ × List ℝ)} (hcl : cl.map Prod.fst = u) (hcuts : ∀ z ∈ cl, z.2.length = nCuts)
    {T : ℝ} {x : Fin d → ℝ} {leaf : List ℝ} (h : leafRow T x cl = some leaf) :
    leaf.length = (nCuts + 1) ^ u.length ∧ numLeaf nCuts mask d = some leaf.length := by
  have hlen : leaf.length = (nCuts + 1) ^ u.length := by
    rw [leafRow_length h, List.prod_eq_pow_card _ (nCuts + 1) (List.forall_mem_map.mpr fun z hz => by rw [hcuts z hz]),
      ← hcl, List.length_map, List.length_map]
  exact ⟨hlen, by rw [hlen]; exact numLeaf_eq hu⟩

/-- `_infer` accepts exactly the `leaf_scores_` with one row per leaf. -/
theorem infer_accepts_iff {d L K : ℕ} (T : ℝ) (x : Fin d → ℝ) {cl : List (ℕ × List ℝ)} (hne : cl ≠ [])
    (hr : ∀ z ∈ cl, z.1 < d) (S : Fin L → Fin K → ℝ) :
    (∃ p, inferRow T x cl S = some p) ↔ L = (cl.map fun z => z.2.length + 1).prod := by
  obtain ⟨leaf, hleaf⟩ := leafRow_isSome T x hne hr
  have hlen := leafRow_length hleaf
  unfold inferRow
  rw [hleaf]
  simp only
  constructor
  · rintro ⟨p, hp⟩
    split at hp
    · rename_i h; rw [← h, hlen]
    · exact absurd hp (by simp)
  · intro h
    exact ⟨_, if_pos (by rw [hlen, h])⟩

/-- Per-feature soft binning: `n_cuts + 1` memberships, each positive, summing to one — for every
    temperature, every value and every cut vector (sorted or not). -/
theorem binning_prob (T x : ℝ) (cuts : List ℝ) :
    (binning T x cuts).length = cuts.length + 1 ∧ (∀ p ∈ binning T x cuts, 0 < p) ∧ (binning T x cuts).sum = 1 :=
  ⟨binning_length T x cuts, binning_isProb T x cuts⟩

/-- The Kronecker product of two probability vectors is a probability vector, laid out as
    `np.einsum("ij,ik->ijk").reshape`: entry `j · len(b) + k` is `a[j] · b[k]`. -/
theorem kron_prob {a b : List ℝ} (ha : (∀ p ∈ a, 0 < p) ∧ a.sum = 1) (hb : (∀ p ∈ b, 0 < p) ∧ b.sum = 1) :
    ((∀ p ∈ kron a b, 0 < p) ∧ (kron a b).sum = 1) ∧ (kron a b).length = a.length * b.length ∧
      ∀ j k, j < a.length → k < b.length → (kron a b).getD (j * b.length + k) 0 = a.getD j 0 * b.getD k 0 :=
  ⟨IsProb.kron ha hb, kron_length a b, fun _ _ hj hk => kron_getD a b hj hk⟩

/-- The leaf memberships of a sample (row of `self._leaf`) are positive and sum to one, for every
    temperature. -/
theorem leaf_prob {d : ℕ} {T : ℝ} {x : Fin d → ℝ} {cl : List (ℕ × List ℝ)} {leaf : List ℝ}
    (h : leafRow T x cl = some leaf) : (∀ p ∈ leaf, 0 < p) ∧ leaf.sum = 1 :=
  leafRow_isProb h

/-- `_infer` succeeds on every non-empty `cut_points_list_` whose feature indices address the data
    (so the hypotheses `leafRow … = some leaf` above are satisfiable for every such input). -/
theorem leaf_defined {d : ℕ} (T : ℝ) (x : Fin d → ℝ) {cl : List (ℕ × List ℝ)} (hne : cl ≠ [])
    (hr : ∀ z ∈ cl, z.1 < d) : ∃ leaf, leafRow T x cl = some leaf :=
  leafRow_isSome T x hne hr

/-- `cut_points[np.argsort(cut_points)]` is the sorted rearrangement of the cut points, and the returned
    order is a permutation of the positions. -/
theorem sorted_cuts_spec (cuts : List ℝ) :
    (sortedCuts cuts).Perm cuts ∧ (sortedCuts cuts).Pairwise (· ≤ ·) ∧ (argsort cuts).Perm (List.range cuts.length) :=
  ⟨sortedCuts_perm cuts, sortedCuts_sorted cuts, argsort_perm cuts⟩

/-- `logit_{j+1} − logit_j = x − c_(j+1)` where `c_(1) ≤ … ≤ c_(n)` are the sorted cut points. -/
theorem logit_step (x : ℝ) (cuts : List ℝ) (j : ℕ) (hj : j < cuts.length) :
    (logits x cuts).getD (j + 1) 0 - (logits x cuts).getD j 0 = x - (sortedCuts cuts).getD j 0 := by
  have h1 : j + 1 < (logits x cuts).length := by rw [logits_length]; omega
  have h0 : j < (logits x cuts).length := by omega
  have hs : j < (sortedCuts cuts).length := by rw [sortedCuts_length]; exact hj
  simp only [List.getD_eq_getElem?_getD, List.getElem?_eq_getElem h1, List.getElem?_eq_getElem h0,
    List.getElem?_eq_getElem hs, Option.getD_some, logits_getElem]
  exact lg_succ_sub x _ j hs

/-- Arg-max bin, for every temperature `T > 0`: when `x` equals no cut point, the bin with the strictly
    largest membership is bin number `#{cut points strictly below x}` — whatever the order in which
    the cut points are stored. -/
theorem argmax_bin {T x : ℝ} (hT : 0 < T) (cuts : List ℝ) (hx : ∀ c ∈ cuts, x ≠ c) {j : ℕ}
    (hj : j ≤ cuts.length) (hne : j ≠ cuts.countP fun c => decide (c < x)) :
    (binning T x cuts).getD j 0 < (binning T x cuts).getD (cuts.countP fun c => decide (c < x)) 0 := by
  obtain ⟨g, hg0, hg⟩ := exists_gap x cuts hx
  have hlt : lg x (sortedCuts cuts) j < lg x (sortedCuts cuts) (cell x cuts) := by
    linear_combination lg_gap_cuts hg hg0.le hj hne + hg0
  show memb T x cuts j < memb T x cuts (cell x cuts)
  rw [memb_eq T x cuts hj, memb_eq T x cuts (cell_le_length x cuts)]
  exact div_lt_div_of_pos_right (Real.exp_lt_exp.mpr (div_lt_div_of_pos_right hlt hT)) (Z_pos _ _ _)

/-- Quantitative bound: if every cut point is at distance at least `gap ≥ 0` from `x`, the bin of the
    cell holds at least `1 − n_cuts · exp(−gap / T)`, and every other bin at most `exp(−gap / T)`. -/
theorem cell_bin_bound {T x gap : ℝ} (hT : 0 < T) (hgap : 0 ≤ gap) (cuts : List ℝ)
    (hg : ∀ c ∈ cuts, gap ≤ |x - c|) :
    1 - cuts.length * Real.exp (-gap / T) ≤ (binning T x cuts).getD (cuts.countP fun c => decide (c < x)) 0 ∧
    ∀ j ≤ cuts.length, j ≠ cuts.countP (fun c => decide (c < x)) →
      (binning T x cuts).getD j 0 ≤ Real.exp (-gap / T) :=
  ⟨memb_cell_ge hT hg hgap, fun _ hj hne => memb_other_le hT hg hgap hj hne⟩

/-- Limit: as `T → 0⁺` the membership of the cell's bin tends to 1 (and every other one to 0). -/
theorem cell_bin_tendsto {x : ℝ} (cuts : List ℝ) (hx : ∀ c ∈ cuts, x ≠ c) :
    Tendsto (fun T : ℝ => (binning T x cuts).getD (cuts.countP fun c => decide (c < x)) 0) (𝓝[>] 0) (𝓝 1) ∧
    ∀ j ≤ cuts.length, j ≠ cuts.countP (fun c => decide (c < x)) →
      Tendsto (fun T : ℝ => (binning T x cuts).getD j 0) (𝓝[>] 0) (𝓝 0) := by
  obtain ⟨g, hg0, hg⟩ := exists_gap x cuts hx
  refine ⟨?_, fun j hj hne => ?_⟩
  · exact tendsto_one_of_exp_bound hg0 (fun T hT => memb_cell_ge hT hg hg0.le) fun T => memb_le_one T x cuts _
  · refine squeeze_zero' (Eventually.of_forall fun T => (memb_pos T x cuts hj).le) ?_ (tendsto_exp_neg_div hg0)
    filter_upwards [self_mem_nhdsWithin] with T hT
    exact memb_other_le hT hg hg0.le hj hne

/-- The binning depends on the multiset of cut points only: permuting `cut_points` changes nothing. -/
theorem binning_perm_invariant (T x : ℝ) {c₁ c₂ : List ℝ} (h : c₁.Perm c₂) :
    binning T x c₁ = binning T x c₂ := by
  simp only [binning, logits, bias, sortedCuts_congr h, h.length_eq]

/-- … and so does the whole prediction: permuting the cut points of any feature changes nothing. -/
theorem infer_perm_invariant {d L K : ℕ} (T : ℝ) (x : Fin d → ℝ) (S : Fin L → Fin K → ℝ)
    {cl₁ cl₂ : List (ℕ × List ℝ)} (h : List.Forall₂ (fun z w => z.1 = w.1 ∧ z.2.Perm w.2) cl₁ cl₂) :
    inferRow T x cl₁ S = inferRow T x cl₂ S := by
  have h2 : binnings T x cl₁ = binnings T x cl₂ ∧ inRange d cl₁ = inRange d cl₂ := by
    induction h with
    | nil => exact ⟨rfl, rfl⟩
    | cons hzw _ ih =>
      simp only [binnings, inRange, List.map_cons, List.all_cons] at ih ⊢
      rw [ih.1, ih.2, hzw.1, binning_perm_invariant T _ hzw.2]
      exact ⟨rfl, rfl⟩
  simp only [inferRow, leafRow, h2.1, h2.2]

/-- The leaf whose index is the mixed-radix number of the per-feature cells holds the product of the
    memberships of those cells; hence at least `1 − (Σ_f n_cuts_f) · exp(−gap / T)`. -/
theorem leaf_cell_bound {d : ℕ} {T gap : ℝ} (hT : 0 < T) (hgap : 0 ≤ gap) {x : Fin d → ℝ}
    {cl : List (ℕ × List ℝ)} (hg : ∀ z ∈ cl, ∀ c ∈ z.2, gap ≤ |xget x z.1 - c|) {leaf : List ℝ}
    (h : leafRow T x cl = some leaf) :
    leaf.getD (leafIndex x cl) 0
        = (cl.map fun z => (binning T (xget x z.1) z.2).getD (z.2.countP fun c => decide (c < xget x z.1)) 0).prod ∧
    1 - ((cl.map fun z => z.2.length).sum : ℕ) * Real.exp (-gap / T) ≤ leaf.getD (leafIndex x cl) 0 :=
  ⟨leafRow_cell h, leafRow_cell_ge hT hgap hg h⟩

/-- The index of the cell's leaf depends on the sample only through its cell along each used feature
    (how many cut points lie below its value). -/
theorem leafIndex_of_cells {d : ℕ} (x x' : Fin d → ℝ) (cl : List (ℕ × List ℝ))
    (h : ∀ z ∈ cl, (z.2.countP fun c => decide (c < xget x z.1)) = z.2.countP fun c => decide (c < xget x' z.1)) :
    leafIndex x cl = leafIndex x' cl := by
  unfold leafIndex
  congr 1
  exact List.map_congr_left fun z hz => by simp only [cell, h z hz]

/-- As `T → 0⁺`, the prediction of a sample that lies on no cut point tends to the soft-max of the score
    row of its cell's leaf — a value that depends on the cell only. -/
theorem infer_tendsto {d L K : ℕ} (x : Fin d → ℝ) {cl : List (ℕ × List ℝ)} (S : Fin L → Fin K → ℝ)
    (hne : cl ≠ []) (hr : ∀ z ∈ cl, z.1 < d) (hL : L = (cl.map fun z => z.2.length + 1).prod)
    (hx : ∀ z ∈ cl, ∀ c ∈ z.2, xget x z.1 ≠ c) (k : Fin K) :
    Tendsto (fun T : ℝ => ((inferRow T x cl S).getD []).getD k.val 0) (𝓝[>] 0)
      (𝓝 (Real.exp (S ⟨leafIndex x cl, hL ▸ leafIndex_lt x cl⟩ k)
            / ∑ k', Real.exp (S ⟨leafIndex x cl, hL ▸ leafIndex_lt x cl⟩ k'))) := by
  choose leaf hleaf using fun T => leafRow_isSome T x hne hr
  have hsc := score_tendsto x S hleaf hx hL
  have hnum := (Real.continuous_exp.tendsto _).comp (hsc k)
  have hden := tendsto_finsetSum (Finset.univ : Finset (Fin K)) fun k' _ =>
    (Real.continuous_exp.tendsto _).comp (hsc k')
  refine (hnum.div hden (sum_exp_pos _ k).ne').congr fun T => ?_
  rw [inferRow_getD (hleaf T) (by rw [leafRow_length (hleaf T), hL]) S k, softmaxRow_eq]
  rfl

/-- Predictions become constant inside each cell of the grid drawn by the cut points: two samples with
    the same number of cut points below their value along every used feature (and on no cut point)
    have predictions whose difference tends to 0 as `T → 0⁺`. -/
theorem infer_same_cell {d L K : ℕ} (x x' : Fin d → ℝ) {cl : List (ℕ × List ℝ)} (S : Fin L → Fin K → ℝ)
    (hne : cl ≠ []) (hr : ∀ z ∈ cl, z.1 < d) (hL : L = (cl.map fun z => z.2.length + 1).prod)
    (hx : ∀ z ∈ cl, ∀ c ∈ z.2, xget x z.1 ≠ c) (hx' : ∀ z ∈ cl, ∀ c ∈ z.2, xget x' z.1 ≠ c)
    (hcell : ∀ z ∈ cl, (z.2.countP fun c => decide (c < xget x z.1)) = z.2.countP fun c => decide (c < xget x' z.1))
    (k : Fin K) :
    Tendsto (fun T : ℝ => ((inferRow T x cl S).getD []).getD k.val 0 - ((inferRow T x' cl S).getD []).getD k.val 0)
      (𝓝[>] 0) (𝓝 0) := by
  have h1 := infer_tendsto x S hne hr hL hx k
  have h2 := infer_tendsto x' S hne hr hL hx' k
  have he : leafIndex x cl = leafIndex x' cl := leafIndex_of_cells x x' cl hcell
  simp only [he] at h1
  have h := h1.sub h2
  rwa [sub_self] at h

/-- `find_active_points` as repaired in the source (DESIGN §19, F08; `activeFixed`: some cut point strictly between
    the smallest and the largest value of the feature) returns exactly the features of `cut_points_list_` that have a
    cut point strictly inside the range taken by that feature in the data, in the order of the list. -/
theorem activeFixed_iff_spec {n d : ℕ} (hn : 0 < n) (X : Fin n → Fin d → ℝ) (cl : List (ℕ × List ℝ))
    (hlen : cl.length ≤ d) (hr : ∀ z ∈ cl, z.1 < d) :
    ∃ r, activeFixed X cl = some r ∧ r.Sublist (cl.map Prod.fst) ∧
      ∀ f, f ∈ r ↔ ∃ z ∈ cl, z.1 = f ∧ ∃ c ∈ z.2, (∃ i, xget (X i) z.1 < c) ∧ (∃ i, c < xget (X i) z.1) := by
  classical
  refine ⟨(cl.filter fun z => decide (∃ c ∈ z.2, (∃ i, xget (X i) z.1 < c) ∧ (∃ i, c < xget (X i) z.1))).map Prod.fst,
    ?_, (List.filter_sublist).map _, fun f => ?_⟩
  · rw [activeFixed, activeWith, if_neg (by omega), if_neg (by omega)]
    refine activeLoop_eq_filter X _ cl fun z hz => ⟨hr z hz, ?_⟩
    obtain ⟨b, hb, hspec⟩ := testFixed_spec hn (fun i => X i ⟨z.1, hr z hz⟩) z.2
    rw [hb, Option.some.injEq, Bool.eq_iff_iff, hspec, decide_eq_true_iff]
    simp only [xget_of_lt _ (hr z hz)]
  · simp only [List.mem_map, List.mem_filter, decide_eq_true_eq]
    exact ⟨fun ⟨z, ⟨hz, hs⟩, hf⟩ => ⟨z, hz, hf, hs⟩, fun ⟨z, hz, hf, hs⟩ => ⟨z, ⟨hz, hs⟩, hf⟩⟩

/-- "Strictly inside the range taken by the feature" in terms of the smallest and largest observed
    values: `min_i X_if < c < max_i X_if`. -/
theorem spec_iff_min_max {n : ℕ} (hne : (Finset.univ : Finset (Fin n)).Nonempty) (col : Fin n → ℝ) (c : ℝ) :
    ((∃ i, col i < c) ∧ (∃ i, c < col i)) ↔
      Finset.univ.inf' hne col < c ∧ c < Finset.univ.sup' hne col := by
  simp only [Finset.inf'_lt_iff, Finset.lt_sup'_iff, Finset.mem_univ, true_and]

/-- What the source rejects is rejected: no sample, fewer columns than entries in `cut_points_list_`,
    a feature index outside the data. -/
theorem active_rejects {n d : ℕ} (X : Fin n → Fin d → ℝ) (cl : List (ℕ × List ℝ))
    (h : n = 0 ∨ d < cl.length ∨ ∃ z ∈ cl, d ≤ z.1) :
    activeFixed X cl = none ∧ activeCurrent X cl = none := by
  unfold activeFixed activeCurrent activeWith
  rcases h with h | h | h
  · simp [h]
  · by_cases hn : n = 0
    · simp [hn]
    · simp [hn, h]
  · simp only [activeLoop_none _ X cl h]
    constructor <;> split_ifs <;> rfl

/-- The test of the source before the repair (`activeCurrent`: `not (all(x ≤ min cut) or all(x ≥ max cut))`) does not
    meet the specification once a feature has two cut points: with cut points `{-10, 10}` and data `{-2, 2}`
    no cut point is inside the data range, yet the feature is reported active.  (Exact rationals.) -/
theorem activeCurrent_ne_spec :
    activeCurrent (α := Rat) (n := 2) (d := 1) (fun i _ => if i.val = 0 then -2 else 2) [(0, [-10, 10])] = some [0] ∧
    activeFixed (α := Rat) (n := 2) (d := 1) (fun i _ => if i.val = 0 then -2 else 2) [(0, [-10, 10])] = some [] := by
  decide

/-- The same counterexample over ℝ, against the specification itself: feature 0 is returned by
    `activeCurrent` although no cut point lies strictly between two observed values. -/
theorem activeCurrent_ne_spec_real :
    ∃ (X : Fin 2 → Fin 1 → ℝ) (cl : List (ℕ × List ℝ)),
      activeCurrent X cl = some [0] ∧
      ¬ ∃ z ∈ cl, z.1 = 0 ∧ ∃ c ∈ z.2, (∃ i, xget (X i) z.1 < c) ∧ (∃ i, c < xget (X i) z.1) := by
  refine ⟨fun i _ => if i.val = 0 then -2 else 2, [(0, [-10, 10])], ?_, ?_⟩
  · simp [activeCurrent, activeWith, activeLoop, testCurrent, minL?, maxL?, colAll, List.finRange_succ]
    norm_num
  · rintro ⟨z, hz, -, c, hc, ⟨i, hi⟩, ⟨j, hj⟩⟩
    rw [List.mem_singleton] at hz
    subst hz
    simp only [xget_of_lt _ Nat.zero_lt_one] at hi hj
    simp only [List.mem_cons, List.not_mem_nil, or_false] at hc
    rcases hc with rfl | rfl
    · split_ifs at hi <;> norm_num at hi
    · split_ifs at hj <;> norm_num at hj

/-- With a single cut point per feature (the default `n_cuts = 1`) the test before the repair and the repaired
    one agree: the defect needs at least two cut points. -/
theorem activeCurrent_single_cut {n : ℕ} (hn : 0 < n) (col : Fin n → ℝ) (c : ℝ) :
    testCurrent col [c] = testFixed col [c] := by
  obtain ⟨b, hb, hspec⟩ := testFixed_spec hn col [c]
  rw [hb]
  simp only [testCurrent, minL?, maxL?, List.foldl_nil, Option.some.injEq]
  rw [Bool.eq_iff_iff, hspec]
  simp only [Bool.not_eq_true', Bool.or_eq_false_iff, colAll_eq_false, RealLike.le_real, decide_eq_false_iff_not,
    not_le, List.mem_singleton, exists_eq_left]
  exact and_comm

end GemVerif.Props.C15
