/-
  C12 — fitting is reproducible, history-independent and free of side effects.
  Table theorems are decided by the kernel over the whole translated table
  `Gen.frameTables` (regenerated from /repo on every run by `translator/frames.py`); the semantic theorem
  `history_independence` instantiates `Lemmas.Frames.frame_determinism` with them.

  Partial: what ties the table to the code (soundness of the static dataflow extraction, determinism of numpy/BLAS/POT
  for an integer `random_state`, no mutation through aliases) is the hypothesis `Sound` — trusted, and validated
  dynamically by `harness/props/c12.py`.  Caller-side arrays are outside the store model altogether (checked
  dynamically only).
-/
import GemVerif.Lemmas.Frames
import GemVerif.Gen.Frames

namespace GemVerif.Props.C12
open GemVerif.Model.Frames GemVerif.Lemmas.Frames GemVerif.Gen

/-- Every table fact of this file as one decidable proposition, for one kernel evaluation (`checked_by_class`).  The
    tests that run through the frames go class by class (`Lemmas.Frames.byClass`), so that the configuration and the
    frames of a class are looked up once for all of them.  The theorems below are its consequences, each through the
    lemma of `Lemmas/Frames.lean` that relates the class-by-class test to the checker of `Model/Frames.lean`. -/
structure CheckedByClass : Prop where
  /-- every frame's class is listed -/
  framesListed : ∀ f ∈ frameTables.frames, f.cls ∈ frameTables.classes
  complete : completeByClass frameTables = true
  restoredRead : restoredAreRead frameTables = true
  /-- a fitting method reads, before writing, configuration attributes only -/
  fittingReads : configRel subset (·.reads) fittingMethods.contains frameTables = true
  /-- no method but the constructor leaves a configuration attribute changed, whether it returns or raises -/
  noNetWrite : configRel disjoint (fun f => f.net ++ f.netExc) (· != "__init__") frameTables = true
  /-- these five methods assign no configuration attribute at all, not even temporarily -/
  noWrite :
    configRel disjoint (·.writes) ["fit", "fit_predict", "predict", "predict_proba", "score"].contains frameTables = true
  initIdentity : initIdentity frameTables = true
  /-- every constructor store's class is listed -/
  initListed : ∀ s ∈ frameTables.init, s.cls ∈ frameTables.classes
  observers : observersReadModelByClass frameTables = true

instance : Decidable CheckedByClass :=
  decidable_of_iff (_ ∧ _ ∧ _ ∧ _ ∧ _ ∧ _ ∧ _ ∧ _ ∧ _)
    ⟨fun ⟨a, b, c, d, e, f, g, h, i⟩ => ⟨a, b, c, d, e, f, g, h, i⟩,
     fun h => ⟨h.framesListed, h.complete, h.restoredRead, h.fittingReads, h.noNetWrite, h.noWrite, h.initIdentity,
       h.initListed, h.observers⟩⟩

/-- The translated frame table passes every class-by-class test (`CheckedByClass`), by one kernel evaluation. -/
theorem checked_by_class : CheckedByClass := by
  decide +kernel

/-- The translated table is well formed: every estimator class has its hyperparameter list and exactly one frame for
    `__init__`, `fit`, `fit_predict`, `predict`, `score`; frames are unique per (class, method); `net ⊆ writes`,
    `netExc ⊆ writes`, `must ⊆ writes`; an attribute written and restored was read first. -/
theorem tables_complete : complete frameTables = true ∧ restoredAreRead frameTables = true :=
  ⟨complete_of_byClass checked_by_class.framesListed checked_by_class.complete, checked_by_class.restoredRead⟩

/-- 18 estimator classes are covered. -/
theorem eighteen_estimators : frameTables.classes.length = 18 := by decide

/-- The reads-before-write of every fitting method are configuration attributes. -/
theorem fitting_reads_subset_config :
    ∀ f ∈ frameTables.frames, f.method ∈ fittingMethods → ∀ x ∈ f.reads, x ∈ config frameTables f.cls :=
  fun _ hf hm => subset_iff.1
    (configRel_spec checked_by_class.framesListed checked_by_class.fittingReads hf (List.contains_iff_mem.2 hm))

/-- `noStaleRead` for `fit` and `fit_predict` of all classes: every attribute a fit reads before writing it is a
    constructor hyperparameter or a constructor literal — never `W_`, `optimiser_`, `tree_`, `n_features_in_`, `H_`,
    `groups_`, numpy's global generator or any other state left behind by an earlier call. -/
theorem fit_reads_only_config :
    noStaleRead frameTables "fit" = true ∧ noStaleRead frameTables "fit_predict" = true :=
  ⟨noStaleRead_of_byClass checked_by_class.framesListed checked_by_class.fittingReads rfl,
    noStaleRead_of_byClass checked_by_class.framesListed checked_by_class.fittingReads rfl⟩

/-- `noStaleRead` for `path` (5 sparse classes): besides the configuration, `path` reads only what its own initial
    `fit` (and its own assignment of `optimiser_`) wrote earlier in the same call. -/
theorem path_reads_only_config : noStaleRead frameTables "path" = true :=
  noStaleRead_of_byClass checked_by_class.framesListed checked_by_class.fittingReads rfl

/-- Counting exits by exception too, the violations of the translated table are exactly the listed deviations, i.e.
    none: a `fit`, `predict`, `score`, `path`, … that raises half-way leaves every hyperparameter intact (`path`
    restores `alpha` in a `finally`).  The equality is exact in both directions: a regression of the source makes this
    theorem fail. -/
theorem config_untouched_except_known : allViolations frameTables = knownDeviations :=
  violationsOf_eq_nil_of_byClass checked_by_class.framesListed checked_by_class.noNetWrite

/-- When it returns normally, no public method other than the constructor leaves a hyperparameter or constructor literal
    changed (`fit`, `fit_predict`, `predict`, `predict_proba`, `score`, `get_gemini`, `get_selection`,
    `find_active_points`, `path`): the list of normal-exit violations of the translated table is exactly the listed
    one, which is empty.  (`path` assigns `alpha` but saves and restores it.) -/
theorem config_untouched_on_return : netViolations frameTables = knownDeviationsOnReturn :=
  netViolations_eq_nil config_untouched_except_known

/-- `fit`, `fit_predict`, `predict`, `predict_proba`, `score` of every class assign no hyperparameter at all, not even
    temporarily. -/
theorem fit_predict_score_never_assign_config :
    ∀ f ∈ frameTables.frames, f.method ∈ ["fit", "fit_predict", "predict", "predict_proba", "score"] →
      ∀ x ∈ f.writes, x ∉ config frameTables f.cls :=
  fun _ hf hm => disjoint_spec
    (configRel_spec checked_by_class.framesListed checked_by_class.noWrite hf (List.contains_iff_mem.2 hm))

/-- Every constructor stores each of its parameters unchanged under the parameter's own name, stores nothing else under
    such a name, stores only literals elsewhere (`gemini = None | 'mi'`, `batch_size = None`, `dynamic = False`), reads
    nothing — so `get_params`, `set_params` and `clone` round-trip every hyperparameter. -/
theorem init_identity : initIdentity frameTables = true :=
  checked_by_class.initIdentity

/-- `init_identity` read out: the constructor of every class stores each of its parameters as itself under the
    parameter's own name, and whatever a constructor stores under the name of one of its parameters is that parameter. -/
theorem init_stores_each_param :
    (∀ c ∈ frameTables.classes, ∀ p ∈ hyperOf frameTables c, (⟨c, p, "param", p⟩ : InitStore) ∈ frameTables.init) ∧
    (∀ s ∈ frameTables.init, s.attr ∈ hyperOf frameTables s.cls → s.kind = "param" ∧ s.src = s.attr) :=
  stores_of_initIdentity checked_by_class.initIdentity checked_by_class.initListed

/-- `predict`, `predict_proba`, `score` (and the other non-fitting public methods) leave untouched every attribute a
    fitting method of the same class reads before writing. -/
theorem observers_keep_inputs : observersKeepInputs frameTables = true :=
  observersKeepInputs_of_config fitting_reads_subset_config config_untouched_except_known

/-- `predict`, `predict_proba`, `score`, … read only the configuration, the fitted-ness flag and attributes that `fit`
    definitely wrote: after a fit their answers are determined by that fit. -/
theorem observers_read_model : observersReadModel frameTables = true :=
  observersReadModel_of_byClass checked_by_class.framesListed checked_by_class.observers

/-- **History independence** for the translated table.  For every class `c`, every fitting method `m ∈ {fit, fit_predict,
    path}` with frame `f`, every semantics `S` that respects the translated frames (`Sound`, the trusted link to the
    code), every history `h` of public calls — `fit`, `fit_predict`, `predict`, `predict_proba`, `score`, `set_params`,
    `path`, `get_selection`, … in any order and number, returning or raising (minus the listed deviations: none) —
    and every object `τ` holding the configuration that the `set_params` calls of
    `h` alone produce from `σ` (a fresh object, a clone, the object itself before the history): if `m` returns after
    the history, it returns on `τ` too and both agree on everything `m` definitely writes (`W_`, `b_`, `labels_`,
    `tree_`, `optimiser_`, … see `f.must`). -/
theorem history_independence {Val Arg : Type} (c m : String) (hm : m ∈ fittingMethods)
    {f : Frame} (hf : frameOf frameTables c m = some f)
    (S : Sem Val Arg) (hs : Sound frameTables c S)
    (h : List (Call Val Arg)) (σ τ : Store Val)
    (hadm : Admissible frameTables c knownDeviationsOnReturn knownDeviations S σ h)
    (hτ : AgreeOn (config frameTables c) (run S σ (paramsOnly h)) τ) (a : Arg)
    (hreturns : S.returns m (run S σ h) a) :
    S.returns m τ a ∧ AgreeOn f.must (S.step m (run S σ h) a) (S.step m τ a) :=
  frame_determinism config_untouched_on_return config_untouched_except_known hs hf
    (noStaleRead_of_byClass checked_by_class.framesListed checked_by_class.fittingReads (List.contains_iff_mem.2 hm))
    h σ τ hadm hτ a hreturns

/-- Special case: refitting the same object after any admissible history that contains no `set_params` gives what the
    first fit of that object would have given. -/
theorem refit_same_object {Val Arg : Type} (c m : String) (hm : m ∈ fittingMethods)
    {f : Frame} (hf : frameOf frameTables c m = some f)
    (S : Sem Val Arg) (hs : Sound frameTables c S)
    (h : List (Call Val Arg)) (σ : Store Val)
    (hadm : Admissible frameTables c knownDeviationsOnReturn knownDeviations S σ h) (hnp : paramsOnly h = [])
    (a : Arg) (hreturns : S.returns m (run S σ h) a) :
    S.returns m σ a ∧ AgreeOn f.must (S.step m (run S σ h) a) (S.step m σ a) :=
  history_independence c m hm hf S hs h σ σ hadm (by rw [hnp]; exact AgreeOn.refl _ _) a hreturns

/-- The hypotheses of `history_independence` are jointly satisfiable with a non-trivial history: a semantics that
    respects every translated frame exists, and `fit, set_params(alpha=3), predict, path, set_params(alpha=1), score`
    is an admissible history of `SparseLinearModel`. -/
example : Sound (Val := Nat) (Arg := Unit) frameTables "SparseLinearModel" (toySem frameTables "SparseLinearModel") ∧
    Admissible frameTables "SparseLinearModel" knownDeviationsOnReturn knownDeviations
      (toySem (Arg := Unit) frameTables "SparseLinearModel") (fun _ => 7)
      [Call.meth "fit" (), Call.setParam "alpha" 3, Call.meth "predict" (), Call.meth "path" (), Call.setParam "alpha" 1,
       Call.meth "score" ()] ∧
    ∃ f, frameOf frameTables "SparseLinearModel" "fit" = some f := by
  obtain ⟨hfit, hpredict, hpath, hscore⟩ :
      (frameOf frameTables "SparseLinearModel" "fit").isSome ∧ (frameOf frameTables "SparseLinearModel" "predict").isSome ∧
      (frameOf frameTables "SparseLinearModel" "path").isSome ∧ (frameOf frameTables "SparseLinearModel" "score").isSome := by
    decide +kernel
  refine ⟨toySem_sound _ _ tables_complete.2, ?_, Option.isSome_iff_exists.mp hfit⟩
  simp only [Admissible]
  refine ⟨by decide, Option.isSome_iff_exists.mp hfit, Or.inl (by intro a; simp [knownDeviations]), ?_⟩
  refine ⟨by decide, Option.isSome_iff_exists.mp hpredict, Or.inl (by intro a; simp [knownDeviations]), ?_⟩
  refine ⟨by decide, Option.isSome_iff_exists.mp hpath,
    Or.inr ⟨trivial, by intro a; simp [knownDeviationsOnReturn]⟩, ?_⟩
  exact ⟨by decide, Option.isSome_iff_exists.mp hscore, Or.inl (by intro a; simp [knownDeviations]), trivial⟩

end GemVerif.Props.C12
