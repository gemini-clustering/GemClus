/-
  C02 (machinery) — the table-valued MMD definitions that the driver executes
  (`GemVerif/Model/GeminiFast.lean`) are entry for entry equal to the models `mmdGrad`,
  `mmdScore` about which C01/C02/C13 are proved.  Everything is generic in `{α} [RealLike α]`: no
  property of the arithmetic is used (the proofs only look entries up in tables), so the equalities
  hold for `Float` — the type the driver runs — bit for bit, as well as for `ℝ`.

  The outer table look-up is stated for an arbitrary `Inhabited α` instance (`inst`): the default
  element is only returned for out-of-range indices, which `Fin` excludes.
-/
import GemVerif.NumReal
import GemVerif.Model.GeminiFast

namespace GemVerif.Props.C02Fast
open Model

variable {α : Type} [RealLike α] {n K : ℕ}

/-- The table `mmdAlphaFast` holds exactly the entries of the model's `mmdAlpha`
    (`alpha = y_pred / pi` in `MMDGEMINI.evaluate`). -/
theorem mmdAlphaFast_eq [inst : Inhabited α] (ε : α) (P : Fin n → Fin K → α) (i : Fin n)
    (k : Fin K) : @Tab2.get α inst n K (mmdAlphaFast ε P) i k = mmdAlpha ε P i k := by
  simp only [mmdAlphaFast, mmdAlpha, tab2_get]

/-- The table `mmdGammaFast` holds exactly the entries of the model's `mmdGamma`
    (`gamma = (affinity / N**2) @ alpha`). -/
theorem mmdGammaFast_eq [inst : Inhabited α] (ε : α) (P : Fin n → Fin K → α)
    (κ : Fin n → Fin n → α) (i : Fin n) (k : Fin K) :
    @Tab2.get α inst n K (mmdGammaFast ε P κ) i k = mmdGamma ε P κ i k := by
  simp only [mmdGammaFast, mmdGamma, tab2_get, mmdAlphaFast_eq]

/-- The table `mmdDeltaOvoFast` holds exactly the entries of the model's `mmdDeltaOvo`
    (the one-vs-one pairwise MMD distances `delta[a,b]`). -/
theorem mmdDeltaOvoFast_eq [inst : Inhabited α] (ε : α) (P : Fin n → Fin K → α)
    (κ : Fin n → Fin n → α) (a b : Fin K) :
    @Tab2.get α inst K K (mmdDeltaOvoFast ε P κ) a b = mmdDeltaOvo ε P κ a b := by
  simp only [mmdDeltaOvoFast, mmdDeltaOvo, tab2_get, mmdAlphaFast_eq, mmdGammaFast_eq]

/-- The table `mmdDeltaOvaFast` holds exactly the entries of the model's `mmdDeltaOva`
    (the one-vs-all MMD distances `delta[k]`). -/
theorem mmdDeltaOvaFast_eq [inst : Inhabited α] (ε : α) (P : Fin n → Fin K → α)
    (κ : Fin n → Fin n → α) (k : Fin K) :
    @Tab.get α inst K (mmdDeltaOvaFast ε P κ) k = mmdDeltaOva ε P κ k := by
  simp only [mmdDeltaOvaFast, mmdDeltaOva, tab_get, tab2_apply, mmdAlphaFast_eq, mmdGammaFast_eq]

/-- The MMD score the driver computes (`mmdScoreFast`, every table built once) is the model's
    `mmdScore` (the value returned by `MMDGEMINI.evaluate`), in both modes, for every number type —
    in particular for `Float`, bit for bit. -/
theorem mmdScoreFast_eq (ε : α) (ovo : Bool) (P : Fin n → Fin K → α) (κ : Fin n → Fin n → α) :
    mmdScoreFast ε ovo P κ = mmdScore ε ovo P κ := by
  cases ovo <;>
    simp only [mmdScoreFast, mmdScore, tab_apply, tab2_apply, mmdDeltaOvoFast_eq,
      mmdDeltaOvaFast_eq, if_true, if_false, Bool.false_eq_true]

/-- Every entry of the MMD gradient table the driver computes (`mmdGradFast`, every intermediate
    table built once) is the corresponding entry of the model's `mmdGrad` (the gradient returned by
    `MMDGEMINI.evaluate(..., return_grad=True)`), in both modes, for every number type — in
    particular for `Float`, bit for bit. -/
theorem mmdGradFast_eq [inst : Inhabited α] (ε : α) (ovo : Bool) (P : Fin n → Fin K → α)
    (κ : Fin n → Fin n → α) (i : Fin n) (k : Fin K) :
    @Tab2.get α inst n K (mmdGradFast ε ovo P κ) i k = mmdGrad ε ovo P κ i k := by
  cases ovo
  · simp only [mmdGradFast, mmdGrad, Bool.false_eq_true, if_false]
    simp only [mmdGradOvaFast, tab_apply, tab2_apply, mmdAlphaFast_eq, mmdDeltaOvaFast_eq]
  · simp only [mmdGradFast, mmdGrad, if_true]
    simp only [mmdGradOvoFast, tab_apply, tab2_apply, mmdAlphaFast_eq, mmdGammaFast_eq, mmdDeltaOvoFast_eq]

/-- Same statement with the coercion the models themselves use (`Tab2` applied as a function). -/
theorem mmdGradFast_apply (ε : α) (ovo : Bool) (P : Fin n → Fin K → α) (κ : Fin n → Fin n → α)
    (i : Fin n) (k : Fin K) : (mmdGradFast ε ovo P κ) i k = mmdGrad ε ovo P κ i k :=
  mmdGradFast_eq ε ovo P κ i k

/-- The instance the driver runs: `Float`. -/
example (ε : Float) (ovo : Bool) {n K : ℕ} (P : Fin n → Fin K → Float) (κ : Fin n → Fin n → Float)
    (i : Fin n) (k : Fin K) : (mmdGradFast ε ovo P κ).get i k = mmdGrad ε ovo P κ i k :=
  mmdGradFast_eq ε ovo P κ i k

end GemVerif.Props.C02Fast
