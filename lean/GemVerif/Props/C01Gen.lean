/-
  C01 / C02 / C13 (companion) — the hand models of Model/Gemini.lean are what the Python source says.

  `Gen/Geminis.lean` is regenerated on every run by translator/geminis.py from the bodies of `evaluate` of KLGEMINI,
  TVGEMINI, HellingerGEMINI, ChiSquareGEMINI (gemclus/gemini/_fdivergences.py) and MMDGEMINI
  (gemclus/gemini/_geomdistances.py) in /repo: four definitions per class, one per value of (`self.ovo`,
  `return_grad`) — the two `if`s are folded —, a literal transcription of the NumPy statements into the untyped array
  language of GemVerif/Np.lean + Np2.lean (shapes are data; broadcasting, `@`, reductions, `np.clip`, masks, in-place
  updates, masked assignments and the N×K×K tensors of the one-vs-one TV follow NumPy's rules; anything NumPy would
  reject sets `ok := false`, and the returned arrays collect the `ok` of every intermediate array).
  Unit `<cls>_<ova|ovo>` is the call with `return_grad=False` (value: the score, a 0-d array); unit
  `<cls>_<ova|ovo>_grad` is the call with `return_grad=True` (value: the pair (score, gradient)).

  Every theorem below says: the generated definition, applied to an `n × K` prediction array (`Arr.ofFn P`), the
  clipping constant `ε = self.epsilon` and (MMD) an `n × n` affinity (`Arr.ofFn κ`; the f-divergences never read their
  `affinity` argument, which is therefore arbitrary), raises no NumPy error, has the shape of the hand model's value
  and has, entry for entry, that value (`Arr.Eqv`) — for all sizes `n`, `K` (0 and 1 included), with one exception
  that the source itself makes: `MMDGEMINI(ovo=False)` with `return_grad=True` raises ZeroDivisionError on an empty
  batch (`1 / N` between Python integers), so its two theorems assume `0 < n` and `mmd_ova_grad_empty_raises` states
  the exception.
    * Generic theorems (`[RealLike α]`): both sides sum with `sumFin` in the same order, the equality holds by unfolding,
      hence for `Float` as well as for `ℝ`: KL, TV one-vs-all, Hellinger, χ² one-vs-all (all units of each),
      χ² one-vs-one gradient, MMD scores (both modes, also as first component of the `_grad` units).
    * One number law (`…_of`, every `RealLike α` in which `x + 0 = x`; instantiated at `ℝ` in section `real`): the source
      sums one term where the model writes the term — χ² one-vs-one score (`np.mean` of an `(n, 1)` array), TV one-vs-one
      (the outer product `(N,K,1) @ (N,1,K)`).
    * Real-number theorems (`ℝ`): the source and the model associate differently, equal by algebra only:
      MMD one-vs-one gradient (`pi.T @ pi` is a sum of one term;
      `Lambda -= np.diag(np.diag(Lambda))` is `x - x` on the diagonal where the model writes 0), MMD one-vs-all gradient
      (`(np.eye(N) - 1/N) @ K @ (alpha - 1)` vs the model's `K(alpha-1)` minus its column means: distributivity).
  The first value of a `_grad` unit is the array of the score-only unit under more flags (`eqv_checked_of`), so each
  `…_grad_fst_eq` follows from `…_eq` once the gradient is known to come out without error.
  The proofs do not depend on which temporaries the source uses: they spell `Eqv` out (`eqv_ofFn_iff`,
  `eqv_ofScalar_iff`) and rewrite the unfolded definition with the reading rules of the DSL (the simp set `np`,
  Lemmas/NpAttr.lean), or (the two MMD gradients) name the NumPy expressions themselves before the definition is
  unfolded (`mmd_prefix_named` for the common first lines, `IsMat.named` of Lemmas/Np2.lean for the others; what each
  holds is stated in Lemmas/GeminiGen.lean) and rewrite the unfolded definition with the names, the diagonal of `Lambda`
  being removed either by `Lambda -= np.diag(np.diag(Lambda))` or by `np.fill_diagonal(Lambda, 0)`.
  The theorems of Props/C01.lean, C02*.lean, C13*.lean, stated about Model/Gemini.lean, therefore speak about the
  source.  WassersteinGEMINI (loops and `ot.emd2`) is regenerated by `translator/wass.py` and treated in
  Props/C01WassGen.lean.
-/
import GemVerif.Lemmas.GeminiGen

namespace GemVerif.Props.C01Gen
open GemVerif.RealLike GemVerif.Np GemVerif.Np.Arr GemVerif.Model GemVerif.Lemmas.GeminiGen

-- The proofs of this file also serve the respellings of the source that DESIGN.md §21 (behaviour-preserving
-- refactorings, `harmless/`) regenerates: on the text generated from the present source some of their `simp` arguments
-- are idle, which is why this linter is off.
set_option linter.unusedSimpArgs false

/-! every `RealLike` number type (IEEE doubles included) -/

section generic
variable {α : Type} [RealLike α] {n K : Nat}

attribute [local np] clipP clipMask mean0 meanV

/-- Meaning of the relation used for scores: `A` is `Eqv` to the 0-d array holding `s` exactly when no NumPy error
    occurred while computing `A` (nor any other array of the call), `A` has the stored shape `(1, 1)` of a 0-d array
    and its entry is `s`. -/
theorem eqv_ofScalar_spelled_out (A : Arr α) (s : α) :
    Eqv A (ofScalar s) ↔ A.ok = true ∧ A.r = 1 ∧ A.c = 1 ∧ A.get 0 0 = s :=
  eqv_ofScalar_iff

/-- A returned array whose `flags` (the conjunction of the `ok` of all arrays computed during the call) is false is
    `Eqv` to nothing: a mutation of the source that makes any statement raise a shape error — also one the result does
    not depend on — cannot satisfy any theorem of this file. -/
theorem raised_not_eqv {β : Type} [RealLike β] (A B : Arr β) : ¬ Eqv (checked false A) B := by
  rintro ⟨hok, -⟩
  simp at hok

/-- `KLGEMINI(ovo=False).evaluate(P, ·)` as written in the source (`prediction_entropy - cluster_entropy` of the
    clipped predictions) returns exactly the model's `klScore ε false P`, as a 0-d array. -/
theorem kl_ova_eq (ε : α) (P : Fin n → Fin K → α) (A : Arr α) :
    Eqv (Gen.Geminis.kl_ova ε (ofFn P) A) (ofScalar (klScore ε false P)) := by
  rw [eqv_ofScalar_iff]
  simp only [np, Gen.Geminis.kl_ova, klScore]

/-- With `return_grad=True` the second returned value of `KLGEMINI(ovo=False).evaluate`
    (`(log p / N - log p_y / N) * clip_mask`) is the `n × K` array `klGrad ε false P` of the model. -/
theorem kl_ova_grad_snd_eq (ε : α) (P : Fin n → Fin K → α) (A : Arr α) :
    Eqv (Gen.Geminis.kl_ova_grad ε (ofFn P) A).2 (ofFn (klGrad ε false P)) := by
  rw [eqv_ofFn_iff]
  simp only [np, Gen.Geminis.kl_ova_grad, klGrad]

/-- With `return_grad=True` the first returned value of `KLGEMINI(ovo=False).evaluate` is the same score
    `klScore ε false P`. -/
theorem kl_ova_grad_fst_eq (ε : α) (P : Fin n → Fin K → α) (A : Arr α) :
    Eqv (Gen.Geminis.kl_ova_grad ε (ofFn P) A).1 (ofScalar (klScore ε false P)) :=
  eqv_checked_of (kl_ova_eq ε P A) (kl_ova_grad_snd_eq ε P A).ok_left

/-- `KLGEMINI(ovo=True).evaluate(P, ·)` as written in the source returns the model's `klScore ε true P`. -/
theorem kl_ovo_eq (ε : α) (P : Fin n → Fin K → α) (A : Arr α) :
    Eqv (Gen.Geminis.kl_ovo ε (ofFn P) A) (ofScalar (klScore ε true P)) := by
  rw [eqv_ofScalar_iff]
  simp only [np, Gen.Geminis.kl_ovo, klScore]

/-- With `return_grad=True` the second returned value of `KLGEMINI(ovo=True).evaluate` is the model's
    `klGrad ε true P`. -/
theorem kl_ovo_grad_snd_eq (ε : α) (P : Fin n → Fin K → α) (A : Arr α) :
    Eqv (Gen.Geminis.kl_ovo_grad ε (ofFn P) A).2 (ofFn (klGrad ε true P)) := by
  rw [eqv_ofFn_iff]
  simp only [np, Gen.Geminis.kl_ovo_grad, klGrad]

/-- With `return_grad=True` the first returned value of `KLGEMINI(ovo=True).evaluate` is `klScore ε true P`. -/
theorem kl_ovo_grad_fst_eq (ε : α) (P : Fin n → Fin K → α) (A : Arr α) :
    Eqv (Gen.Geminis.kl_ovo_grad ε (ofFn P) A).1 (ofScalar (klScore ε true P)) :=
  eqv_checked_of (kl_ovo_eq ε P A) (kl_ovo_grad_snd_eq ε P A).ok_left

/-- `TVGEMINI(ovo=False).evaluate(P, ·)` as written in the source (`0.5 * Σ_k mean_i |p_ik - p_k|`) returns the
    model's `tvScore ε false P`. -/
theorem tv_ova_eq (ε : α) (P : Fin n → Fin K → α) (A : Arr α) :
    Eqv (Gen.Geminis.tv_ova ε (ofFn P) A) (ofScalar (tvScore ε false P)) := by
  rw [eqv_ofScalar_iff]
  simp only [np, Gen.Geminis.tv_ova, tvScore]

/-- With `return_grad=True` the second returned value of `TVGEMINI(ovo=False).evaluate`
    (`0.5 * (sign - mean sign) / N * clip_mask`) is the model's `tvGrad ε false P`. -/
theorem tv_ova_grad_snd_eq (ε : α) (P : Fin n → Fin K → α) (A : Arr α) :
    Eqv (Gen.Geminis.tv_ova_grad ε (ofFn P) A).2 (ofFn (tvGrad ε false P)) := by
  rw [eqv_ofFn_iff]
  simp only [np, Gen.Geminis.tv_ova_grad, tvGrad]

/-- With `return_grad=True` the first returned value of `TVGEMINI(ovo=False).evaluate` is `tvScore ε false P`. -/
theorem tv_ova_grad_fst_eq (ε : α) (P : Fin n → Fin K → α) (A : Arr α) :
    Eqv (Gen.Geminis.tv_ova_grad ε (ofFn P) A).1 (ofScalar (tvScore ε false P)) :=
  eqv_checked_of (tv_ova_eq ε P A) (tv_ova_grad_snd_eq ε P A).ok_left

/-- `HellingerGEMINI(ovo=False).evaluate(P, ·)` as written in the source (`1 - mean_i Σ_k sqrt(p_ik p_k)`) returns
    the model's `hellingerScore ε false P`. -/
theorem hellinger_ova_eq (ε : α) (P : Fin n → Fin K → α) (A : Arr α) :
    Eqv (Gen.Geminis.hellinger_ova ε (ofFn P) A) (ofScalar (hellingerScore ε false P)) := by
  rw [eqv_ofScalar_iff]
  simp only [np, Gen.Geminis.hellinger_ova, hellingerScore]

/-- With `return_grad=True` the second returned value of `HellingerGEMINI(ovo=False).evaluate` (including the in-place
    `gradients /= y_pred.shape[0]`) is the model's `hellingerGrad ε false P`. -/
theorem hellinger_ova_grad_snd_eq (ε : α) (P : Fin n → Fin K → α) (A : Arr α) :
    Eqv (Gen.Geminis.hellinger_ova_grad ε (ofFn P) A).2 (ofFn (hellingerGrad ε false P)) := by
  rw [eqv_ofFn_iff]
  simp only [np, Gen.Geminis.hellinger_ova_grad, hellingerGrad]

/-- With `return_grad=True` the first returned value of `HellingerGEMINI(ovo=False).evaluate` is
    `hellingerScore ε false P`. -/
theorem hellinger_ova_grad_fst_eq (ε : α) (P : Fin n → Fin K → α) (A : Arr α) :
    Eqv (Gen.Geminis.hellinger_ova_grad ε (ofFn P) A).1 (ofScalar (hellingerScore ε false P)) :=
  eqv_checked_of (hellinger_ova_eq ε P A) (hellinger_ova_grad_snd_eq ε P A).ok_left

/-- `HellingerGEMINI(ovo=True).evaluate(P, ·)` as written in the source (`1 - mean_i (Σ_k sqrt(p_ik p_k))²`) returns
    the model's `hellingerScore ε true P`. -/
theorem hellinger_ovo_eq (ε : α) (P : Fin n → Fin K → α) (A : Arr α) :
    Eqv (Gen.Geminis.hellinger_ovo ε (ofFn P) A) (ofScalar (hellingerScore ε true P)) := by
  rw [eqv_ofScalar_iff]
  simp only [np, Gen.Geminis.hellinger_ovo, hellingerScore]

/-- With `return_grad=True` the second returned value of `HellingerGEMINI(ovo=True).evaluate` (the `(-1, 1)` reshape
    of the squared estimates, their square root, the in-place division) is the model's `hellingerGrad ε true P`. -/
theorem hellinger_ovo_grad_snd_eq (ε : α) (P : Fin n → Fin K → α) (A : Arr α) :
    Eqv (Gen.Geminis.hellinger_ovo_grad ε (ofFn P) A).2 (ofFn (hellingerGrad ε true P)) := by
  rw [eqv_ofFn_iff]
  simp only [np, Gen.Geminis.hellinger_ovo_grad, hellingerGrad]

/-- With `return_grad=True` the first returned value of `HellingerGEMINI(ovo=True).evaluate` is
    `hellingerScore ε true P`. -/
theorem hellinger_ovo_grad_fst_eq (ε : α) (P : Fin n → Fin K → α) (A : Arr α) :
    Eqv (Gen.Geminis.hellinger_ovo_grad ε (ofFn P) A).1 (ofScalar (hellingerScore ε true P)) :=
  eqv_checked_of (hellinger_ovo_eq ε P A) (hellinger_ovo_grad_snd_eq ε P A).ok_left

/-- `ChiSquareGEMINI(ovo=False).evaluate(P, ·)` as written in the source (`0.5 * mean_i Σ_k p_ik² / p_k`) returns the
    model's `chi2Score ε false P`. -/
theorem chi2_ova_eq (ε : α) (P : Fin n → Fin K → α) (A : Arr α) :
    Eqv (Gen.Geminis.chi2_ova ε (ofFn P) A) (ofScalar (chi2Score ε false P)) := by
  rw [eqv_ofScalar_iff]
  simp only [np, Gen.Geminis.chi2_ova, chi2Score]

/-- With `return_grad=True` the second returned value of `ChiSquareGEMINI(ovo=False).evaluate` is the model's
    `chi2Grad ε false P`. -/
theorem chi2_ova_grad_snd_eq (ε : α) (P : Fin n → Fin K → α) (A : Arr α) :
    Eqv (Gen.Geminis.chi2_ova_grad ε (ofFn P) A).2 (ofFn (chi2Grad ε false P)) := by
  rw [eqv_ofFn_iff]
  simp only [np, Gen.Geminis.chi2_ova_grad, chi2Grad]

/-- With `return_grad=True` the first returned value of `ChiSquareGEMINI(ovo=False).evaluate` is
    `chi2Score ε false P`. -/
theorem chi2_ova_grad_fst_eq (ε : α) (P : Fin n → Fin K → α) (A : Arr α) :
    Eqv (Gen.Geminis.chi2_ova_grad ε (ofFn P) A).1 (ofScalar (chi2Score ε false P)) :=
  eqv_checked_of (chi2_ova_eq ε P A) (chi2_ova_grad_snd_eq ε P A).ok_left

/-- With `return_grad=True` the second returned value of `ChiSquareGEMINI(ovo=True).evaluate` (`2 β c - α / c / c +
    mean(2 α / c - β c c)`, divided in place by `N`, halved, masked) is the model's `chi2Grad ε true P`. -/
theorem chi2_ovo_grad_snd_eq (ε : α) (P : Fin n → Fin K → α) (A : Arr α) :
    Eqv (Gen.Geminis.chi2_ovo_grad ε (ofFn P) A).2 (ofFn (chi2Grad ε true P)) := by
  rw [eqv_ofFn_iff]
  simp only [np, Gen.Geminis.chi2_ovo_grad, chi2Grad]

/-- `MMDGEMINI(ovo=False).evaluate(P, κ)` as written in the source (`alpha`, `gamma = (κ / N²) @ alpha`,
    `delta = sqrt(max(a + c - 2 b, 0))`, `np.dot(pi, delta).squeeze()`) returns the model's `mmdScore ε false P κ`. -/
theorem mmd_ova_eq (ε : α) (P : Fin n → Fin K → α) (κ : Fin n → Fin n → α) :
    Eqv (Gen.Geminis.mmd_ova ε (ofFn P) (ofFn κ)) (ofScalar (mmdScore ε false P κ)) := by
  rw [eqv_ofScalar_iff]
  simp only [np, Gen.Geminis.mmd_ova, mmdScore, mmdDeltaOva, mmdGamma, mmdAlpha]

/-- With `return_grad=True` and at least one sample, the first returned value of `MMDGEMINI(ovo=False).evaluate` is
    `mmdScore ε false P κ`.  (`0 < n` is needed: see `mmd_ova_grad_empty_raises`.) -/
theorem mmd_ova_grad_fst_eq (hn : 0 < n) (ε : α) (P : Fin n → Fin K → α) (κ : Fin n → Fin n → α) :
    Eqv (Gen.Geminis.mmd_ova_grad ε (ofFn P) (ofFn κ)).1 (ofScalar (mmdScore ε false P κ)) :=
  eqv_checked_of (mmd_ova_eq ε P κ) (mmd_ova_grad_shape hn ε P κ).1

/-- On an empty batch (`n = 0`) `MMDGEMINI(ovo=False).evaluate(P, κ, return_grad=True)` raises: the source computes
    `1 / N` between Python integers (`np.eye(N) - 1 / N`), a ZeroDivisionError — unlike every other unit, which returns
    NaNs / empty arrays there.  Hence the hypothesis `0 < n` of the two theorems about this unit. -/
theorem mmd_ova_grad_empty_raises (ε : α) (P : Fin 0 → Fin K → α) (κ : Fin 0 → Fin 0 → α) :
    (Gen.Geminis.mmd_ova_grad ε (ofFn P) (ofFn κ)).1.ok = false ∧
    (Gen.Geminis.mmd_ova_grad ε (ofFn P) (ofFn κ)).2.ok = false := by
  simp [Gen.Geminis.mmd_ova_grad]

/-- `MMDGEMINI(ovo=True).evaluate(P, κ)` as written in the source (`omega = alpha.T @ gamma`, its diagonal `A`,
    `delta = sqrt(max(-2 omega + A + A.T, 0))`, `(pi @ delta @ pi.T).squeeze()`) returns the model's
    `mmdScore ε true P κ`. -/
theorem mmd_ovo_eq (ε : α) (P : Fin n → Fin K → α) (κ : Fin n → Fin n → α) :
    Eqv (Gen.Geminis.mmd_ovo ε (ofFn P) (ofFn κ)) (ofScalar (mmdScore ε true P κ)) := by
  rw [eqv_ofScalar_iff]
  simp only [np, Gen.Geminis.mmd_ovo, mmdScore, mmdDeltaOvo, mmdGamma, mmdAlpha]

/-- With `return_grad=True` the first returned value of `MMDGEMINI(ovo=True).evaluate` is `mmdScore ε true P κ` (the
    in-place updates of `Lambda` and `gradient` all keep their shapes: no error). -/
theorem mmd_ovo_grad_fst_eq (ε : α) (P : Fin n → Fin K → α) (κ : Fin n → Fin n → α) :
    Eqv (Gen.Geminis.mmd_ovo_grad ε (ofFn P) (ofFn κ)).1 (ofScalar (mmdScore ε true P κ)) :=
  eqv_checked_of (mmd_ovo_eq ε P κ) (mmd_ovo_grad_shape ε P κ).1

/-! one-term sums: every number type in which `x + 0 = x`

  `np.mean` of an `(n, 1)` array (χ² one-vs-one) and the outer product `(N,K,1) @ (N,1,K)` (TV one-vs-one) sum one term,
  which `sumFin` leaves as `x + 0` where the model writes `x`: the only number law these units need. -/

/-- In every number type with `x + 0 = x`, `ChiSquareGEMINI(ovo=True).evaluate(P, ·)` as written in the source
    (`0.5 * np.mean(alpha * beta)`, a mean over an `(n, 1)` array) returns the model's `chi2Score ε true P`. -/
theorem chi2_ovo_eq_of (add0 : ∀ x : α, x + 0 = x) (ε : α) (P : Fin n → Fin K → α) (A : Arr α) :
    Eqv (Gen.Geminis.chi2_ovo ε (ofFn P) A) (ofScalar (chi2Score ε true P)) := by
  rw [eqv_ofScalar_iff]
  simp only [np, Gen.Geminis.chi2_ovo, chi2Score, sumFin_one, add0]

/-- In every number type with `x + 0 = x`, `TVGEMINI(ovo=True).evaluate(P, ·)` as written in the source (the `N × K × K`
    outer products, `0.5 * Σ_ab mean_i |·|`) returns the model's `tvScore ε true P`. -/
theorem tv_ovo_eq_of (add0 : ∀ x : α, x + 0 = x) (ε : α) (P : Fin n → Fin K → α) (A : Arr α) :
    Eqv (Gen.Geminis.tv_ovo ε (ofFn P) A) (ofScalar (tvScore ε true P)) := by
  rw [eqv_ofScalar_iff]
  simp only [np, Gen.Geminis.tv_ovo, tvScore, sumFin_one, add0]

/-- In every number type with `x + 0 = x`, the gradient `TVGEMINI(ovo=True).evaluate(P, ·, return_grad=True)` returns is
    the model's `tvGrad ε true P`. -/
theorem tv_ovo_grad_snd_eq_of (add0 : ∀ x : α, x + 0 = x) (ε : α) (P : Fin n → Fin K → α) (A : Arr α) :
    Eqv (Gen.Geminis.tv_ovo_grad ε (ofFn P) A).2 (ofFn (tvGrad ε true P)) := by
  rw [eqv_ofFn_iff]
  simp only [np, Gen.Geminis.tv_ovo_grad, tvGrad, sumFin_one, add0]

/-- instance at `Float`: the generated KL gradient is the model's, double for double (non-vacuity of "every
    `RealLike`") -/
example (ε : Float) (P : Fin n → Fin K → Float) (A : Arr Float) :
    Eqv (Gen.Geminis.kl_ovo_grad ε (ofFn P) A).2 (ofFn (klGrad ε true P)) :=
  kl_ovo_grad_snd_eq ε P A

end generic

/-! real numbers (the source and the model associate differently) -/

section real
variable {n K : Nat}

/-- Over ℝ, `ChiSquareGEMINI(ovo=True).evaluate(P, ·)` as written in the source (`0.5 * np.mean(alpha * beta)` with
    `(n, 1)` arrays `alpha`, `beta`) returns the model's `chi2Score ε true P`. -/
theorem chi2_ovo_eq (ε : ℝ) (P : Fin n → Fin K → ℝ) (A : Arr ℝ) :
    Eqv (Gen.Geminis.chi2_ovo ε (ofFn P) A) (ofScalar (chi2Score ε true P)) :=
  chi2_ovo_eq_of add_zero ε P A

/-- Over ℝ, with `return_grad=True` the first returned value of `ChiSquareGEMINI(ovo=True).evaluate` is
    `chi2Score ε true P`. -/
theorem chi2_ovo_grad_fst_eq (ε : ℝ) (P : Fin n → Fin K → ℝ) (A : Arr ℝ) :
    Eqv (Gen.Geminis.chi2_ovo_grad ε (ofFn P) A).1 (ofScalar (chi2Score ε true P)) :=
  eqv_checked_of (chi2_ovo_eq ε P A) (chi2_ovo_grad_snd_eq ε P A).ok_left

/-- Over ℝ, `TVGEMINI(ovo=True).evaluate(P, ·)` as written in the source (the `(N,K,1) @ (N,1,K)` outer products, minus
    their `axes=[0,2,1]` transposes, `0.5 * Σ_ab mean_i |·|`) returns the model's `tvScore ε true P`. -/
theorem tv_ovo_eq (ε : ℝ) (P : Fin n → Fin K → ℝ) (A : Arr ℝ) :
    Eqv (Gen.Geminis.tv_ovo ε (ofFn P) A) (ofScalar (tvScore ε true P)) :=
  tv_ovo_eq_of add_zero ε P A

/-- Over ℝ, with `return_grad=True` the second returned value of `TVGEMINI(ovo=True).evaluate` (`base_grad`, its
    antisymmetrisation, the two batched products with `extended_p_y`ᵀ and `extended_p_y_x`ᵀ, squeezed and summed) is
    the model's `tvGrad ε true P`. -/
theorem tv_ovo_grad_snd_eq (ε : ℝ) (P : Fin n → Fin K → ℝ) (A : Arr ℝ) :
    Eqv (Gen.Geminis.tv_ovo_grad ε (ofFn P) A).2 (ofFn (tvGrad ε true P)) :=
  tv_ovo_grad_snd_eq_of add_zero ε P A

/-- Over ℝ, with `return_grad=True` the first returned value of `TVGEMINI(ovo=True).evaluate` is `tvScore ε true P`
    (the batched products and the two `np.squeeze(·, axis)` raise no error, whatever `n` and `K`). -/
theorem tv_ovo_grad_fst_eq (ε : ℝ) (P : Fin n → Fin K → ℝ) (A : Arr ℝ) :
    Eqv (Gen.Geminis.tv_ovo_grad ε (ofFn P) A).1 (ofScalar (tvScore ε true P)) :=
  eqv_checked_of (tv_ovo_eq ε P A) (tv_ovo_grad_snd_eq ε P A).ok_left

/-- Over ℝ, with `return_grad=True` and at least one sample, the second returned value of
    `MMDGEMINI(ovo=False).evaluate` —
    `tau_grad = (np.eye(N) - 1/N) @ normalised_kernel @ (alpha - 1)`, divided by `delta + (delta == 0)`, columns with
    `delta == 0` set to 0, masked — is the model's `mmdGrad ε false P κ`. -/
theorem mmd_ova_grad_snd_eq (hn : 0 < n) (ε : ℝ) (P : Fin n → Fin K → ℝ) (κ : Fin n → Fin n → ℝ) :
    Eqv (Gen.Geminis.mmd_ova_grad ε (ofFn P) (ofFn κ)).2 (ofFn (mmdGrad ε false P κ)) := by
  -- the NumPy expressions of the source get names, whatever temporaries hold them
  obtain ⟨y1, pi, alpha, nk, gamma, e1, e2, e3, e4, e5, -, -, hal, hnk, hga⟩ := mmd_prefix_named ε P κ
  obtain ⟨delta, e6, hde⟩ := (isRow_deltaOva hal hga hnk).named
  obtain ⟨tau_grad, e7, htau⟩ := (isMat_centering hnk (hal.subs 1)).named
  obtain ⟨hok, hr, hc⟩ := mmd_ova_grad_shape hn ε P κ
  refine eqv_ofFn hok hr hc fun i k => ?_
  unfold Gen.Geminis.mmd_ova_grad
  dsimp only [clip_r, ofFn_r]
  rw [checked_get]
  simp only [e1, e2, e3, e4, e5, e6, e7]
  simp only [np, hde.rules, htau.rules, mmdGrad, clipMask, meanV, sumFin_eq_sum, nat_real]
  -- both sides test `delta[k] == 0` first; where it fails, the source's `delta + (delta == 0)` is the model's `delta + 0`
  split_ifs with h
  · rfl
  · rw [(Bool.not_eq_true _).mp h]
    rfl

/-- Over ℝ, with `return_grad=True` the second returned value of `MMDGEMINI(ovo=True).evaluate` —
    `Lambda = (pi.T @ pi) / (delta + np.eye(K))`, its diagonal removed in place, `Lambda[delta == 0] = 0`, then the six
    in-place updates of `gradient`, masked — is the model's `mmdGrad ε true P κ`. -/
theorem mmd_ovo_grad_snd_eq (ε : ℝ) (P : Fin n → Fin K → ℝ) (κ : Fin n → Fin n → ℝ) :
    Eqv (Gen.Geminis.mmd_ovo_grad ε (ofFn P) (ofFn κ)).2 (ofFn (mmdGrad ε true P κ)) := by
  -- the NumPy expressions of the source get names, whatever temporaries hold them
  obtain ⟨y1, pi, alpha, nk, gamma, e1, e2, e3, e4, e5, -, hpi, hal, -, hga⟩ := mmd_prefix_named ε P κ
  obtain ⟨omega, e6, hom⟩ := (hal.T.matmul hga).named
  obtain ⟨A, e7, hA⟩ := hom.diagRow.named
  obtain ⟨delta, e8, hde⟩ := (isMat_deltaOvo hom hA).named
  -- Lambda = (pi.T @ pi) / (delta + np.eye(len(delta)))
  obtain ⟨Lambda, e9, hLam⟩ := (isMat_outer_div hpi hde).named
  -- its diagonal removed: `Lambda -= np.diag(np.diag(Lambda))` or `np.fill_diagonal(Lambda, 0)`
  obtain ⟨Lambda1, e10, hL1⟩ := (isMat_subDiag hLam).named
  obtain ⟨Lambda1', e10', hL1'⟩ := hLam.fillDiagonal.named
  -- `Lambda[delta == 0] = 0`
  obtain ⟨Lambda2, e11, hL⟩ := (hL1.setWhere_eqS hde).named
  obtain ⟨Lambda2', e11', hL'⟩ := (hL1'.setWhere_eqS hde).named
  -- the entries of `Lambda`, in the order in which the model tests the two conditions
  have hlam : ∀ a b : Fin K, (if beq (mmdDeltaOvo ε P κ a b) 0 = true then (0 : ℝ) else if a = b then 0 else
      mean0 (clipP ε P) a * mean0 (clipP ε P) b / (mmdDeltaOvo ε P κ a b + if a = b then 1 else 0))
      = if a = b then 0 else if beq (mmdDeltaOvo ε P κ a b) 0 = true then 0 else
        mean0 (clipP ε P) a * mean0 (clipP ε P) b / (mmdDeltaOvo ε P κ a b + 0) := fun a b => by
    by_cases hab : a = b <;> simp [hab]
  simp only [hlam] at hL hL'
  obtain ⟨hok, hr, hc⟩ := mmd_ovo_grad_shape ε P κ
  refine eqv_ofFn hok hr hc fun i k => ?_
  unfold Gen.Geminis.mmd_ovo_grad
  dsimp only [clip_r, ofFn_r]
  rw [checked_get]
  simp only [e1, e2, e3, e4, e5, e6, e7, e8, e9, e10, e10', e11, e11']
  simp only [np, hpi.rules, hal.rules, hga.rules, hA.rules, hde.rules, hL.rules, hL'.rules, mmdGrad, clipMask, meanV]

end real

end GemVerif.Props.C01Gen
