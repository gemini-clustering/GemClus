/-
  C01 / C02 / C13 / C17 (companion) — the hand model `wassScore` / `wassGrad` of Model/Gemini.lean is what
  `WassersteinGEMINI.evaluate` (gemclus/gemini/_geomdistances.py) says.

  `Gen/Wass.lean` is regenerated on every run by translator/wass.py from the body of `WassersteinGEMINI.evaluate` in /repo:
  four definitions, one per value of (`self.ovo`, `return_grad`) — the two `if`s are folded —, a literal transcription of the
  statements into the untyped array language of GemVerif/Np.lean … Np4.lean.  The Python loops `for k in range(K):` and
  `for k1 in range(K): for k2 in range(k1 + 1, K):` (or `for k1, k2 in itertools.combinations(range(K), 2):`, which is the same
  thing) are `List.foldl`s over `List.range K` / `pyRange (k1 + 1) K` whose state is the tuple of the arrays and lists the body
  writes into (`wasserstein_distances[k] = …`, `wasserstein_distances[k1, k2] = …`, `grads[:, k1] += …`,
  `dual_variables[k] = log` / `dual_variables.append(log)`) preceded by the conjunction of the error flags of the iterations
  done so far; anything NumPy / Python would reject (shape mismatch, index out of range, `None["u"]`, `np.vstack([])`) sets
  `ok := false`, and the returned arrays collect the `ok` of every intermediate array.
  POT's `ot.emd2(a, b, M, log=True)` is a parameter `emd2` of the generated definitions.  The theorems instantiate it with
  `EmdR.ofModel emd`, where `emd M a b : Emd α n` (cost matrix, two weight vectors ↦ value and dual potentials `u`, `v`) is an
  arbitrary solver: `EmdR.ofModel emd a b M` applies `emd` to the contents of the arrays `M`, `a`, `b` (and raises unless their
  shapes are `(n, n)`, `(n,)`, `(n,)`).  The hand model gets the same solver with the cost matrix fixed, `emd κ`: each theorem
  thus also says that the source hands `affinity` itself, `wy[k]` (resp. `wy[k1]`, `wy[k2]`) and the uniform weights, in
  this order, to POT.

  Every theorem says: the generated definition, applied to an `n × K` prediction array (`Arr.ofFn P`), the clipping constant
  `ε = self.epsilon` and an `n × n` affinity (`Arr.ofFn κ`), raises no NumPy / Python error, has the shape of the hand model's
  value and has, entry for entry, that value (`Arr.Eqv`) — for all sizes `n`, `K`, with one exception that the source itself
  makes: `WassersteinGEMINI(ovo=False)` with `return_grad=True` and no cluster (`K = 0`) raises (`np.vstack` of an empty
  list), so `wass_ova_grad_eq` assumes `0 < K` and `wass_ova_grad_no_cluster_raises` states the exception.
    * Generic theorems (`[RealLike α]`, hence `Float` as well as `ℝ`): both sides compute in the same order — the one-vs-all
      score and gradient, the one-vs-one score (`np.dot(pi, np.dot(W, pi))` is `Σ_a π_a (Σ_b W_ab π_b)` on both sides), also as
      first component of the one-vs-one call with `return_grad=True`.
    * Real-number theorem (`ℝ`): the one-vs-one gradient.  The source starts from `np.zeros` and adds to columns `k1` and `k2`
      of `grads` the two terms of each pair `k1 < k2` in lexicographic order (a left-nested sum `((0 + t) + t') + …`), the
      model sums, for each column `k`, over the other clusters `o` (`sumFin`, right-nested, with a `0` at `o = k`): equal by
      associativity and `0 + x = x` only.  Everything else about that unit is generic (`wass_ovo_grad_spec`): the theorem
      takes any property of `grads` that the loops maintain (`PairInv`) and asks it to imply, at the end, that column `k`
      holds the model's sum; over ℝ the property is `GVals`, for the score alone it is `True`.
  The proofs do not depend on which temporaries the source uses: the NumPy expressions are named before the definition is
  unfolded (`wass_ova_named`, `wass_ovo_named`), then every `let` is unfolded and the names are rewritten in; the loops are
  handled by invariants (Lemmas/WassGen.lean: `OvaInv`, `InvW`, `PairInv`) on the fold that is in the goal, whatever names
  its body uses.  Both ways of collecting the one-vs-all logs (`[None] * K` + item assignment, `[]` + `append`) are
  accepted.
  The clipping `np.clip(y_pred, self.epsilon, 1 - self.epsilon)` and the mask `clip_mask` are part of the equalities (`clipP`,
  `clipMask` of the model): the definedness theorems of C17 about `wassScore` / `wassGrad` speak about the source.
-/
import GemVerif.Lemmas.WassGen
import GemVerif.Gen.Wass

namespace GemVerif.Props.C01WassGen
open GemVerif.Np GemVerif.Np.Arr GemVerif.Model GemVerif.Lemmas.WassGen

-- The proofs of this file also serve the respellings of the source that DESIGN.md §21 (behaviour-preserving
-- refactorings, `harmless/`) regenerates: on the text generated from the present source some of their `simp` arguments
-- are idle and the alternatives (`first | … | …`, `try`) it does not use are never run, which is why these linters are off.
set_option linter.unusedSimpArgs false
set_option linter.unusedTactic false
set_option linter.unreachableTactic false

/-! every `RealLike` number type (IEEE doubles included) -/

section generic
variable {α : Type} [RealLike α] {n K : Nat}

/-- The two one-vs-all units, walked together up to the end of their common loop `for k in range(K)`: the score-only call
    returns the model's score (all sizes), the call with `return_grad=True` returns as second value the model's gradient
    (`0 < K`).  `wass_ova_eq` and `wass_ova_grad_eq` below are what is claimed about the source; this is their proof. -/
theorem wass_ova_units (emd : (Fin n → Fin n → α) → (Fin n → α) → (Fin n → α) → Emd α n) (ε : α)
    (P : Fin n → Fin K → α) (κ : Fin n → Fin n → α) :
    Eqv (Gen.Wass.wass_ova (EmdR.ofModel emd) ε (ofFn P) (ofFn κ)) (ofScalar (wassScore (emd κ) ε false P)) ∧
    (0 < K →
      Eqv (Gen.Wass.wass_ova_grad (EmdR.ofModel emd) ε (ofFn P) (ofFn κ)).2 (ofFn (wassGrad (emd κ) ε false P))) := by
  obtain ⟨y1, pi, wy, cw, E, e1, e2, e3, ec, hy, hpi, hwy_ok, hcw_ok, hE, hcall⟩ := wass_ova_named emd ε P κ
  refine ⟨?_, fun hK => ?_⟩
  -- both units: name the state `R` the loop ends in, and read it off the invariant `OvaInv`
  all_goals
    first | unfold Gen.Wass.wass_ova | unfold Gen.Wass.wass_ova_grad
    dsimp only [ofFn_r, ofFn_c]
    simp only [e1, e2, e3, ec]
    generalize hR : List.foldl _ _ (List.range _) = R
    have hinv : R.1 = true ∧ IsRow R.2.1 (fun k : Fin K => (E k).value) ∧ R.2.2.length = K ∧
        ∀ j : Fin K, ∃ x, R.2.2[j.val]? = some x ∧ LogOf.rel x (E j) := by
      rw [← hR]
      -- `dual_variables` is pre-allocated and assigned to, or starts empty and is appended to
      first
      | refine (foldl_range_inv (OvaInv E fun _ => K) K _ _ (OvaInv.init_set E (by simp only [np, hy.c])) ?_).final rfl
      | refine (foldl_range_inv (OvaInv E id) K _ _ (OvaInv.init_append E (by simp only [np, hy.c])) ?_).final rfl
      intro k st hk h
      have hc := hcall ⟨k, hk⟩
      dsimp only at hc ⊢
      simp only [hc]
      first
      | exact h.step_set hk (by simp only [np, h.ok, h.wd_ok, h.wd_r, h.wd_c, hk])
      | exact h.step_append hk (by simp only [np, h.ok, h.wd_ok, h.wd_r, h.wd_c, hk]) rfl
    obtain ⟨hR1, hR, hlen, hL⟩ := hinv
  · -- `np.dot(pi, wasserstein_distances)`
    rw [eqv_ofScalar_iff]
    simp only [np, hy.ok, hpi.rules, hwy_ok, hcw_ok, hR1, hR.rules, wassScore, wassScoreT, hE]
  · -- u_bar.T = np.vstack([x["u"] - x["u"].mean() for x in dual_variables])
    generalize hU : vstack (α := α) (List.map _ R.2.2) = U
    have hU' : IsMat U (fun (k : Fin K) (i : Fin n) => (E k).u i - meanV (E k).u) := by
      rw [← hU]
      refine isMat_vstack _ _ hK (by simp only [np, hlen]) fun j => ?_
      obtain ⟨x, hx, hrel⟩ := hL j
      rw [getD_map_of_getElem? _ _ _ hx]
      simp only [LogOf.rel] at hrel
      subst hrel
      simp only [IsRow, np, meanV]
    rw [eqv_ofFn_iff]
    simp only [np, hy.rules, hpi.rules, hwy_ok, hcw_ok, hR1, hR.rules, hU'.rules, wassGrad, wassGradT, clipMask, hE]

/-- `WassersteinGEMINI(ovo=False).evaluate(P, κ)` as written in the source — clip, `pi = y_pred.mean(0)`,
    `wy = (y_pred / (pi * N)).T`, the loop `for k in range(K)` calling `ot.emd2(wy[k], np.ones(N) / N, affinity, log=True)`
    and storing the value in `wasserstein_distances[k]`, then `np.dot(pi, wasserstein_distances)` — raises nothing and returns
    exactly the model's `wassScore (emd κ) ε false P`, as a 0-d array; for every number type (doubles included), every
    solver `emd`, all sizes. -/
theorem wass_ova_eq (emd : (Fin n → Fin n → α) → (Fin n → α) → (Fin n → α) → Emd α n) (ε : α)
    (P : Fin n → Fin K → α) (κ : Fin n → Fin n → α) :
    Eqv (Gen.Wass.wass_ova (EmdR.ofModel emd) ε (ofFn P) (ofFn κ)) (ofScalar (wassScore (emd κ) ε false P)) :=
  (wass_ova_units emd ε P κ).1

/-- With `return_grad=True` and at least one cluster, `WassersteinGEMINI(ovo=False).evaluate(P, κ)` returns (1) the same
    score `wassScore (emd κ) ε false P` and (2) as gradient — `u_bar = np.vstack([x["u"] - x["u"].mean() for x in
    dual_variables]).T`, `u_bar / N + wasserstein_distances / N`, minus in place `(y_pred * u_bar).sum(0) / (N * N * pi)`, times
    `clip_mask` — exactly the `n × K` array `wassGrad (emd κ) ε false P` of the model; for every number type, every solver.
    (`0 < K` is needed: see `wass_ova_grad_no_cluster_raises`.) -/
theorem wass_ova_grad_eq (hK : 0 < K) (emd : (Fin n → Fin n → α) → (Fin n → α) → (Fin n → α) → Emd α n) (ε : α)
    (P : Fin n → Fin K → α) (κ : Fin n → Fin n → α) :
    Eqv (Gen.Wass.wass_ova_grad (EmdR.ofModel emd) ε (ofFn P) (ofFn κ)).1 (ofScalar (wassScore (emd κ) ε false P)) ∧
    Eqv (Gen.Wass.wass_ova_grad (EmdR.ofModel emd) ε (ofFn P) (ofFn κ)).2 (ofFn (wassGrad (emd κ) ε false P)) :=
  have h2 := (wass_ova_units emd ε P κ).2 hK
  -- the first value is the array of the score-only unit under more flags
  ⟨eqv_checked_of (wass_ova_eq emd ε P κ) h2.1, h2⟩

/-- `WassersteinGEMINI(ovo=True).evaluate(P, κ)` as written in the source — the two nested loops over the pairs `k1 < k2`
    calling `ot.emd2(wy[k1], wy[k2], affinity, log=True)` and storing the value in `wasserstein_distances[k1, k2]` and
    `[k2, k1]` of a `K × K` array of zeros, then `np.dot(pi, np.dot(wasserstein_distances, pi))` — raises nothing and returns
    exactly the model's `wassScore (emd κ) ε true P`; for every number type, every solver, all sizes. -/
theorem wass_ovo_eq (emd : (Fin n → Fin n → α) → (Fin n → α) → (Fin n → α) → Emd α n) (ε : α)
    (P : Fin n → Fin K → α) (κ : Fin n → Fin n → α) :
    Eqv (Gen.Wass.wass_ovo (EmdR.ofModel emd) ε (ofFn P) (ofFn κ)) (ofScalar (wassScore (emd κ) ε true P)) := by
  obtain ⟨y1, pi, wy, E, e1, e2, e3, hy, hpi, hwy_ok, hE, hcall⟩ := wass_ovo_named emd ε P κ
  unfold Gen.Wass.wass_ovo
  dsimp only [ofFn_r, ofFn_c]
  simp only [e1, e2, e3]
  generalize hR : List.foldl _ _ (List.range _) = R
  have hinv : R.1 = true ∧ InvW E K 0 R.2 := by
    rw [← hR]
    refine foldl_range_inv (fun k1 (st : Bool × Arr α) => st.1 = true ∧ InvW E k1 0 st.2) K _ _ ⟨rfl, InvW.init E⟩ ?_
    rintro k1 st hk1 ⟨h1, hW⟩
    dsimp only
    generalize hR2 : List.foldl _ _ (pyRange _ _) = R2
    have hinner : R2.1 = true ∧ InvW E k1 K R2.2 := by
      rw [← hR2]
      refine foldl_pyRange_inv (fun k2 (st : Bool × Arr α) => st.1 = true ∧ InvW E k1 k2 st.2) (k1 + 1) K hk1 _ _
        ⟨rfl, hW.enter⟩ ?_
      rintro k2 st2 h12 hk2 ⟨h1', hW'⟩
      have hc := hcall ⟨k1, hk1⟩ ⟨k2, hk2⟩
      dsimp only at hc ⊢
      simp only [hc]
      exact ⟨by simp only [np, h1', hW'.rules, hk1, hk2], hW'.step h12 hk2⟩
    exact ⟨by simp only [np, h1, hinner.1, hinner.2.leave.ok], hinner.2.leave⟩
  obtain ⟨hR1, hW⟩ := hinv
  rw [eqv_ofScalar_iff]
  simp only [np, hy.ok, hpi.rules, hwy_ok, hR1, hW.final.rules, wassScore, wassScoreT, hE]

/-- `WassersteinGEMINI(ovo=True).evaluate(P, κ, return_grad=True)` for every number type, every solver: no statement of the
    call raises (in particular the column updates `grads[:, k1] += …`, `grads[:, k2] += …` keep their shapes and `pi[k1]`,
    `pi[k2]` are in range), the first returned value is the score `wassScore (emd κ) ε true P`, and the second is the model's
    `wassGrad (emd κ) ε true P` provided `grads` leaves the loops holding, in column `k`, the model's sum over the other
    clusters `o` of `wassTerm … k o`.  The source accumulates these terms pair by pair, so whether it does is a matter of
    the number type's laws: `J` is any property of `grads` that the loops maintain (`PairInv`). -/
theorem wass_ovo_grad_spec (emd : (Fin n → Fin n → α) → (Fin n → α) → (Fin n → α) → Emd α n) (ε : α)
    (P : Fin n → Fin K → α) (κ : Fin n → Fin n → α) {J : Nat → Nat → Arr α → Prop}
    (hJ : PairInv (wassTerm (fun a b => emd κ (wassWeights ε P a) (wassWeights ε P b)) (mean0 (clipP ε P)) (clipP ε P)) J) :
    Eqv (Gen.Wass.wass_ovo_grad (EmdR.ofModel emd) ε (ofFn P) (ofFn κ)).1 (ofScalar (wassScore (emd κ) ε true P)) ∧
    ((∀ G, J K 0 G → ∀ (i : Fin n) (k : Fin K), G.get i.val k.val = sumFin fun o => if o = k then 0 else
        wassTerm (fun a b => emd κ (wassWeights ε P a) (wassWeights ε P b)) (mean0 (clipP ε P)) (clipP ε P) k o i) →
      Eqv (Gen.Wass.wass_ovo_grad (EmdR.ofModel emd) ε (ofFn P) (ofFn κ)).2 (ofFn (wassGrad (emd κ) ε true P))) := by
  obtain ⟨y1, pi, wy, E, e1, e2, e3, hy, hpi, hwy_ok, hE, hcall⟩ := wass_ovo_named emd ε P κ
  rw [← hE] at hJ ⊢
  unfold Gen.Wass.wass_ovo_grad
  dsimp only [ofFn_r, ofFn_c]
  simp only [e1, e2, e3]
  generalize hR : List.foldl _ _ (List.range _) = R
  have hinv : R.1 = true ∧ InvW E K 0 R.2.1 ∧ R.2.2.ok = true ∧ R.2.2.r = n ∧ R.2.2.c = K ∧ J K 0 R.2.2 := by
    rw [← hR]
    refine foldl_range_inv (fun k1 (st : Bool × Arr α × Arr α) => st.1 = true ∧ InvW E k1 0 st.2.1 ∧
      st.2.2.ok = true ∧ st.2.2.r = n ∧ st.2.2.c = K ∧ J k1 0 st.2.2) K _ _
      ⟨rfl, InvW.init E, rfl, hy.r, hy.c, hJ.init _ _⟩ ?_
    rintro k1 st hk1 ⟨h1, hW, hG1, hG2, hG3, hG4⟩
    dsimp only
    generalize hR2 : List.foldl _ _ (pyRange _ _) = R2
    have hinner : R2.1 = true ∧ InvW E k1 K R2.2.1 ∧ R2.2.2.ok = true ∧ R2.2.2.r = n ∧ R2.2.2.c = K ∧ J k1 K R2.2.2 := by
      rw [← hR2]
      refine foldl_pyRange_inv (fun k2 (st : Bool × Arr α × Arr α) => st.1 = true ∧ InvW E k1 k2 st.2.1 ∧
        st.2.2.ok = true ∧ st.2.2.r = n ∧ st.2.2.c = K ∧ J k1 k2 st.2.2) (k1 + 1) K hk1 _ _
        ⟨rfl, hW.enter, hG1, hG2, hG3, hJ.enter hG4⟩ ?_
      rintro k2 st2 h12 hk2 ⟨h1', hW', hG1', hG2', hG3', hG4'⟩
      have hc := hcall ⟨k1, hk1⟩ ⟨k2, hk2⟩
      dsimp only at hc ⊢
      simp only [hc]
      refine ⟨?_, hW'.step h12 hk2, ?_, by simp only [np, hG2'], by simp only [np, hG3'],
        hJ.step hG4' h12 hk2 fun i k => ?_⟩
      · simp only [np, h1', hW'.rules, hG1', hG2', hG3', hk1, hk2, hy.ok, hy.r, hy.c, hpi.ok, hpi.r, hpi.c]
      · simp only [np, hG1', hG2', hG3', hk1, hk2, hy.ok, hy.r, hy.c]
      · -- column `k2` receives `log["v"]` of the call, column `k1` its `log["u"]`
        have hlt : k1 < k2 := h12
        simp only [np, hG2', hG3', hy.r, hy.c, ← hy.get, ← hpi.get, hlt.ne', wassTerm, meanV, hlt, hlt.not_gt]
    obtain ⟨i1, i2, i3, i4, i5, i6⟩ := hinner
    exact ⟨by simp only [np, h1, i1, i2.leave.1, i3], i2.leave, i3, i4, i5, hJ.leave i6⟩
  obtain ⟨hR1, hW, hG_ok, hG_r, hG_c, hG⟩ := hinv
  refine ⟨?_, fun hfin => ?_⟩
  · rw [eqv_ofScalar_iff]
    simp only [np, hy.ok, hy.r, hy.c, hpi.rules, hwy_ok, hR1, hW.final.rules, hG_ok, hG_r, hG_c, wassScore, wassScoreT, hE]
  · rw [eqv_ofFn_iff]
    simp only [np, hy.ok, hy.r, hy.c, hpi.rules, hwy_ok, hR1, hW.final.rules, hG_ok, hG_r, hG_c, hfin _ hG, wassGrad,
      wassGradT, wassTerm, clipMask, hE]

/-- With `return_grad=True` the first returned value of `WassersteinGEMINI(ovo=True).evaluate(P, κ)` is the same score
    `wassScore (emd κ) ε true P`, and no statement of the call raises (in particular the column updates `grads[:, k1] += …`,
    `grads[:, k2] += …` keep their shapes and `pi[k1]`, `pi[k2]` are in range); for every number type, every solver. -/
theorem wass_ovo_grad_fst_eq (emd : (Fin n → Fin n → α) → (Fin n → α) → (Fin n → α) → Emd α n) (ε : α)
    (P : Fin n → Fin K → α) (κ : Fin n → Fin n → α) :
    Eqv (Gen.Wass.wass_ovo_grad (EmdR.ofModel emd) ε (ofFn P) (ofFn κ)).1 (ofScalar (wassScore (emd κ) ε true P)) :=
  (wass_ovo_grad_spec emd ε P κ (PairInv.trivial _)).1

/-- With no cluster (`K = 0`, predictions of shape `(n, 0)`) `WassersteinGEMINI(ovo=False).evaluate(P, κ, return_grad=True)`
    raises: the source calls `np.vstack` on an empty list (ValueError) — unlike the three other units, which return empty
    arrays / 0 there.  Hence the hypothesis `0 < K` of `wass_ova_grad_eq`. -/
theorem wass_ova_grad_no_cluster_raises (emd : (Fin n → Fin n → α) → (Fin n → α) → (Fin n → α) → Emd α n) (ε : α)
    (P : Fin n → Fin 0 → α) (κ : Fin n → Fin n → α) :
    (Gen.Wass.wass_ova_grad (EmdR.ofModel emd) ε (ofFn P) (ofFn κ)).1.ok = false ∧
    (Gen.Wass.wass_ova_grad (EmdR.ofModel emd) ε (ofFn P) (ofFn κ)).2.ok = false := by
  simp [Gen.Wass.wass_ova_grad, vstack]

/-- Meaning of the parameter: on arrays that are, without error, two weight vectors of length `n` and an `n × n` cost matrix,
    `EmdR.ofModel emd` — what the theorems of this file put for `ot.emd2(·, ·, ·, log=True)` — raises nothing and returns the
    value and the two potentials of the model's solver `emd` applied to the cost matrix and the weights. -/
theorem ofModel_spelled_out (emd : (Fin n → Fin n → α) → (Fin n → α) → (Fin n → α) → Emd α n) (a b : Fin n → α)
    (M : Fin n → Fin n → α) :
    (EmdR.ofModel emd (ofRow a) (ofRow b) (ofFn M)).ok = true ∧
    (EmdR.ofModel emd (ofRow a) (ofRow b) (ofFn M)).value = (emd M a b).value ∧
    Eqv (EmdR.ofModel emd (ofRow a) (ofRow b) (ofFn M)).u (ofRow (emd M a b).u) ∧
    Eqv (EmdR.ofModel emd (ofRow a) (ofRow b) (ofFn M)).v (ofRow (emd M a b).v) := by
  have h := EmdR.ofModel_eq emd (a := ofRow a) (b := ofRow b) (M := ofFn M)
    ⟨rfl, rfl, rfl, fun j => ofRow_get a 0 j⟩ ⟨rfl, rfl, rfl, fun j => ofRow_get b 0 j⟩ ⟨rfl, rfl, rfl, fun i j => ofFn_get M i j⟩
  rw [h]
  exact ⟨rfl, rfl, eqv_ofRow rfl rfl rfl fun j => ofRow_get _ 0 j, eqv_ofRow rfl rfl rfl fun j => ofRow_get _ 0 j⟩

/-- instance at `Float`: the generated one-vs-all gradient is the model's, double for double, whatever solver stands for POT
    (non-vacuity of "every `RealLike`") -/
example (emd : (Fin n → Fin n → Float) → (Fin n → Float) → (Fin n → Float) → Emd Float n) (ε : Float)
    (P : Fin n → Fin (K + 1) → Float) (κ : Fin n → Fin n → Float) :
    Eqv (Gen.Wass.wass_ova_grad (EmdR.ofModel emd) ε (ofFn P) (ofFn κ)).2 (ofFn (wassGrad (emd κ) ε false P)) :=
  (wass_ova_grad_eq (Nat.succ_pos K) emd ε P κ).2

end generic
/-! real numbers (the source accumulates pair by pair, the model sums cluster by cluster) -/

section real
variable {n K : Nat}

/-- Over ℝ, with `return_grad=True` the second returned value of `WassersteinGEMINI(ovo=True).evaluate(P, κ)` — `grads`,
    starting from zeros, receives for every pair `k1 < k2` the terms
    `2 * pi[k2] * (u_bar / N - (u_bar * y_pred[:, k1] / (N * N * pi[k1])).sum())` in column `k1` and
    `2 * pi[k1] * (v_bar / N - (v_bar * y_pred[:, k2] / (N * N * pi[k2])).sum())` in column `k2` (`u_bar`, `v_bar`: the centred
    potentials of the call), then `2 * np.dot(wasserstein_distances, pi) / N` in place, times `clip_mask` — is the `n × K`
    array `wassGrad (emd κ) ε true P` of the model; for every solver, all sizes. -/
theorem wass_ovo_grad_snd_eq (emd : (Fin n → Fin n → ℝ) → (Fin n → ℝ) → (Fin n → ℝ) → Emd ℝ n) (ε : ℝ)
    (P : Fin n → Fin K → ℝ) (κ : Fin n → Fin n → ℝ) :
    Eqv (Gen.Wass.wass_ovo_grad (EmdR.ofModel emd) ε (ofFn P) (ofFn κ)).2 (ofFn (wassGrad (emd κ) ε true P)) :=
  (wass_ovo_grad_spec emd ε P κ (GVals.pairInv _)).2 fun G hG i k => by rw [hG.final i k, sumFin_eq_sum]

end real

end GemVerif.Props.C01WassGen
