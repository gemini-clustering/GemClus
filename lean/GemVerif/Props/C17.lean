/-
  C17 — results stay finite on degenerate and badly scaled but legal inputs.   (*partial*)

  Proved here, for all sizes `n K`, all predictions `P` (interior, on the boundary of the simplex, or outside it) and
  all affinities: under the code's own guards every quantity the numeric code divides by is non-zero, every `log`
  argument is positive and every `sqrt` argument is non-negative.  The guards are the hypotheses
  `0 < ε ≤ 1/2` (the `epsilon` of the GEMINI constructors, `Interval(Real, 0, 1, closed="neither")`, default `1e-12`),
  `0 < n` (a batch is never empty), `0 < temperature`, and the loop guards of `compute_all_splits`.
  What the conjuncts speak of.  Terms of the model, whose guard would be missed if it were deleted there: the clipped
  predictions `clipP ε P` and their column means (every window / positivity statement; `np.clip(y_pred, ε, 1-ε)`), the
  guarded division `beq delta 0 = false → delta + 0 ≠ 0` of `mmdGrad` (last conjunct of `mmd_defined`), the divisor
  `np.where(W_norms == 0, 1, W_norms)` and the radicand of `norm2` (`linear_prox_defined`), the weights `wassWeights`,
  the memberships `Douglas.binning`, the regenerated gain formulas (`leftStar_cleared`).  Conjuncts that would survive the
  deletion of the guard in the model (facts about real numbers, recorded because the code relies on them):
  `0 ≤ max x 0` and `0 ≤ mmdDelta…` (a square root is non-negative with or without `np.maximum(·, 0)` under it),
  `delta + delta_mask ≠ 0` and `delta[a, a] + 1 ≠ 0` of `mmd_defined` (the source's spelling of the divisor; the model
  writes the guarded `delta + 0`), `nat n ≠ 0`, `nat 1 ≠ 0`, `nat 2 ≠ 0`, the denominators of `kauri_gain_denominators`
  (tied to the regenerated file by `harness/props/c17.py`, not by a Lean term).

  Not provable here (exhibited by `harness/props/c17.py` on the real code and on the `Float` model):
  IEEE overflow / underflow (a soft-bin membership `exp(-800)` is `0.0` in doubles although it is positive in ℝ: see
  `douglas_divisors_pos`),
  numpy broadcasting after `np.squeeze` when `n = 1` or `K = 1`, and the unguarded `a_s / norm_v` of `mlp_prox_grad`
  (C05 owns it: a zero row of `W_skip_` divides by zero and the result is saved by `np.maximum(-inf, 0)`).
-/
import GemVerif.Lemmas.Defined
import GemVerif.Model.Prox
import GemVerif.Gen.KauriGains
import GemVerif.Lemmas.WassForms
import GemVerif.Lemmas.DouglasBins

namespace GemVerif.Props.C17
open Model Defined

variable {n K : ℕ}

/-- Clipped predictions and their column means lie in `[ε, 1-ε] ⊂ (0, 1)` — whatever `y_pred` is. -/
theorem clipped_in_window (hn : 0 < n) {ε : ℝ} (h0 : 0 < ε) (h1 : ε ≤ 1 / 2) (P : Fin n → Fin K → ℝ)
    (i : Fin n) (k : Fin K) :
    (ε ≤ clipP ε P i k ∧ clipP ε P i k ≤ 1 - ε) ∧ (ε ≤ mean0 (clipP ε P) k ∧ mean0 (clipP ε P) k ≤ 1 - ε) ∧
      0 < clipP ε P i k ∧ 0 < mean0 (clipP ε P) k :=
  have hp := clipP_pos h0 (h1.trans_lt one_half_lt_one) P
  ⟨(window hn h1 P i k).1, (window hn h1 P i k).2, hp i k, mean0_pos hn hp k⟩

/-- `KLGEMINI.evaluate`: `np.log(p_y_x)`, `np.log(p_y)` have positive arguments; `p_y / p_y_x` and the divisions by
    `shape[0]` / inside `.mean(0)` have non-zero divisors. -/
theorem kl_defined (hn : 0 < n) {ε : ℝ} (h0 : 0 < ε) (h1 : ε ≤ 1 / 2) (P : Fin n → Fin K → ℝ) (i : Fin n) (k : Fin K) :
    0 < clipP ε P i k ∧ 0 < mean0 (clipP ε P) k ∧ clipP ε P i k ≠ 0 ∧ (RealLike.nat n : ℝ) ≠ 0 :=
  have hp := clipP_pos h0 (h1.trans_lt one_half_lt_one) P
  ⟨hp i k, mean0_pos hn hp k, (hp i k).ne', (natn_pos hn).ne'⟩

/-- `TVGEMINI.evaluate` divides by the batch size only. -/
theorem tv_defined (hn : 0 < n) : (RealLike.nat n : ℝ) ≠ 0 := (natn_pos hn).ne'

/-- `HellingerGEMINI.evaluate`: the radicand `p_y_x * p_y` is positive, so `cluster_wise_estimates = sqrt(·)` — the
    divisor of `p_y / cw` and `p_y_x / cw` — is positive; `estimates` (row sums of `cw`) is positive for `K ≥ 1`, and the
    argument of `np.sqrt(estimates)` in the one-vs-one branch, `estimates²`, is non-negative. -/
theorem hellinger_defined (hn : 0 < n) {ε : ℝ} (h0 : 0 < ε) (h1 : ε ≤ 1 / 2) (P : Fin n → Fin K → ℝ) (i : Fin n)
    (k : Fin K) :
    0 < clipP ε P i k * mean0 (clipP ε P) k ∧ 0 < Real.sqrt (clipP ε P i k * mean0 (clipP ε P) k) ∧
    0 < ∑ c, Real.sqrt (clipP ε P i c * mean0 (clipP ε P) c) ∧
    0 ≤ RealLike.sq (∑ c, Real.sqrt (clipP ε P i c * mean0 (clipP ε P) c)) ∧ (RealLike.nat n : ℝ) ≠ 0 := by
  have hp := clipP_pos h0 (h1.trans_lt one_half_lt_one) P
  have hm : ∀ c, 0 < clipP ε P i c * mean0 (clipP ε P) c := fun c => mul_pos (hp i c) (mean0_pos hn hp c)
  refine ⟨hm k, Real.sqrt_pos.mpr (hm k), ?_, ?_, (natn_pos hn).ne'⟩
  · exact Finset.sum_pos (fun c _ => Real.sqrt_pos.mpr (hm c)) ⟨k, Finset.mem_univ k⟩
  · rw [RealLike.sq_real]; positivity

/-- `ChiSquareGEMINI.evaluate`: `p_y_x / p_y` divides by a positive number and is itself positive, so
    `p_y / cluster_wise_estimates`, `alpha / cw`, `alpha / cw / cw` are defined. -/
theorem chi2_defined (hn : 0 < n) {ε : ℝ} (h0 : 0 < ε) (h1 : ε ≤ 1 / 2) (P : Fin n → Fin K → ℝ) (i : Fin n)
    (k : Fin K) :
    mean0 (clipP ε P) k ≠ 0 ∧ 0 < clipP ε P i k / mean0 (clipP ε P) k ∧ (RealLike.nat n : ℝ) ≠ 0 :=
  have hp := clipP_pos h0 (h1.trans_lt one_half_lt_one) P
  ⟨(mean0_pos hn hp k).ne', div_pos (hp i k) (mean0_pos hn hp k), (natn_pos hn).ne'⟩

/-- `MMDGEMINI.evaluate`: `y_pred / pi` and `affinity / N**2` have non-zero divisors; both distance vectors are square
    roots of `np.maximum(·, 0)`, hence defined and non-negative; the divisor `delta + delta_mask` of the one-vs-all
    gradient and the diagonal `delta + np.eye` of the one-vs-one gradient are non-zero; in the model the one-vs-one
    off-diagonal division happens only where `delta ≠ 0` (the code divides first and overwrites `Lambda[delta == 0] = 0`
    afterwards: in IEEE arithmetic an `inf` is produced and discarded there). -/
theorem mmd_defined (hn : 0 < n) {ε : ℝ} (h0 : 0 < ε) (h1 : ε ≤ 1 / 2) (P : Fin n → Fin K → ℝ)
    (κ : Fin n → Fin n → ℝ) (k a b : Fin K) :
    mean0 (clipP ε P) k ≠ 0 ∧ (RealLike.nat n * RealLike.nat n : ℝ) ≠ 0 ∧
    (∀ x : ℝ, 0 ≤ max x 0) ∧ 0 ≤ mmdDeltaOva ε P κ k ∧ 0 ≤ mmdDeltaOvo ε P κ a b ∧
    mmdDeltaOva ε P κ k + (if mmdDeltaOva ε P κ k = 0 then 1 else 0) ≠ 0 ∧
    mmdDeltaOvo ε P κ a a + 1 ≠ 0 ∧
    (RealLike.beq (mmdDeltaOvo ε P κ a b) 0 = false → mmdDeltaOvo ε P κ a b + 0 ≠ 0) := by
  have hova := mmdDeltaOva_nonneg ε P κ k
  have hovo := mmdDeltaOvo_nonneg ε P κ
  refine ⟨(mean0_pos hn (clipP_pos h0 (h1.trans_lt one_half_lt_one) P) k).ne',
    (mul_pos (natn_pos hn) (natn_pos hn)).ne', fun x => le_max_right x 0, hova, hovo a b, ?_, ?_, ?_⟩
  · split_ifs with h
    · rw [h]; norm_num
    · simpa using h
  · have := hovo a a; linarith
  · intro h
    simp only [RealLike.beq_real, decide_eq_false_iff_not] at h
    simpa using h

/-- `WassersteinGEMINI.evaluate`: the divisors `pi * N` and `N * N * pi` are non-zero, and the weight vectors handed to
    `ot.emd2` are strictly positive and sum to one (POT's precondition) for any `y_pred`. -/
theorem wasserstein_defined (hn : 0 < n) {ε : ℝ} (h0 : 0 < ε) (h1 : ε ≤ 1 / 2) (P : Fin n → Fin K → ℝ) (k : Fin K) :
    mean0 (clipP ε P) k * RealLike.nat n ≠ 0 ∧ (RealLike.nat n * RealLike.nat n * mean0 (clipP ε P) k : ℝ) ≠ 0 ∧
    (∀ i, 0 < wassWeights ε P k i) ∧ ∑ i, wassWeights ε P k i = 1 := by
  have hp := clipP_pos h0 (h1.trans_lt one_half_lt_one) P
  have hπ := mean0_pos hn hp k
  have hN := natn_pos hn
  rw [wassWeights_eq]
  exact ⟨(mul_pos hπ hN).ne', (mul_pos (mul_pos hN hN) hπ).ne', cond_openSimplex hn hp k⟩

/-- `sklearn.utils.extmath.softmax` divides by a strictly positive row sum (non-empty rows). -/
theorem softmax_normaliser_pos (z : Fin K → ℝ) (k : Fin K) :
    0 < sumFin fun c => (tab fun c => RealLike.exp (z c - Nets.rowMax z)) c := by
  simp only [tab_apply, sumFin_eq_sum, RealLike.exp_real]
  exact sum_exp_pos _ k

/-- `linear_prox_grad`: the radicand of `np.linalg.norm(W, axis=1)` is non-negative and the divisor
    `np.where(W_norms == 0, 1, W_norms)` is non-zero, for every row `w`. -/
theorem linear_prox_defined {h : ℕ} (w : Fin h → ℝ) :
    0 ≤ Prox.sumL (List.ofFn fun k => w k * w k) ∧
    (if RealLike.beq (Prox.norm2 w) 0 then 1 else Prox.norm2 w) ≠ 0 := by
  constructor
  · rw [Prox.sumL, ← List.sum_eq_foldl, List.sum_ofFn]
    exact Finset.sum_nonneg fun k _ => mul_self_nonneg (w k)
  · simp only [RealLike.beq_real, decide_eq_true_eq]
    split_ifs with h0
    · norm_num
    · exact h0

/-- `mlp_prox_grad`: the divisor `1 + s * M**2` is positive.  (Its other divisor, `norm_v`, is not guarded by the code.) -/
theorem hier_prox_denominator_pos (s : ℕ) (M : ℝ) : 0 < 1 + (RealLike.nat s : ℝ) * (M * M) := by
  have : (0 : ℝ) ≤ (s : ℝ) * (M * M) := mul_nonneg (Nat.cast_nonneg s) (mul_self_nonneg M)
  simp only [RealLike.nat_real]; linarith

/-- `Douglas`: the temperature (validated `> 0`) is a non-zero divisor of `logits / self.temperature` and
    `bin_grad /= self.temperature`; and over ℝ every soft-bin membership `softmax(logits / temperature)[j]` is strictly
    positive.  Before /repo commit 62053a1 `_compute_grads` divided by these memberships
    (`binning_backprop.sum(...) / self._all_binnings[i]`): defined over ℝ by this theorem, but in IEEE arithmetic a
    membership underflows to `0.0` as soon as two logits differ by more than `745·temperature`, giving `0/0` — the
    statement is exactly what floating point breaks.  The source, and `Model/Douglas.lean computeGrads` with it, has
    the algebraically equal division-free form. -/
theorem douglas_divisors_pos {T : ℝ} (hT : 0 < T) (x : ℝ) (cuts : List ℝ) (j : ℕ) (hj : j ≤ cuts.length) :
    T ≠ 0 ∧ 0 < (Douglas.binning T x cuts).getD j 0 :=
  ⟨hT.ne', GemVerif.Douglas.memb_pos T x cuts hj⟩

/-- Every denominator of the gain formulas `leftStar, rightStar, leftSwitch, rightSwitch` (`Gen/KauriGains.lean`,
    regenerated from `_utils.pyx`) is positive under the loop guards of `compute_all_splits`
    (`n_leaf ≥ 2`, `1 ≤ split < n_leaf`, `n_leaf ≤ cs_k`, `cs_p ≥ 1`); those of `doubleStar` and
    `corrective` are positive under the additional source guard `n_leaf != cluster_sizes[k]`.  The list of denominators
    is compared with the regenerated file by `harness/props/c17.py` on every run. -/
theorem kauri_gain_denominators {n_leaf split cs_k cs_p : ℝ} (g : SplitGuards n_leaf split cs_k cs_p) :
    (0 < split ∧ 0 < n_leaf - split ∧ 0 < n_leaf ∧ 0 < cs_k ∧ 0 < cs_k - split ∧ 0 < cs_k - (n_leaf - split) ∧
      0 < cs_p + split ∧ 0 < cs_p ∧ 0 < cs_p + (n_leaf - split) ∧ 0 < cs_k - n_leaf + split ∧
      (RealLike.nat 1 : ℝ) ≠ 0 ∧ (RealLike.nat 2 : ℝ) ≠ 0) ∧
    (n_leaf ≠ cs_k → 0 < cs_k - n_leaf) := by
  obtain ⟨leaf, split_lo, split_hi, inside, other⟩ := g
  refine ⟨⟨by linarith, by linarith, by linarith, by linarith, by linarith, by linarith, by linarith, by linarith,
    by linarith, by linarith, by simp, by simp⟩, fun hne => ?_⟩
  exact sub_pos.mpr (lt_of_le_of_ne inside hne)

/-- hence the star / switch formulas can be cleared of denominators: e.g. `leftStar` times its three denominators is a
    polynomial (no hidden `x/0 = 0` is used by the C08 identities on guarded states) -/
theorem leftStar_cleared {n_leaf split cs_k cs_p : ℝ} (g : SplitGuards n_leaf split cs_k cs_p)
    (sl_square sr_square leaf_square gamma_kk gamma_pp sl_k sr_k sl_p sr_p om : ℝ) :
    Gen.Kauri.leftStar sl_square sr_square leaf_square n_leaf split cs_k cs_p gamma_kk gamma_pp sl_k sr_k sl_p sr_p om
        * (split * (cs_k - split) * cs_k) =
      sl_square * (cs_k - split) * cs_k + sl_square * split * cs_k + gamma_kk * split * cs_k
        - gamma_kk * split * (cs_k - split) - 2 * sl_k * split * cs_k := by
  obtain ⟨⟨hs, _, _, hk, hks, _⟩, _⟩ := kauri_gain_denominators g
  simp only [Gen.Kauri.leftStar, RealLike.nat_real]
  field_simp
  ring

/-- the default `epsilon = 1e-12` meets the guard -/
example : (0 : ℝ) < 1e-12 ∧ (1e-12 : ℝ) ≤ 1 / 2 := by norm_num

/-- `SplitGuards` is satisfiable: a leaf of 3 samples in a cluster of 5, cut after the first sample, another cluster
    of 2 -/
example : SplitGuards 3 1 5 2 := ⟨by norm_num, by norm_num, by norm_num, by norm_num, by norm_num⟩

/-- one-hot predictions (the saturated case): after clipping, the window holds with equality at both ends -/
example : clipP (1e-12 : ℝ) (fun (_ : Fin 1) (k : Fin 2) => if k = 0 then 1 else 0) 0 0 = 1 - 1e-12 ∧
    clipP (1e-12 : ℝ) (fun (_ : Fin 1) (k : Fin 2) => if k = 0 then 1 else 0) 0 1 = 1e-12 := by
  simp only [clipP, RealLike.clip_real, if_true, one_ne_zero, if_false]
  constructor
  · rw [max_eq_left (by norm_num), min_eq_right (by norm_num)]
  · rw [max_eq_right (by norm_num), min_eq_left (by norm_num)]

end GemVerif.Props.C17
