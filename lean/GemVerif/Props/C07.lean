/-
  C07 — the regularisation path honours its stopping, history and best-weights contract.
  Model: `Model/Path.lean` (`_path` as a fold over an observed trace; `path`'s restoration rule), restore blocks:
  `Model/Sparse.lean`.  Most theorems below are fields of `runPath_appended` (`Lemmas/Path.lean`).

  Notation used in the statements.  `r = (runPath α₀ maxIter d args tr).1` is the result of `_path` on the trace `tr`;
  `a = (normalise args d).1` are the arguments after the defaults block.  `T = r.alphas.length` is the number of recorded
  steps.  Theorems stated for an arbitrary number type `α` hold verbatim for IEEE doubles (they use no algebraic law);
  theorems over `ℝ` are marked.

  Termination.  The inner loop always terminates (`inner_loop_bounded`).  The outer loop is proved to terminate only under
  the hypothesis that the selected count eventually drops to `min_features` (`path_terminates_if_count_drops_partial`): nothing in
  `_path` forces that.  In particular `alpha = 0`, which the estimators' validation accepts, gives `alphas[t] = 0` for every `t`
  (`alpha_zero_stays_zero`), hence a proximal threshold `0·lr = 0` that removes nothing (`alpha_zero_prox_removes_nothing`).
-/
import GemVerif.Lemmas.Path
import GemVerif.Model.Sparse
import GemVerif.Lemmas.ProxModel

namespace GemVerif.Props.C07
open GemVerif Model.Path Model.Sparse

variable {α : Type} [RealLike α] {ω : Type}

/-- **The four histories have equal length** (and so has the ghost history of weights). -/
theorem histories_equal_length (alpha0 : α) (maxIter d : Nat) (args : PathArgs α) (tr : Trace α ω) :
    (runPath alpha0 maxIter d args tr).1.geminis.length = (runPath alpha0 maxIter d args tr).1.alphas.length ∧
    (runPath alpha0 maxIter d args tr).1.penalties.length = (runPath alpha0 maxIter d args tr).1.alphas.length ∧
    (runPath alpha0 maxIter d args tr).1.nFeatures.length = (runPath alpha0 maxIter d args tr).1.alphas.length ∧
    (runPath alpha0 maxIter d args tr).1.weightsHist.length = (runPath alpha0 maxIter d args tr).1.alphas.length := by
  have S := runPath_appended alpha0 maxIter d args tr
  have hT := List.length_take_of_le S.le
  refine ⟨S.scores_length, ?_, ?_, ?_⟩
  · rw [show (runPath alpha0 maxIter d args tr).1.penalties = (tr.steps.take _).map _ from S.penalties, List.length_map, hT]
  · rw [show (runPath alpha0 maxIter d args tr).1.nFeatures = (tr.steps.take _).map _ from S.nFeatures, List.length_map, hT]
  · rw [show (runPath alpha0 maxIter d args tr).1.weightsHist = (tr.steps.take _).map _ from S.weightsHist, List.length_map, hT]

/-- **The alphas start at the model's alpha and each is the previous one times `alpha_multiplier`** — by repeated
    multiplication, in any number type (this is bit-exactly what doubles do): `[α₀, α₀·m, (α₀·m)·m, …]`. -/
theorem alphas_repeated_multiplication (alpha0 : α) (maxIter d : Nat) (args : PathArgs α) (tr : Trace α ω) :
    (runPath alpha0 maxIter d args tr).1.alphas
      = geomList alpha0 (normalise args d).1.alphaMultiplier (runPath alpha0 maxIter d args tr).1.alphas.length :=
  (runPath_appended alpha0 maxIter d args tr).alphas

/-- (ℝ) **`alphas[t] = α₀ · m^t`.** -/
theorem alphas_geometric (alpha0 : ℝ) (maxIter d : Nat) (args : PathArgs ℝ) (tr : Trace ℝ ω) :
    (runPath alpha0 maxIter d args tr).1.alphas
      = (List.range (runPath alpha0 maxIter d args tr).1.alphas.length).map
          fun t => alpha0 * (normalise args d).1.alphaMultiplier ^ t := by
  have h := alphas_repeated_multiplication alpha0 maxIter d args tr
  rw [geomList_real] at h
  exact h

/-- **Each recorded feature count and penalty is that of the model at that step**: with `T` recorded steps, the
    histories are the observed counts / penalties / weights after the first `T` steps of the trace, in order. -/
theorem recorded_counts_and_penalties (alpha0 : α) (maxIter d : Nat) (args : PathArgs α) (tr : Trace α ω) :
    (runPath alpha0 maxIter d args tr).1.alphas.length ≤ tr.steps.length ∧
    (runPath alpha0 maxIter d args tr).1.nFeatures
      = (tr.steps.take (runPath alpha0 maxIter d args tr).1.alphas.length).map (·.nSel) ∧
    (runPath alpha0 maxIter d args tr).1.penalties
      = (tr.steps.take (runPath alpha0 maxIter d args tr).1.alphas.length).map (·.penalty) ∧
    (runPath alpha0 maxIter d args tr).1.weightsHist
      = (tr.steps.take (runPath alpha0 maxIter d args tr).1.alphas.length).map (·.weights) :=
  have S := runPath_appended alpha0 maxIter d args tr
  ⟨S.le, S.nFeatures, S.penalties, S.weightsHist⟩

/-- **On a normal exit the last recorded feature count is at most `min_features`** (the count after the initial fit
    when no step was recorded); `min_features` is the value after the defaults block. -/
theorem normal_exit_last_count (alpha0 : α) (maxIter d : Nat) (args : PathArgs α) (tr : Trace α ω)
    (hx : (runPath alpha0 maxIter d args tr).1.exit = .normal) :
    (((runPath alpha0 maxIter d args tr).1.nFeatures.getLast?.getD tr.initNSel : Nat) : Int)
      ≤ (normalise args d).1.minFeatures := by
  have S := runPath_appended alpha0 maxIter d args tr
  rw [show (runPath alpha0 maxIter d args tr).1.nFeatures = _ from S.nFeatures]
  exact (S.normal hx).2

/-- **On a NaN abort nothing is appended for the aborted step**: the histories hold exactly the `T` steps before it
    (`recorded_counts_and_penalties`), one more step was started than recorded, that step is `tr.steps[T]`, one of its
    observed epochs has a NaN score, and the estimator is left with that step's weights. -/
theorem nan_abort_appends_nothing (alpha0 : α) (maxIter d : Nat) (args : PathArgs α) (tr : Trace α ω)
    (hx : (runPath alpha0 maxIter d args tr).1.exit = .nanAbort) :
    (runPath alpha0 maxIter d args tr).1.epochsRun.length = (runPath alpha0 maxIter d args tr).1.alphas.length + 1 ∧
    ∃ s e, tr.steps[(runPath alpha0 maxIter d args tr).1.alphas.length]? = some s ∧ e ∈ s.epochs ∧ e.isNaN = true ∧
      (runPath alpha0 maxIter d args tr).1.curW = s.weights := by
  have h := (runPath_appended alpha0 maxIter d args tr).nanAbort hx
  rwa [show (initState alpha0 tr).epochsRun.length = 0 from rfl, Nat.zero_add] at h

/-- On a normal exit exactly as many steps were started as recorded (after a NaN abort one more was started:
    `nan_abort_appends_nothing`). -/
theorem normal_exit_all_steps_recorded (alpha0 : α) (maxIter d : Nat) (args : PathArgs α) (tr : Trace α ω)
    (hx : (runPath alpha0 maxIter d args tr).1.exit = .normal) :
    (runPath alpha0 maxIter d args tr).1.epochsRun.length = (runPath alpha0 maxIter d args tr).1.alphas.length :=
  (((runPath_appended alpha0 maxIter d args tr).normal hx).1).trans (Nat.zero_add _)

/-- **The inner loop terminates**: it is a structural recursion over the observed epochs, its counter `i` increases by
    one per epoch and never exceeds `max_iter` — every started step ran at most `max_iter` epochs. -/
theorem inner_loop_bounded (alpha0 : α) (maxIter d : Nat) (args : PathArgs α) (tr : Trace α ω) :
    ∀ i ∈ (runPath alpha0 maxIter d args tr).1.epochsRun, i ≤ maxIter :=
  (runPath_appended alpha0 maxIter d args tr).epochs_le fun _ hi => nomatch hi

/-- the inner loop of one step, in isolation: counter bounded by `max_iter`, at most one observation consumed per
    iteration, and the score it leaves in `iteration_gemini_score` is the one observed after the last epoch it ran -/
theorem inner_loop_contract (maxIter : Nat) (maxPat : Int) (esf alpha vs vl : α) (eps : List (Epoch α))
    (i : Nat) (last : Option (Epoch α))
    (h : innerLoop maxIter maxPat esf alpha 0 0 vs vl none eps = .done i last) :
    i ≤ maxIter ∧ i ≤ eps.length ∧ ((i = 0 ∧ last = none) ∨ (0 < i ∧ ∃ e, eps[i - 1]? = some e ∧ last = some e)) := by
  obtain ⟨k, hk, hi, hmax, hlast⟩ := (innerLoop_spec _ _ _ _ _ _ _ _ _ _).2 _ _ h
  rw [Nat.zero_add] at hi
  subst hi
  refine ⟨hmax (Nat.zero_le _), hk, ?_⟩
  rcases hlast with h0 | ⟨k', e, rfl, he, hl⟩
  · exact Or.inl h0
  · exact Or.inr ⟨Nat.succ_pos _, e, he, hl⟩

/-- the trace is sufficient for the inner loop whenever `max_iter` epochs were observed: the model then never reports
    `needMoreEpochs` for that step -/
theorem inner_loop_never_starves (maxIter : Nat) (maxPat : Int) (esf alpha vs vl : α) (last0 : Option (Epoch α))
    (eps : List (Epoch α)) (h : maxIter ≤ eps.length) :
    innerLoop maxIter maxPat esf alpha 0 0 vs vl last0 eps ≠ .exhausted := by
  intro hx
  have := (innerLoop_spec _ _ _ _ _ _ _ _ _ _).1 hx
  omega

/-- **Outer-loop termination, partial.**  Hypothesis (not provable from `_path`: it is a statement about the optimiser and
    the data): at some step of the observed trace the selected count is at most `min_features`.  Then the loop has
    stopped by then — the model never asks for a step beyond the trace.
    Full statement that does not hold: "for every `alpha ≥ 0` … `path` terminates" — see `alpha_zero_stays_zero`. -/
theorem path_terminates_if_count_drops_partial (alpha0 : α) (maxIter d : Nat) (args : PathArgs α) (tr : Trace α ω)
    (hdrop : ∃ s ∈ tr.steps, (s.nSel : Int) ≤ (normalise args d).1.minFeatures) :
    (runPath alpha0 maxIter d args tr).1.exit ≠ .needMoreSteps := fun hx =>
  have ⟨s, hs, hle⟩ := hdrop
  absurd (((runPath_appended alpha0 maxIter d args tr).noDrop hx).2 s hs) (not_lt.mpr hle)

/-- `hdrop` of `path_terminates_if_count_drops_partial` is satisfiable (a one-step trace that drops every feature) -/
example : ∃ (tr : Trace ℝ Nat) (args : PathArgs ℝ),
    ∃ s ∈ tr.steps, (s.nSel : Int) ≤ (normalise args 3).1.minFeatures :=
  ⟨{ initScore := 1, initNSel := 3, initWeights := 0,
     steps := [{ valScore := 1, valPenalty := 1, epochs := [], nSel := 0, penalty := 0, weights := 1 }] },
   { alphaMultiplier := 2, minFeatures := 2, keepThreshold := 0.9, earlyStoppingFactor := 0.99, maxPatience := 10 },
   _, List.mem_cons_self, by rw [normalise_minFeatures]; decide⟩

/-- a bounded run that ends asking for more steps has consumed the whole trace, and its last recorded count (the
    initial one if the trace is empty) is still above `min_features` — this is how non-termination shows in a bounded
    run.  (The direction proved is "`needMoreSteps` ⇒ no drop at the end", not its converse.) -/
theorem need_more_steps_means_no_drop (alpha0 : α) (maxIter d : Nat) (args : PathArgs α) (tr : Trace α ω)
    (hx : (runPath alpha0 maxIter d args tr).1.exit = .needMoreSteps) :
    (runPath alpha0 maxIter d args tr).1.alphas.length = tr.steps.length ∧
    (((runPath alpha0 maxIter d args tr).1.nFeatures.getLast?.getD tr.initNSel : Nat) : Int)
      > (normalise args d).1.minFeatures := by
  have S := runPath_appended alpha0 maxIter d args tr
  refine ⟨(S.needMoreSteps hx).1, ?_⟩
  rw [show (runPath alpha0 maxIter d args tr).1.nFeatures = _ from S.nFeatures]
  exact (S.needMoreSteps hx).2

/-- (ℝ) **`alpha = 0` is a fixed point of `alpha *= alpha_multiplier`**: every recorded alpha is `0`. -/
theorem alpha_zero_stays_zero (maxIter d : Nat) (args : PathArgs ℝ) (tr : Trace ℝ ω) :
    ∀ a ∈ (runPath (0 : ℝ) maxIter d args tr).1.alphas, a = 0 := by
  intro a ha
  rw [alphas_geometric] at ha
  obtain ⟨t, _, rfl⟩ := List.mem_map.mp ha
  simp

/-- (ℝ) … and with `alpha = 0` the proximal threshold `alpha·lr` is `0`, for which the group-lasso proximal operator is
    the identity: it never removes a feature, so the selected count is whatever the optimiser leaves. -/
theorem alpha_zero_prox_removes_nothing {d h : ℕ} (W : Fin d → Fin h → ℝ) (lr : ℝ) :
    Model.Prox.linearProx W (threshold 0 lr) = W := by
  rw [show threshold (0 : ℝ) lr = 0 from zero_mul lr]
  funext i
  have h := linearProxRow_eq (W i) 0
  rw [Spec.Prox.glProx_zero] at h
  exact congrArg WithLp.ofLp h

/-- **Best-weights rule.**  Let `cs` be the recorded steps, each with its score, feature count and weights.
    `best_gemini_score` ends as the running best `runBest` (the initial fit's score, raised by every step whose score is
    `≥` it while all `d` features are selected).  The returned `best_weights` are the weights of the last step `c` with
    `score_c ≥ keep_threshold · B_c`, where `B_c` is the running best over the initial fit and the steps up to and
    including `c`; if no step qualifies they are the snapshot taken after the initial fit. -/
theorem best_weights_rule (alpha0 : α) (maxIter d : Nat) (args : PathArgs α) (tr : Trace α ω) :
    (runPath alpha0 maxIter d args tr).1.best = runBest d tr.initScore
      (completed (runPath alpha0 maxIter d args tr).1.geminis (runPath alpha0 maxIter d args tr).1.nFeatures
        (runPath alpha0 maxIter d args tr).1.weightsHist) ∧
    LastAccepted (normalise args d).1.keepThreshold d tr.initScore tr.initWeights
      (completed (runPath alpha0 maxIter d args tr).1.geminis (runPath alpha0 maxIter d args tr).1.nFeatures
        (runPath alpha0 maxIter d args tr).1.weightsHist)
      (runPath alpha0 maxIter d args tr).1.bestWeights := by
  have S := runPath_appended alpha0 maxIter d args tr
  rw [show (runPath alpha0 maxIter d args tr).1.nFeatures = _ from S.nFeatures,
    show (runPath alpha0 maxIter d args tr).1.weightsHist = _ from S.weightsHist]
  exact ⟨S.best, S.bestWeights⟩

/-- (ℝ) the two Boolean tests of the rule, spelled out: the best score moves to `s` iff `s ≥ B` with all `d` features
    selected; a step is accepted iff `keep_threshold · B ≤ score` -/
theorem best_rule_tests_real (d : Nat) (B s thr : ℝ) (n : Nat) :
    newBest d B s n = (if B ≤ s ∧ n = d then s else B) ∧ (keeps thr B s = true ↔ thr * B ≤ s) :=
  ⟨newBest_real d B s n, keeps_real thr B s⟩

/-- **Running best = final best after the last all-features step** (reading of "the best score seen while all features
    were still selected", DESIGN §12): steps at which some feature is already gone never change the running best, so for
    every step after the last all-features step the running best used by the rule is the final best. -/
theorem running_best_final_after_last_full_step (d : Nat) (B0 : α) (pre post : List (α × Nat × ω))
    (hpost : ∀ c ∈ post, c.2.1 ≠ d) :
    ∀ post₁ post₂, post = post₁ ++ post₂ → runBest d B0 (pre ++ post₁) = runBest d B0 (pre ++ post) := by
  intro post₁ post₂ hp
  rw [runBest_append_not_full d B0 pre post hpost]
  exact runBest_append_not_full d B0 pre post₁ (fun c hc => hpost c (by rw [hp]; exact List.mem_append_left _ hc))

/-- the rule on an explicit three-step history over ℝ (`d = 3`, threshold 0.9, initial score 1):
    scores 1.2 (3 features), 1.1 (2 features), 0.5 (1 feature) → best 1.2, best weights = those of step 2 -/
example : LastAccepted (0.9 : ℝ) 3 1 (0 : Nat) [(1.2, 3, 1), (1.1, 2, 2), (0.5, 1, 3)] 2 := by
  -- step by step from the front, as the code does; the state after the three steps is computed by `norm_num`
  refine lastAccepted_cons _ _ _ _ _ _ _ (lastAccepted_cons _ _ _ _ _ _ _ (lastAccepted_cons _ _ _ _ _ _ _ ?_))
  convert lastAccepted_nil (0.9 : ℝ) 3 _ _ using 1
  simp only [newBest_real]
  norm_num [keeps_real]

/-- **`restore ∘ snapshot = id` on `_get_weights()`** (sparse MLP): the restore block of `SparseMLPModel.path` applied to
    `[w.copy() for w in _get_weights()]` of a state gives that state back, whatever the estimator held before. -/
theorem mlp_restore_snapshot {A : Type} (est est' : MlpSlot → A) :
    applyRestore mlpRestoreBlock est (snapshot mlpGetWeights est') = est' := by
  funext s; cases s <;> rfl

/-- the same for `SparseLinearModel.path` -/
theorem linear_restore_snapshot {A : Type} (est est' : LinSlot → A) :
    applyRestore linRestoreBlock est (snapshot linGetWeights est') = est' := by
  funext s; cases s <;> rfl

/-- **both restore blocks list every weight of `_get_weights()`, each with its own position** -/
theorem restore_blocks_list_all_weights :
    mlpRestoreBlock = mlpGetWeights.zipIdx ∧ linRestoreBlock = linGetWeights.zipIdx := ⟨rfl, rfl⟩

omit [RealLike α] in
/-- **what the estimator holds after `path`**: the returned best weights iff `restore_best_weights` on a non-dynamic
    model, the weights of the last step otherwise (with a warning when restoration was asked of a dynamic model). -/
theorem after_path_state (restore dynamic : Bool) (r : PathResult α ω) :
    afterPath restore dynamic r =
      if restore = true ∧ dynamic = false then (r.bestWeights, false) else (r.curW, restore && dynamic) := by
  cases restore <;> cases dynamic <;> rfl

/-- **`_path` hands the estimator back with its own `alpha`** (`finally: clf.set_params(alpha=initial_alpha)`):
    on every way out of the Python function — normal exit, NaN abort, or the `UnboundLocalError` of `max_patience ≤ 0` —
    `clf.alpha` is the value it had on entry, not `0` and not the last alpha of the path. -/
theorem path_returns_with_initial_alpha (alpha0 : α) (maxIter d : Nat) (args : PathArgs α) (tr : Trace α ω)
    (hx : (runPath alpha0 maxIter d args tr).1.exit = .normal ∨ (runPath alpha0 maxIter d args tr).1.exit = .nanAbort ∨
          (runPath alpha0 maxIter d args tr).1.exit = .unboundScore) :
    (runPath alpha0 maxIter d args tr).1.clfAlpha = alpha0 := by
  change (restoreAlpha alpha0 _).exit = .normal ∨ (restoreAlpha alpha0 _).exit = .nanAbort ∨
    (restoreAlpha alpha0 _).exit = .unboundScore at hx
  rw [restoreAlpha_exit] at hx
  exact restoreAlpha_clfAlpha alpha0 _ hx

/-- (ℝ) **Out-of-range arguments are replaced by the documented defaults, with a warning; in-range arguments are kept,
    without one**: `alpha_multiplier ≤ 1 ↦ 1.05`, `keep_threshold ∉ [0,1] ↦ 0.9`, `min_features ≤ 0 ↦ 2`. -/
theorem defaults (a : PathArgs ℝ) (d : Nat) :
    let n := normalise a d
    (a.alphaMultiplier ≤ 1 → n.1.alphaMultiplier = 1.05 ∧ n.2.multiplier = true) ∧
    (1 < a.alphaMultiplier → n.1.alphaMultiplier = a.alphaMultiplier ∧ n.2.multiplier = false) ∧
    (a.keepThreshold < 0 ∨ 1 < a.keepThreshold → n.1.keepThreshold = 0.9 ∧ n.2.keepThreshold = true) ∧
    (0 ≤ a.keepThreshold ∧ a.keepThreshold ≤ 1 → n.1.keepThreshold = a.keepThreshold ∧ n.2.keepThreshold = false) ∧
    (a.minFeatures ≤ 0 → n.1.minFeatures = 2 ∧ n.2.minFeatures = true) ∧
    (0 < a.minFeatures → n.1.minFeatures = a.minFeatures ∧ n.2.minFeatures = false) ∧
    n.1.earlyStoppingFactor = a.earlyStoppingFactor ∧ n.1.maxPatience = a.maxPatience := by
  intro n
  -- each component of `normalise` is an `if` on its own test, and the warning flag is that test (Lemmas/Path.lean)
  have hF : ∀ {b : Bool} {p : Prop}, (b = true ↔ p) → ¬ p → b = false := fun hb hp =>
    Bool.eq_false_iff.mpr (mt hb.mp hp)
  refine ⟨fun h => ?_, fun h => ?_, fun h => ?_, fun h => ?_, fun h => ?_, fun h => ?_, rfl, rfl⟩
  · exact ⟨by rw [normalise_alphaMultiplier, if_pos h], (normalise_warns_multiplier a d).mpr h⟩
  · exact ⟨by rw [normalise_alphaMultiplier, if_neg (not_le.mpr h)],
      hF (normalise_warns_multiplier a d) (not_le.mpr h)⟩
  · exact ⟨by rw [normalise_keepThreshold, if_pos h], (normalise_warns_keepThreshold a d).mpr h⟩
  · have hn : ¬ (a.keepThreshold < 0 ∨ 1 < a.keepThreshold) := not_or.mpr ⟨not_lt.mpr h.1, not_lt.mpr h.2⟩
    exact ⟨by rw [normalise_keepThreshold, if_neg hn], hF (normalise_warns_keepThreshold a d) hn⟩
  · exact ⟨by rw [normalise_minFeatures, if_pos h]; rfl, (normalise_warns_minFeatures a d).mpr h⟩
  · exact ⟨by rw [normalise_minFeatures, if_neg (not_le.mpr h)],
      hF (normalise_warns_minFeatures a d) (not_le.mpr h)⟩

/-- `min_features ≥ d` only warns (the path is then equivalent to `fit`): the value is kept -/
theorem min_features_ge_d_only_warns (a : PathArgs α) (d : Nat) (h0 : 0 < a.minFeatures) (hd : (d : Int) ≤ a.minFeatures) :
    (normalise a d).1.minFeatures = a.minFeatures ∧ (normalise a d).2.minFeaturesGe = true :=
  ⟨by rw [normalise_minFeatures, if_neg (Int.not_le.mpr h0)], (normalise_warns_minFeaturesGe a d).mpr ⟨h0, hd⟩⟩

end GemVerif.Props.C07
