/-
  C04 — fit succeeds on every valid configuration and yields a coherent model.

  `Model/Api.lean` is the state machine of `gemclus/_base_gemini.py` (`fit / fit_predict / predict_proba / predict /
  score`) over an abstract model family `F` (forward pass `F.infer`, objective `F.gemini`, affinity `F.affinity`, one
  epoch of training `F.epoch`).  The theorems below hold for every family, every number type `α` (IEEE doubles included)
  and all sizes unless they say ℝ; the ℝ-theorems add what needs real arithmetic: soft-max rows are probability vectors
  and `np.argmax` picks the first maximal entry.

  What is not a theorem: "the numerical code inside an epoch never raises" (numpy shape errors, POT assertions, …) — in
  the model `F.epoch` is a total function.  That part of the property is the configuration sweep of
  `harness/props/c04.py` on the real code (DESIGN 6, C04: partial by nature).
-/
import GemVerif.Lemmas.Api
import GemVerif.Props.C09

namespace GemVerif.Props.C04
open GemVerif Model.Api Model.Nets ApiLemmas

variable {α : Type} [RealLike α] {K : Nat} {X Y Aff Params Opt Rng : Type}

/-- In the model `fit` fails exactly for the three documented reasons: the hyper-parameters are rejected by validation,
    there are fewer samples than clusters, or the affinity cannot be computed (precomputed affinity not supplied). -/
theorem fit_ok_iff (F : Family α K X Y Aff Params Opt Rng) (e : Estimator Params Opt) (rng : Rng) (x : X)
    (y : Option Y) :
    (∃ e', fit F e rng x y = .ok e') ↔
      e.cfg.valid K = true ∧ K ≤ F.rows x ∧ (F.affinity x y).isSome = true := by
  cases hv : e.cfg.valid K
  · rw [fit_of_invalid F hv]
    exact ⟨fun ⟨_, h⟩ => (by cases h), fun h => (by cases h.1)⟩
  by_cases hn : F.rows x < K
  · rw [fit_of_tooFew F hv hn]
    exact ⟨fun ⟨_, h⟩ => (by cases h), fun h => absurd hn (Nat.not_lt.2 h.2.1)⟩
  cases ha : F.affinity x y with
  | none =>
    rw [fit_of_noAffinity F hv (Nat.not_lt.1 hn) ha]
    exact ⟨fun ⟨_, h⟩ => (by cases h), fun h => (by cases h.2.2)⟩
  | some aff => exact ⟨fun _ => ⟨rfl, Nat.not_lt.1 hn, rfl⟩, fun _ => ⟨_, fit_of_affinity F hv (Nat.not_lt.1 hn) ha⟩⟩

/-- After a successful `fit` the estimator carries `labels_ = argmax(_infer(X))` of the final weights,
    `n_iter_ = max_iter`, an optimiser of the class named by `solver`, and unchanged constructor arguments. -/
theorem fit_attributes (F : Family α K X Y Aff Params Opt Rng) {e e' : Estimator Params Opt} {rng : Rng} {x : X}
    {y : Option Y} (h : fit F e rng x y = .ok e') :
    e'.cfg = e.cfg ∧ ∃ f, e'.fitted = some f ∧ f.labels = (F.infer f.params true x).argmax ∧
      f.nIter = e.cfg.maxIter ∧ f.optimiser = optimiserOf e.cfg.solver := by
  obtain ⟨hv, hn, ha⟩ := (fit_ok_iff F e rng x y).1 ⟨e', h⟩
  obtain ⟨aff, ha⟩ := Option.isSome_iff_exists.1 ha
  rw [fit_of_affinity F hv hn ha] at h
  obtain rfl := Except.ok.inj h
  exact ⟨rfl, _, rfl, rfl, rfl, rfl⟩

/-- `n_iter_ == max_iter`. -/
theorem n_iter_eq_max_iter (F : Family α K X Y Aff Params Opt Rng) {e e' : Estimator Params Opt} {rng : Rng} {x : X}
    {y : Option Y} (h : fit F e rng x y = .ok e') : e'.fitted.map (·.nIter) = some e.cfg.maxIter := by
  obtain ⟨_, f, hf, _, hn, _⟩ := fit_attributes F h
  rw [hf, ← hn]
  rfl

/-- `type(optimiser_)` is `SGDOptimizer` for `solver="sgd"` and `AdamOptimizer` for `solver="adam"`. -/
theorem optimiser_matches_solver (F : Family α K X Y Aff Params Opt Rng) {e e' : Estimator Params Opt} {rng : Rng}
    {x : X} {y : Option Y} (h : fit F e rng x y = .ok e') :
    e'.fitted.map (·.optimiser) = some (optimiserOf e.cfg.solver) ∧
      optimiserOf .sgd = .SGDOptimizer ∧ optimiserOf .adam = .AdamOptimizer := by
  obtain ⟨_, f, hf, _, _, ho⟩ := fit_attributes F h
  exact ⟨by rw [hf, ← ho]; rfl, rfl, rfl⟩

/-- A successful `fit` implies `n_clusters ≥ 1`, `max_iter ≥ 1` and at least `n_clusters` samples. -/
theorem fit_ok_bounds (F : Family α K X Y Aff Params Opt Rng) {e e' : Estimator Params Opt} {rng : Rng} {x : X}
    {y : Option Y} (h : fit F e rng x y = .ok e') : 1 ≤ K ∧ 1 ≤ e.cfg.maxIter ∧ K ≤ F.rows x := by
  obtain ⟨hv, hn, _⟩ := (fit_ok_iff F e rng x y).1 ⟨e', h⟩
  simp only [Config.valid, Bool.and_eq_true, decide_eq_true_eq] at hv
  exact ⟨hv.1.1, hv.1.2, hn⟩

/-- `predict = argmax ∘ predict_proba` (errors included: both raise `NotFittedError` before `fit`). -/
theorem predict_eq_argmax_predict_proba (F : Family α K X Y Aff Params Opt Rng) (e : Estimator Params Opt) (x : X) :
    predict F e x = (predictProba F e x).map Mat.argmax := by
  unfold predict predictProba
  cases e.fitted <;> rfl

/-- every entry of `np.argmax(P, axis=1)` is a column index, one entry per row — for every number type -/
theorem argmax_range (P : Mat α K) (hK : 1 ≤ K) : P.argmax.length = P.n ∧ ∀ c ∈ P.argmax, c < K := by
  refine ⟨List.length_ofFn, fun c hc => ?_⟩
  simp only [Mat.argmax, List.mem_ofFn] at hc
  obtain ⟨i, rfl⟩ := hc
  exact argmaxRow_lt _ hK

/-- `labels_` has one entry per row of the predictions on the training data, each in `[0, n_clusters)`. -/
theorem labels_range (F : Family α K X Y Aff Params Opt Rng) {e e' : Estimator Params Opt} {rng : Rng} {x : X}
    {y : Option Y} (h : fit F e rng x y = .ok e') :
    ∃ f, e'.fitted = some f ∧ f.labels.length = (F.infer f.params true x).n ∧ ∀ c ∈ f.labels, c < K := by
  obtain ⟨_, f, hf, hl, _, _⟩ := fit_attributes F h
  have hK := (fit_ok_bounds F h).1
  exact ⟨f, hf, by rw [hl]; exact (argmax_range _ hK).1, by rw [hl]; exact (argmax_range _ hK).2⟩

/-- `predict(X_train) == labels_` whenever the forward pass does not depend on the `retain` flag. -/
theorem predict_train_eq_labels (F : Family α K X Y Aff Params Opt Rng)
    (hretain : ∀ θ x, F.infer θ true x = F.infer θ false x)
    {e e' : Estimator Params Opt} {rng : Rng} {x : X} {y : Option Y} (h : fit F e rng x y = .ok e') :
    ∃ f, e'.fitted = some f ∧ predict F e' x = .ok f.labels := by
  obtain ⟨_, f, hf, hl, _, _⟩ := fit_attributes F h
  refine ⟨f, hf, ?_⟩
  rw [predict_eq_argmax_predict_proba, predictProba_of_fitted F hf, hl, hretain]
  rfl

/-- The forward passes of Linear / MLP / SparseMLP models ignore `retain` (it only decides whether `H_` is stored). -/
theorem concrete_families_ignore_retain {d h : Nat} :
    (∀ (init : LinearParams α d K) tr g θ x,
      (linearFamily init tr g).infer θ true x = (linearFamily init tr g).infer θ false x) ∧
    (∀ (init : MlpParams α d h K) tr g θ x,
      (mlpFamily init tr g).infer θ true x = (mlpFamily init tr g).infer θ false x) :=
  ⟨fun _ _ _ _ _ => rfl, fun _ _ _ _ _ => rfl⟩

/-- `fit_predict(X) = fit(X).labels_`. -/
theorem fit_predict_eq_labels (F : Family α K X Y Aff Params Opt Rng) {e e' : Estimator Params Opt} {rng : Rng}
    {x : X} {y : Option Y} (h : fit F e rng x y = .ok e') :
    ∃ f, e'.fitted = some f ∧ fitPredict F e rng x y = .ok (e', f.labels) := by
  obtain ⟨_, f, hf, _⟩ := fit_attributes F h
  exact ⟨f, hf, by rw [fitPredict_of_ok F h, hf]; rfl⟩

/-- Before `fit`, `predict_proba`, `predict` (and hence `score`) raise `NotFittedError`. -/
theorem not_fitted (F : Family α K X Y Aff Params Opt Rng) (cfg : Config) (x : X) :
    predictProba F { cfg := cfg } x = .error .notFitted ∧ predict F { cfg := cfg } x = .error .notFitted :=
  ⟨rfl, rfl⟩

omit [RealLike α] in
/-- `score(X, y) = gemini(predict_proba(X), affinity(X, y))` on any data, for a fitted estimator. -/
theorem score_eq_gemini (F : Family α K X Y Aff Params Opt Rng) (e : Estimator Params Opt) (x : X) (y : Option Y)
    {P : Mat α K} {aff : Aff} (hP : predictProba F e x = .ok P) (ha : F.affinity x y = some aff) :
    score F e x y = .ok (F.gemini P aff) := by
  unfold score
  rw [ha, hP]

/-- the same, after a successful `fit`, spelled out with the learned weights -/
theorem score_after_fit (F : Family α K X Y Aff Params Opt Rng) {e e' : Estimator Params Opt} {rng : Rng}
    {x x' : X} {y y' : Option Y} (h : fit F e rng x y = .ok e') {aff : Aff} (ha : F.affinity x' y' = some aff) :
    ∃ f, e'.fitted = some f ∧ score F e' x' y' = .ok (F.gemini (F.infer f.params false x') aff) := by
  obtain ⟨_, f, hf, _⟩ := fit_attributes F h
  exact ⟨f, hf, score_eq_gemini F e' x' y' (predictProba_of_fitted F hf x') ha⟩

/-- Soft-max rows are probability vectors of length `K`: every entry in `(0, 1]`, the `K` entries sum to 1. -/
theorem softmax_row_is_probability_vector (z : Fin K → ℝ) (hK : 1 ≤ K) :
    (∀ k, 0 < softmaxRow z k ∧ softmaxRow z k ≤ 1) ∧ ∑ k, softmaxRow z k = 1 :=
  ⟨fun k => ⟨softmaxRow_pos z k, softmaxRow_le_one z k⟩, softmaxRow_sum z hK⟩

/-- `predict_proba` rows of the Linear, MLP, SparseMLP and Categorical forward passes are probability vectors,
    whatever the weights and the data. -/
theorem infer_rows_are_probability_vectors {n d h : Nat} (hK : 1 ≤ K) (Xd : Fin n → Fin d → ℝ)
    (W : Fin d → Fin K → ℝ) (b : Fin K → ℝ) (W1 : Fin d → Fin h → ℝ) (b1 : Fin h → ℝ) (W2 : Fin h → Fin K → ℝ)
    (b2 : Fin K → ℝ) (Ws : Fin d → Fin K → ℝ) (L : Fin n → Fin K → ℝ) (i : Fin n) :
    ((∀ k, 0 < linearInfer Xd W b i k) ∧ ∑ k, linearInfer Xd W b i k = 1) ∧
    ((∀ k, 0 < mlpInfer Xd W1 b1 W2 b2 i k) ∧ ∑ k, mlpInfer Xd W1 b1 W2 b2 i k = 1) ∧
    ((∀ k, 0 < sparseMlpInfer Xd W1 b1 W2 b2 Ws i k) ∧ ∑ k, sparseMlpInfer Xd W1 b1 W2 b2 Ws i k = 1) ∧
    ((∀ k, 0 < categoricalInfer L i k) ∧ ∑ k, categoricalInfer L i k = 1) :=
  ⟨⟨fun k => softmaxRow_pos _ k, softmaxRow_sum _ hK⟩, ⟨fun k => softmaxRow_pos _ k, softmaxRow_sum _ hK⟩,
   ⟨fun k => softmaxRow_pos _ k, softmaxRow_sum _ hK⟩, ⟨fun k => softmaxRow_pos _ k, softmaxRow_sum _ hK⟩⟩

/-- `np.argmax` of a non-empty row is an index of a maximal entry, and the first one. -/
theorem argmax_is_first_maximum (z : Fin K → ℝ) (hK : 1 ≤ K) :
    ∃ h : argmaxRow z < K, (∀ j : Fin K, z j ≤ z ⟨argmaxRow z, h⟩) ∧
      (∀ j : Fin K, j.val < argmaxRow z → z j < z ⟨argmaxRow z, h⟩) := by
  have hfold := foldl_amStep_induction z (MaxInv z) rfl fun m hm r hr => maxInv_step hm hr
  rw [argmaxRow_eq_fold]
  cases hr : (List.ofFn z).zipIdx.foldl amStep none with
  | none =>
    rw [hr] at hfold
    exact absurd hfold (Nat.pos_iff_ne_zero.1 hK)
  | some p =>
    rw [hr] at hfold
    obtain ⟨h1, _, _, h3, h4⟩ := hfold
    exact ⟨h1, fun j => h3 j j.isLt, h4⟩

/-- The predicted cluster of a soft-max model is a cluster of maximal probability and of maximal logit. -/
theorem predict_is_most_probable (z : Fin K → ℝ) (hK : 1 ≤ K) :
    ∃ h : argmaxRow (softmaxRow z) < K, ∀ j : Fin K,
      softmaxRow z j ≤ softmaxRow z ⟨argmaxRow (softmaxRow z), h⟩ ∧ z j ≤ z ⟨argmaxRow (softmaxRow z), h⟩ := by
  obtain ⟨h, hmax, _⟩ := argmax_is_first_maximum (softmaxRow z) hK
  exact ⟨h, fun j => ⟨hmax j, (softmaxRow_le_iff z j _).1 (hmax j)⟩⟩

/-- In every state satisfying the C09 invariants: one label per sample, every label below `max_clusters`, and the tree
    has at least its root (`2·leaves − 1 ≥ 1` nodes). -/
theorem kauri_labels_lt_max_clusters {β : Type} [RealLike β] {Xk : Nat → Nat → β} {p : Model.Kauri.Params}
    {s : Model.Kauri.FitState β} (h : KauriC09.FullInv Xk p s) (hK : 1 ≤ p.maxClusters) :
    s.labels.length = s.asg.n ∧ (∀ c ∈ s.labels, c < p.maxClusters) ∧ 1 ≤ s.tree.nNodes := by
  obtain ⟨hle, hmem⟩ := Props.C09.clusters_le_max_clusters h hK
  refine ⟨by simp [Model.Kauri.FitState.labels], fun c hc => lt_of_lt_of_le ((hmem c).1 hc) hle, ?_⟩
  have := h.inv.nNodes_eq; have := h.inv.nLeaves_pos; omega

/-- The same for the fitted state of the model's `Kauri.fit`.  `FindBestSplitSpec` is kept as a hypothesis so that the
    statement holds over any `RealLike β`; over `ℝ` and `ℚ` it is a theorem (`Props.C09Spec.findBestSplitSpec`,
    `findBestSplitSpec_rat`), not an assumption about the code. -/
theorem kauri_fit_labels_lt_max_clusters {β : Type} [RealLike β] {κ Xk : Nat → Nat → β} {n : Nat}
    {p : Model.Kauri.Params} (hn : 1 ≤ n) (hmin : p.minLeaf ≤ n) (hK : 1 ≤ p.maxClusters)
    (hspec : KauriC09.FindBestSplitSpec κ Xk p) (draws : List (List Nat)) :
    (∀ c ∈ (Model.Kauri.fit κ Xk n p draws).labels, c < p.maxClusters) ∧
      1 ≤ (Model.Kauri.fit κ Xk n p draws).tree.nNodes :=
  let h := Props.C09.fit_invariant_of_spec hn hmin hspec draws
  ⟨(kauri_labels_lt_max_clusters h hK).2.1, (kauri_labels_lt_max_clusters h hK).2.2⟩

/-! Non-vacuity: a concrete run of the state machine over `ℚ`. -/

/-- a two-sample, two-cluster "linear" family over ℚ whose training returns fixed weights (over ℚ `exp` is the stub
    `0`; it does not matter here: only the control flow is exercised) -/
example : ∃ e', fit (linearFamily (α := Rat) (K := 2) (d := 1) ⟨fun _ _ => 0, fun _ => 0⟩ id (fun _ _ => 0))
    { cfg := ⟨2, .sgd, true⟩ } () ⟨2, fun _ _ => 1⟩ none = .ok e' :=
  (fit_ok_iff _ _ _ _ _).2 ⟨by decide, by decide, rfl⟩

/-- too few samples: `fit` is rejected (3 clusters, 2 samples) -/
example : fit (linearFamily (α := Rat) (K := 3) (d := 1) ⟨fun _ _ => 0, fun _ => 0⟩ id (fun _ _ => 0))
    { cfg := ⟨2, .sgd, true⟩ } () ⟨2, fun _ _ => 1⟩ none = .error .tooFewSamples := rfl

end GemVerif.Props.C04
