/- What the GEMINI theorems (C01, C02, C13, C17) share: the clipping, the column means, the probability vectors of the
   specification, the f-divergence and MMD scores and gradients of Model/Gemini.lean each as one real formula of the
   clipped matrix, for every `P` (the real-number theorems rewrite with these and do not unfold the model; the
   Wasserstein ones are in WassForms), the MMD distances as the bilinear form `Q` (RealCalc) of the scaled `alpha`
   columns, and the scores at interior points. -/
import GemVerif.Model.Gemini
import GemVerif.Spec.Gemini
import GemVerif.Lemmas.RealCalc

namespace GemVerif
open Model Spec

variable {n K : ℕ}

theorem Spec.Interior.lo {ε : ℝ} {P : Fin n → Fin K → ℝ} (h : Interior ε P) (i : Fin n) (k : Fin K) : ε < P i k :=
  (h i k).1

theorem Spec.Interior.hi {ε : ℝ} {P : Fin n → Fin K → ℝ} (h : Interior ε P) (i : Fin n) (k : Fin K) :
    P i k < 1 - ε := (h i k).2

theorem clipP_of_interior {ε : ℝ} {P : Fin n → Fin K → ℝ} (h : Interior ε P) :
    clipP ε P = P := by
  funext i k
  exact RealLike.clip_of_mem (h.lo i k).le (h.hi i k).le

theorem clipMask_of_interior {ε : ℝ} {P : Fin n → Fin K → ℝ} (h : Interior ε P) (i : Fin n) (k : Fin K) :
    clipMask ε P i k = 1 := by
  simp [clipMask, RealLike.ofBool, h.lo i k, h.hi i k]

theorem clipMask_of_clipped {ε : ℝ} {P : Fin n → Fin K → ℝ} {i : Fin n} {k : Fin K}
    (h : P i k ≤ ε ∨ 1 - ε ≤ P i k) : clipMask ε P i k = 0 := by
  rcases h with h | h
  · simp [clipMask, RealLike.ofBool, not_lt.mpr h]
  · simp [clipMask, RealLike.ofBool, not_lt.mpr h]

/-- Every gradient of Model/Gemini.lean ends in `* clip_mask`, so it vanishes on clipped entries. -/
theorem eq_zero_of_mul_clipMask {ε : ℝ} {P : Fin n → Fin K → ℝ} {i : Fin n} {k : Fin K}
    (h : P i k ≤ ε ∨ 1 - ε ≤ P i k) {G g : ℝ} (hG : G = g * clipMask ε P i k) : G = 0 := by
  rw [hG, clipMask_of_clipped h, mul_zero]

theorem P_pos {ε : ℝ} (hε : 0 < ε) {P : Fin n → Fin K → ℝ} (h : Interior ε P) (i : Fin n) (k : Fin K) :
    0 < P i k := lt_trans hε (h.lo i k)

theorem clipP_nonneg {ε : ℝ} (h0 : 0 ≤ ε) (h1 : ε ≤ 1) (P : Fin n → Fin K → ℝ) (i : Fin n) (k : Fin K) :
    0 ≤ clipP ε P i k := by
  simp only [clipP, RealLike.clip_real]
  exact le_min (h0.trans (le_max_right _ _)) (sub_nonneg.2 h1)

theorem clipP_pos {ε : ℝ} (h0 : 0 < ε) (h1 : ε < 1) (P : Fin n → Fin K → ℝ) (i : Fin n) (k : Fin K) :
    0 < clipP ε P i k := by
  simp only [clipP, RealLike.clip_real]
  exact lt_min (h0.trans_le (le_max_right _ _)) (sub_pos.2 h1)

theorem clipP_mem {ε : ℝ} (h1 : ε ≤ 1 / 2) (P : Fin n → Fin K → ℝ) (i : Fin n) (k : Fin K) :
    ε ≤ clipP ε P i k ∧ clipP ε P i k ≤ 1 - ε := by
  simp only [clipP, RealLike.clip_real]
  exact ⟨le_min (le_max_right _ _) (by linarith), min_le_right _ _⟩

theorem meanV_eq (v : Fin n → ℝ) : meanV v = (∑ i, v i) / n := by
  rw [meanV, sumFin_eq_sum, RealLike.nat_real]

theorem mean0_eq_pi (P : Fin n → Fin K → ℝ) : mean0 P = Spec.pi P :=
  funext fun k => meanV_eq fun i => P i k

theorem meanV_nonneg {v : Fin n → ℝ} (h : ∀ i, 0 ≤ v i) : 0 ≤ meanV v :=
  meanV_eq v ▸ div_nonneg (Finset.sum_nonneg fun i _ => h i) (Nat.cast_nonneg n)

theorem meanV_empty (v : Fin 0 → ℝ) : meanV v = 0 := by
  simp only [meanV, sumFin_eq_sum, Finset.univ_eq_empty, Finset.sum_empty, zero_div]

theorem meanV_add (f g : Fin n → ℝ) : meanV (fun i => f i + g i) = meanV f + meanV g := by
  simp only [meanV_eq, Finset.sum_add_distrib, add_div]

theorem meanV_mul_const (f : Fin n → ℝ) (c : ℝ) : meanV (fun i => f i * c) = meanV f * c := by
  simp only [meanV_eq, ← Finset.sum_mul, div_mul_eq_mul_div]

theorem meanV_const_mul (c : ℝ) (f : Fin n → ℝ) : meanV (fun i => c * f i) = c * meanV f := by
  simp only [meanV_eq, ← Finset.mul_sum, mul_div_assoc]

theorem meanV_const (hn : 0 < n) (x : ℝ) : meanV (fun _ : Fin n => x) = x := by
  rw [meanV_eq, Fin.sum_const, nsmul_eq_mul, mul_div_cancel_left₀ _ (Nat.cast_ne_zero.2 hn.ne')]

/-- a mean lies wherever all the values lie -/
theorem meanV_mem (hn : 0 < n) {a b : ℝ} {v : Fin n → ℝ} (h : ∀ i, a ≤ v i ∧ v i ≤ b) :
    a ≤ meanV v ∧ meanV v ≤ b := by
  have hnR : (0 : ℝ) < n := Nat.cast_pos.2 hn
  have hlo := Finset.card_nsmul_le_sum Finset.univ v a fun i _ => (h i).1
  have hhi := Finset.sum_le_card_nsmul Finset.univ v b fun i _ => (h i).2
  rw [Finset.card_fin, nsmul_eq_mul] at hlo hhi
  rw [meanV_eq]
  exact ⟨(le_div_iff₀' hnR).2 hlo, (div_le_iff₀' hnR).2 hhi⟩

theorem mean0_empty (p : Fin 0 → Fin K → ℝ) (k : Fin K) : mean0 p k = 0 :=
  meanV_empty fun i => p i k

theorem mean0_of_const (hn : 0 < n) {p : Fin n → Fin K → ℝ} {k : Fin K} (h : ∀ i j, p i k = p j k)
    (i : Fin n) : mean0 p k = p i k :=
  (congrArg meanV (funext fun j => h j i)).trans (meanV_const hn _)

theorem mean0_nonneg {p : Fin n → Fin K → ℝ} (hp : ∀ i k, 0 ≤ p i k) (k : Fin K) : 0 ≤ mean0 p k :=
  meanV_nonneg fun i => hp i k

theorem mean0_mem (hn : 0 < n) {ε : ℝ} {p : Fin n → Fin K → ℝ}
    (hp : ∀ i k, ε ≤ p i k ∧ p i k ≤ 1 - ε) (k : Fin K) :
    ε ≤ mean0 p k ∧ mean0 p k ≤ 1 - ε :=
  meanV_mem hn fun i => hp i k

/-! Proportions, conditionals and the uniform vector of a positive matrix.  At interior points the hypothesis is
  `P_pos hε hI`, for clipped predictions it is `clipP_pos h0 h1 P`. -/

theorem sum_col_eq (hn : 0 < n) (P : Fin n → Fin K → ℝ) (k : Fin K) : ∑ i, P i k = n * Spec.pi P k := by
  rw [Spec.pi, mul_div_cancel₀ _ (Nat.cast_ne_zero.2 hn.ne')]

theorem pi_empty (P : Fin 0 → Fin K → ℝ) (k : Fin K) : Spec.pi P k = 0 := by
  rw [← mean0_eq_pi, mean0_empty]

theorem pi_pos (hn : 0 < n) {P : Fin n → Fin K → ℝ} (hP : ∀ i k, 0 < P i k) (k : Fin K) : 0 < Spec.pi P k := by
  have : Nonempty (Fin n) := ⟨⟨0, hn⟩⟩
  exact div_pos (Finset.sum_pos (fun i _ => hP i k) Finset.univ_nonempty) (Nat.cast_pos.2 hn)

theorem mean0_pos (hn : 0 < n) {p : Fin n → Fin K → ℝ} (hp : ∀ i k, 0 < p i k) (k : Fin K) : 0 < mean0 p k :=
  mean0_eq_pi p ▸ pi_pos hn hp k

theorem sum_pi_eq_one (hn : 0 < n) {P : Fin n → Fin K → ℝ} (hrow : ∀ i, ∑ k, P i k = 1) :
    ∑ k, Spec.pi P k = 1 := by
  simp only [Spec.pi]
  rw [← Finset.sum_div, Finset.sum_comm]
  simp only [hrow, Fin.sum_const, nsmul_eq_mul, mul_one]
  exact div_self (Nat.cast_ne_zero.2 hn.ne')

theorem cond_pos (hn : 0 < n) {P : Fin n → Fin K → ℝ} (hP : ∀ i k, 0 < P i k) (k : Fin K) (i : Fin n) :
    0 < Spec.cond P k i :=
  div_pos (hP i k) (mul_pos (Nat.cast_pos.2 hn) (pi_pos hn hP k))

theorem cond_sum (hn : 0 < n) {P : Fin n → Fin K → ℝ} (hP : ∀ i k, 0 < P i k) (k : Fin K) :
    ∑ i, Spec.cond P k i = 1 := by
  simp only [Spec.cond]
  rw [← Finset.sum_div, sum_col_eq hn]
  exact div_self (mul_pos (Nat.cast_pos.2 hn) (pi_pos hn hP k)).ne'

theorem unif_pos (hn : 0 < n) (i : Fin n) : 0 < Spec.unif n i :=
  one_div_pos.2 (Nat.cast_pos.2 hn)

theorem unif_sum (hn : 0 < n) : ∑ i, Spec.unif n i = 1 := by
  simp only [Spec.unif, Fin.sum_const, nsmul_eq_mul]
  exact mul_one_div_cancel (Nat.cast_ne_zero.2 hn.ne')

theorem mmdScore_ova (ε : ℝ) (P : Fin n → Fin K → ℝ) (κ : Fin n → Fin n → ℝ) :
    mmdScore ε false P κ = ∑ k, mean0 (clipP ε P) k * mmdDeltaOva ε P κ k := by
  simp only [mmdScore, tab_apply, sumFin_eq_sum, Bool.false_eq_true, if_false]

/-- `pi @ delta @ pi`, written like the Wasserstein one (`wassScoreT_ovo`, WassForms) -/
theorem mmdScore_ovo (ε : ℝ) (P : Fin n → Fin K → ℝ) (κ : Fin n → Fin n → ℝ) :
    mmdScore ε true P κ
      = ∑ a, mean0 (clipP ε P) a * ∑ b, mmdDeltaOvo ε P κ a b * mean0 (clipP ε P) b := by
  simp only [mmdScore, tab_apply, tab2_apply, sumFin_eq_sum, if_true, Finset.sum_mul, Finset.mul_sum]
  rw [Finset.sum_comm]
  exact Finset.sum_congr rfl fun a _ => Finset.sum_congr rfl fun b _ => mul_assoc _ _ _

/-! `mmdAlpha`, `mmdGamma`, the distances and the two gradients of the MMD GEMINI, each as one real formula of the
  ones before it, for every `P`. -/

theorem mmdAlpha_apply (ε : ℝ) (P : Fin n → Fin K → ℝ) (i : Fin n) (k : Fin K) :
    mmdAlpha ε P i k = clipP ε P i k / mean0 (clipP ε P) k := by
  simp only [mmdAlpha, tab_apply]

theorem mmdGamma_apply (ε : ℝ) (P : Fin n → Fin K → ℝ) (κ : Fin n → Fin n → ℝ) (i : Fin n) (k : Fin K) :
    mmdGamma ε P κ i k = ∑ j, κ i j / (n * n) * mmdAlpha ε P j k := by
  simp only [mmdGamma, tab2_apply, sumFin_eq_sum, RealLike.nat_real]

theorem mmdDeltaOvo_apply (ε : ℝ) (P : Fin n → Fin K → ℝ) (κ : Fin n → Fin n → ℝ) (a b : Fin K) :
    mmdDeltaOvo ε P κ a b = Real.sqrt (max (-(2 : ℕ) * (∑ i, mmdAlpha ε P i a * mmdGamma ε P κ i b)
      + (∑ i, mmdAlpha ε P i b * mmdGamma ε P κ i b) + ∑ i, mmdAlpha ε P i a * mmdGamma ε P κ i a) 0) := by
  simp only [mmdDeltaOvo, tab2_apply, sumFin_eq_sum, RealLike.nat_real, RealLike.max_real, RealLike.sqrt_real]

theorem mmdDeltaOva_apply (ε : ℝ) (P : Fin n → Fin K → ℝ) (κ : Fin n → Fin n → ℝ) (k : Fin K) :
    mmdDeltaOva ε P κ k = Real.sqrt (max ((∑ i, mmdAlpha ε P i k * mmdGamma ε P κ i k)
      + (∑ i, ∑ j, κ i j / (n * n)) - (2 : ℕ) * ∑ i, mmdGamma ε P κ i k) 0) := by
  simp only [mmdDeltaOva, tab2_apply, sumFin_eq_sum, RealLike.nat_real, RealLike.max_real, RealLike.sqrt_real]

theorem mmdDeltaOvo_nonneg (ε : ℝ) (P : Fin n → Fin K → ℝ) (κ : Fin n → Fin n → ℝ) (a b : Fin K) :
    0 ≤ mmdDeltaOvo ε P κ a b := by
  rw [mmdDeltaOvo_apply]
  exact Real.sqrt_nonneg _

theorem mmdDeltaOva_nonneg (ε : ℝ) (P : Fin n → Fin K → ℝ) (κ : Fin n → Fin n → ℝ) (k : Fin K) :
    0 ≤ mmdDeltaOva ε P κ k := by
  rw [mmdDeltaOva_apply]
  exact Real.sqrt_nonneg _

/-- One-vs-all gradient.  The source guards the division by `delta[k] == 0`; over ℝ that guard is what `x / 0 = 0`
    gives anyway. -/
theorem mmdGrad_ova_eq (ε : ℝ) (P : Fin n → Fin K → ℝ) (κ : Fin n → Fin n → ℝ) (i : Fin n) (k : Fin K) :
    mmdGrad ε false P κ i k
      = ((∑ j, κ i j / (n * n) * (mmdAlpha ε P j k - 1))
          - meanV fun l => ∑ j, κ l j / (n * n) * (mmdAlpha ε P j k - 1)) / mmdDeltaOva ε P κ k
        * clipMask ε P i k := by
  simp only [mmdGrad, Bool.false_eq_true, if_false]
  simp only [tab_apply, tab2_apply, sumFin_eq_sum, RealLike.nat_real, RealLike.beq_real, decide_eq_true_eq, add_zero]
  split_ifs with h
  · rw [h, div_zero]
  · rfl

/-- `lambda[a,b]` of the one-vs-one gradient code, `pi[a] pi[b] / delta[a,b]` off the diagonal.  The source's guard
    `delta[a,b] == 0 → 0` is again what `x / 0 = 0` gives. -/
noncomputable def mmdLam (π : Fin K → ℝ) (δ : Fin K → Fin K → ℝ) (a b : Fin K) : ℝ :=
  if a = b then 0 else π a * π b / δ a b

theorem mmdGrad_ovo_eq (ε : ℝ) (P : Fin n → Fin K → ℝ) (κ : Fin n → Fin n → ℝ) (i : Fin n) (k : Fin K) :
    mmdGrad ε true P κ i k
      = ((mmdGamma ε P κ i k * (∑ a, mmdLam (mean0 (clipP ε P)) (mmdDeltaOvo ε P κ) a k)
            - (∑ a, mmdGamma ε P κ i a * mmdLam (mean0 (clipP ε P)) (mmdDeltaOvo ε P κ) a k)
            - (∑ l, mmdAlpha ε P l k * mmdGamma ε P κ l k)
                * (∑ a, mmdLam (mean0 (clipP ε P)) (mmdDeltaOvo ε P κ) a k) / n
            + meanV fun l => mmdAlpha ε P l k
                * ∑ a, mmdGamma ε P κ l a * mmdLam (mean0 (clipP ε P)) (mmdDeltaOvo ε P κ) a k)
          / mean0 (clipP ε P) k
          + (∑ a, mean0 (clipP ε P) a * mmdDeltaOvo ε P κ a k) / n) * (2 : ℕ) * clipMask ε P i k := by
  have hlam : ∀ a b, (if a = b then (0 : ℝ) else if mmdDeltaOvo ε P κ a b = 0 then 0
      else mean0 (clipP ε P) a * mean0 (clipP ε P) b / mmdDeltaOvo ε P κ a b)
      = mmdLam (mean0 (clipP ε P)) (mmdDeltaOvo ε P κ) a b := fun a b => by
    unfold mmdLam
    split_ifs with h1 h2
    · rfl
    · rw [h2, div_zero]
    · rfl
  simp only [mmdGrad, if_true]
  simp only [tab_apply, tab2_apply, sumFin_eq_sum, RealLike.nat_real, RealLike.beq_real, decide_eq_true_eq, add_zero,
    hlam]

/-- `alpha[:,k] / N`: at interior points the conditional `p(x|k)` -/
noncomputable def aN (ε : ℝ) (P : Fin n → Fin K → ℝ) (k : Fin K) : Fin n → ℝ := fun i => mmdAlpha ε P i k / n

/-- `omega[a,b]`, `omega[a,a]`, `omega[b,b]` are bilinear forms of the scaled `alpha` columns -/
theorem mmdDeltaOvo_eq_Q (ε : ℝ) (P : Fin n → Fin K → ℝ) (κ : Fin n → Fin n → ℝ) (a b : Fin K) :
    mmdDeltaOvo ε P κ a b = Real.sqrt (max (-(2 : ℕ) * Q κ (aN ε P a) (aN ε P b)
      + Q κ (aN ε P b) (aN ε P b) + Q κ (aN ε P a) (aN ε P a)) 0) := by
  unfold aN
  simp only [mmdDeltaOvo_apply, mmdGamma_apply, Q_div]

theorem mmdDeltaOva_eq_Q (ε : ℝ) (P : Fin n → Fin K → ℝ) (κ : Fin n → Fin n → ℝ) (k : Fin K) :
    mmdDeltaOva ε P κ k = Real.sqrt (max (Q κ (aN ε P k) (aN ε P k) + Q κ (Spec.unif n) (Spec.unif n)
      - (2 : ℕ) * Q κ (Spec.unif n) (aN ε P k)) 0) := by
  have h1 : Spec.unif n = fun _ => (1 : ℝ) / n := rfl
  unfold aN
  simp only [mmdDeltaOva_apply, mmdGamma_apply, h1, Q_div, one_mul, mul_one, Finset.mul_sum]

theorem mmdDeltaOvo_eq_zero (ε : ℝ) (P : Fin n → Fin K → ℝ) (κ : Fin n → Fin n → ℝ) {a b : Fin K}
    (h : ∀ i, mmdAlpha ε P i a = mmdAlpha ε P i b) : mmdDeltaOvo ε P κ a b = 0 := by
  rw [mmdDeltaOvo_eq_Q, show aN ε P a = aN ε P b from funext fun i => by rw [aN, aN, h],
    show ∀ x : ℝ, -(2 : ℕ) * x + x + x = 0 from fun x => by push_cast; ring, max_self, Real.sqrt_zero]

/-- A cluster with `alpha = 1` has the empirical distribution as its conditional: its distance to
    cluster `b` is the one-vs-all distance of `b`. -/
theorem mmdDeltaOvo_of_alpha_one (ε : ℝ) (P : Fin n → Fin K → ℝ) (κ : Fin n → Fin n → ℝ) {a : Fin K}
    (h : ∀ i, mmdAlpha ε P i a = 1) (b : Fin K) : mmdDeltaOvo ε P κ a b = mmdDeltaOva ε P κ b := by
  rw [mmdDeltaOvo_eq_Q, mmdDeltaOva_eq_Q, show aN ε P a = Spec.unif n from funext fun i => by rw [aN, h]; rfl]
  congr 2
  ring

theorem mmdDeltaOva_eq_zero (ε : ℝ) (P : Fin n → Fin K → ℝ) (κ : Fin n → Fin n → ℝ) {k : Fin K}
    (h : ∀ i, mmdAlpha ε P i k = 1) : mmdDeltaOva ε P κ k = 0 := by
  rw [← mmdDeltaOvo_of_alpha_one ε P κ h, mmdDeltaOvo_eq_zero ε P κ fun _ => rfl]

theorem mmdDeltaOvo_symm (ε : ℝ) (P : Fin n → Fin K → ℝ) {κ : Fin n → Fin n → ℝ} (hκ : ∀ i j, κ i j = κ j i)
    (a b : Fin K) : mmdDeltaOvo ε P κ a b = mmdDeltaOvo ε P κ b a := by
  rw [mmdDeltaOvo_eq_Q, mmdDeltaOvo_eq_Q, Q_comm hκ, add_right_comm]

theorem tvScore_ova_eq (ε : ℝ) (P : Fin n → Fin K → ℝ) :
    tvScore ε false P = 1 / 2 * ∑ k, meanV fun i => |clipP ε P i k - mean0 (clipP ε P) k| := by
  simp only [tvScore, tab_apply, sumFin_eq_sum, RealLike.half_real, RealLike.abs_real, Bool.false_eq_true, if_false]

theorem tvScore_ovo_eq (ε : ℝ) (P : Fin n → Fin K → ℝ) :
    tvScore ε true P = 1 / 2 * ∑ a, ∑ b, meanV fun i =>
      |mean0 (clipP ε P) a * clipP ε P i b - mean0 (clipP ε P) b * clipP ε P i a| := by
  simp only [tvScore, tab_apply, sumFin_eq_sum, RealLike.half_real, RealLike.abs_real, if_true]

/-! The f-divergence scores as real formulas of the clipped matrix `clipP ε P` and its column means, for every `P`
  (`tvScore_ova_eq`, `tvScore_ovo_eq` above are the same for TV); the `_interior` forms below follow, since there
  clipping does nothing and the column means are `Spec.pi`. -/

theorem klScore_ova_eq (ε : ℝ) (P : Fin n → Fin K → ℝ) :
    klScore ε false P = ∑ k, meanV (fun i => clipP ε P i k * Real.log (clipP ε P i k))
      - ∑ k, mean0 (clipP ε P) k * Real.log (mean0 (clipP ε P) k) := by
  simp only [klScore, tab_apply, sumFin_eq_sum, RealLike.log_real, Bool.false_eq_true, if_false]

theorem klScore_ovo_eq (ε : ℝ) (P : Fin n → Fin K → ℝ) :
    klScore ε true P = ∑ k, meanV (fun i => clipP ε P i k * Real.log (clipP ε P i k))
      - ∑ k, mean0 (clipP ε P) k * meanV fun i => Real.log (clipP ε P i k) := by
  simp only [klScore, tab_apply, sumFin_eq_sum, RealLike.log_real, if_true]

theorem chi2Score_ova_eq (ε : ℝ) (P : Fin n → Fin K → ℝ) :
    chi2Score ε false P
      = 1 / 2 * meanV fun i => ∑ k, clipP ε P i k * (clipP ε P i k / mean0 (clipP ε P) k) := by
  simp only [chi2Score, tab_apply, sumFin_eq_sum, RealLike.half_real, Bool.false_eq_true, if_false]

theorem chi2Score_ovo_eq (ε : ℝ) (P : Fin n → Fin K → ℝ) :
    chi2Score ε true P = 1 / 2 * meanV fun i =>
      (∑ k, clipP ε P i k * (clipP ε P i k / mean0 (clipP ε P) k))
        * ∑ k, mean0 (clipP ε P) k / (clipP ε P i k / mean0 (clipP ε P) k) := by
  simp only [chi2Score, tab_apply, sumFin_eq_sum, RealLike.half_real, if_true]

theorem hellingerScore_ova_eq (ε : ℝ) (P : Fin n → Fin K → ℝ) :
    hellingerScore ε false P
      = 1 - meanV fun i => ∑ k, Real.sqrt (clipP ε P i k * mean0 (clipP ε P) k) := by
  simp only [hellingerScore, tab_apply, sumFin_eq_sum, RealLike.sqrt_real, Bool.false_eq_true, if_false]

theorem hellingerScore_ovo_eq (ε : ℝ) (P : Fin n → Fin K → ℝ) :
    hellingerScore ε true P
      = 1 - meanV fun i => (∑ k, Real.sqrt (clipP ε P i k * mean0 (clipP ε P) k)) ^ 2 := by
  simp only [hellingerScore, tab_apply, sumFin_eq_sum, RealLike.sqrt_real, RealLike.sq_real, if_true]

/-! The gradients of the f-divergence GEMINIs in the same terms (plus the mask), for every `P`, one equation per mode;
  `GeminiC02` specialises them to interior points, `GeminiC13` relabels them. -/

theorem klGrad_ova_eq (ε : ℝ) (P : Fin n → Fin K → ℝ) (i : Fin n) (k : Fin K) :
    klGrad ε false P i k
      = (Real.log (clipP ε P i k) / n - Real.log (mean0 (clipP ε P) k) / n) * clipMask ε P i k := by
  simp only [klGrad, Bool.false_eq_true, if_false]
  simp only [tab_apply, RealLike.log_real, RealLike.nat_real]

theorem klGrad_ovo_eq (ε : ℝ) (P : Fin n → Fin K → ℝ) (i : Fin n) (k : Fin K) :
    klGrad ε true P i k = ((Real.log (clipP ε P i k) + 1) / n
      - (mean0 (clipP ε P) k / clipP ε P i k + meanV fun j => Real.log (clipP ε P j k)) / n) * clipMask ε P i k := by
  simp only [klGrad, if_true]
  simp only [tab_apply, RealLike.log_real, RealLike.nat_real]

theorem tvGrad_ova_eq (ε : ℝ) (P : Fin n → Fin K → ℝ) (i : Fin n) (k : Fin K) :
    tvGrad ε false P i k = 1 / 2 * ((RealLike.sign (clipP ε P i k - mean0 (clipP ε P) k)
      - meanV fun j => RealLike.sign (clipP ε P j k - mean0 (clipP ε P) k)) / n) * clipMask ε P i k := by
  simp only [tvGrad, Bool.false_eq_true, if_false]
  simp only [tab_apply, RealLike.half_real, RealLike.nat_real]

theorem tvGrad_ovo_eq (ε : ℝ) (P : Fin n → Fin K → ℝ) (i : Fin n) (k : Fin K) :
    tvGrad ε true P i k = 1 / 2 * ((∑ a, mean0 (clipP ε P) a
        * (RealLike.sign (mean0 (clipP ε P) a * clipP ε P i k - mean0 (clipP ε P) k * clipP ε P i a) / n
          - RealLike.sign (mean0 (clipP ε P) k * clipP ε P i a - mean0 (clipP ε P) a * clipP ε P i k) / n))
      + meanV fun j => ∑ b,
          (RealLike.sign (mean0 (clipP ε P) k * clipP ε P j b - mean0 (clipP ε P) b * clipP ε P j k) / n
            - RealLike.sign (mean0 (clipP ε P) b * clipP ε P j k - mean0 (clipP ε P) k * clipP ε P j b) / n)
          * clipP ε P j b) * clipMask ε P i k := by
  simp only [tvGrad, if_true]
  simp only [tab_apply, tab2_apply, sumFin_eq_sum, RealLike.half_real, RealLike.nat_real]

theorem hellingerGrad_ova_eq (ε : ℝ) (P : Fin n → Fin K → ℝ) (i : Fin n) (k : Fin K) :
    hellingerGrad ε false P i k
      = (-(1 / 2) * (mean0 (clipP ε P) k / Real.sqrt (clipP ε P i k * mean0 (clipP ε P) k)
          + meanV fun j => clipP ε P j k / Real.sqrt (clipP ε P j k * mean0 (clipP ε P) k))) / n
        * clipMask ε P i k := by
  simp only [hellingerGrad, Bool.false_eq_true, if_false]
  simp only [tab_apply, tab2_apply, RealLike.half_real, RealLike.sqrt_real, RealLike.nat_real]

/-- The source's `sqrt(estimates²)` is `estimates` itself over ℝ: a sum of square roots is non-negative. -/
theorem hellingerGrad_ovo_eq (ε : ℝ) (P : Fin n → Fin K → ℝ) (i : Fin n) (k : Fin K) :
    hellingerGrad ε true P i k
      = -(mean0 (clipP ε P) k / Real.sqrt (clipP ε P i k * mean0 (clipP ε P) k)
            * (∑ c, Real.sqrt (clipP ε P i c * mean0 (clipP ε P) c))
          + meanV fun j => clipP ε P j k / Real.sqrt (clipP ε P j k * mean0 (clipP ε P) k)
              * ∑ c, Real.sqrt (clipP ε P j c * mean0 (clipP ε P) c)) / n
        * clipMask ε P i k := by
  have hest : ∀ j, 0 ≤ ∑ c, Real.sqrt (clipP ε P j c * mean0 (clipP ε P) c) := fun j =>
    Finset.sum_nonneg fun c _ => Real.sqrt_nonneg _
  simp only [hellingerGrad, if_true]
  simp only [tab_apply, tab2_apply, sumFin_eq_sum, RealLike.sqrt_real, RealLike.sq, RealLike.nat_real,
    Real.sqrt_mul_self (hest _)]

theorem chi2Grad_ova_eq (ε : ℝ) (P : Fin n → Fin K → ℝ) (i : Fin n) (k : Fin K) :
    chi2Grad ε false P i k = 1 / 2 * ((2 * (clipP ε P i k / mean0 (clipP ε P) k)
      - meanV fun j => clipP ε P j k / mean0 (clipP ε P) k * (clipP ε P j k / mean0 (clipP ε P) k)) / n)
      * clipMask ε P i k := by
  simp only [chi2Grad, Bool.false_eq_true, if_false]
  simp only [tab_apply, tab2_apply, RealLike.half_real, RealLike.nat_real, RealLike.sq, Nat.cast_ofNat]

theorem chi2Grad_ovo_eq (ε : ℝ) (P : Fin n → Fin K → ℝ) (i : Fin n) (k : Fin K) :
    chi2Grad ε true P i k = 1 / 2 * ((2 * ((∑ c, mean0 (clipP ε P) c / (clipP ε P i c / mean0 (clipP ε P) c))
          * (clipP ε P i k / mean0 (clipP ε P) k))
        - (∑ c, clipP ε P i c * (clipP ε P i c / mean0 (clipP ε P) c))
          / (clipP ε P i k / mean0 (clipP ε P) k) / (clipP ε P i k / mean0 (clipP ε P) k)
        + meanV fun j => 2 * ((∑ c, clipP ε P j c * (clipP ε P j c / mean0 (clipP ε P) c))
              / (clipP ε P j k / mean0 (clipP ε P) k))
            - (∑ c, mean0 (clipP ε P) c / (clipP ε P j c / mean0 (clipP ε P) c))
              * (clipP ε P j k / mean0 (clipP ε P) k) * (clipP ε P j k / mean0 (clipP ε P) k)) / n)
      * clipMask ε P i k := by
  simp only [chi2Grad, if_true]
  simp only [tab_apply, tab2_apply, sumFin_eq_sum, RealLike.half_real, RealLike.nat_real, Nat.cast_ofNat]

theorem klScore_ova_interior {ε : ℝ} {P : Fin n → Fin K → ℝ} (hI : Interior ε P) :
    klScore ε false P
      = ∑ k, (∑ i, P i k * Real.log (P i k)) / n - ∑ k, Spec.pi P k * Real.log (Spec.pi P k) := by
  simp only [klScore_ova_eq, clipP_of_interior hI, mean0_eq_pi, meanV_eq]

theorem klScore_ovo_interior {ε : ℝ} {P : Fin n → Fin K → ℝ} (hI : Interior ε P) :
    klScore ε true P
      = ∑ k, (∑ i, P i k * Real.log (P i k)) / n
        - ∑ k, Spec.pi P k * ((∑ i, Real.log (P i k)) / n) := by
  simp only [klScore_ovo_eq, clipP_of_interior hI, mean0_eq_pi, meanV_eq]

theorem chi2Score_ova_interior {ε : ℝ} {P : Fin n → Fin K → ℝ} (hI : Interior ε P) :
    chi2Score ε false P = 1 / 2 * ((∑ i, ∑ k, P i k * (P i k / Spec.pi P k)) / n) := by
  simp only [chi2Score_ova_eq, clipP_of_interior hI, mean0_eq_pi, meanV_eq]

theorem chi2Score_ovo_interior {ε : ℝ} {P : Fin n → Fin K → ℝ} (hI : Interior ε P) :
    chi2Score ε true P = 1 / 2 * ((∑ i, (∑ k, P i k * (P i k / Spec.pi P k))
      * (∑ k, Spec.pi P k / (P i k / Spec.pi P k))) / n) := by
  simp only [chi2Score_ovo_eq, clipP_of_interior hI, mean0_eq_pi, meanV_eq]

theorem hellingerScore_ova_interior {ε : ℝ} {P : Fin n → Fin K → ℝ} (hI : Interior ε P) :
    hellingerScore ε false P = 1 - (∑ i, ∑ k, Real.sqrt (P i k * Spec.pi P k)) / n := by
  simp only [hellingerScore_ova_eq, clipP_of_interior hI, mean0_eq_pi, meanV_eq]

theorem hellingerScore_ovo_interior {ε : ℝ} {P : Fin n → Fin K → ℝ} (hI : Interior ε P) :
    hellingerScore ε true P = 1 - (∑ i, (∑ k, Real.sqrt (P i k * Spec.pi P k))
      * (∑ k, Real.sqrt (P i k * Spec.pi P k))) / n := by
  simp only [hellingerScore_ovo_eq, clipP_of_interior hI, mean0_eq_pi, meanV_eq, pow_two]

theorem tvScore_ova_interior {ε : ℝ} {P : Fin n → Fin K → ℝ} (hI : Interior ε P) :
    tvScore ε false P = 1 / 2 * ∑ k, (∑ i, |P i k - Spec.pi P k|) / n := by
  simp only [tvScore_ova_eq, clipP_of_interior hI, mean0_eq_pi, meanV_eq]

theorem tvScore_ovo_interior {ε : ℝ} {P : Fin n → Fin K → ℝ} (hI : Interior ε P) :
    tvScore ε true P
      = 1 / 2 * ∑ a, ∑ b, (∑ i, |Spec.pi P a * P i b - Spec.pi P b * P i a|) / n := by
  simp only [tvScore_ovo_eq, clipP_of_interior hI, mean0_eq_pi, meanV_eq]

end GemVerif
