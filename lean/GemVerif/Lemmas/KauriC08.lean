/-
  Control part of C08 ("the chosen split is the best one").  For every number type, no order laws: `find_best_split`
  as three nested folds calling `compute_all_splits` on `candAt … j f l` wherever `evaluatedB` holds, and that call as
  four blocks in sequence; the switch loop is walked by `switchLoop_induction`, on the left and right halves (`Side`) of
  its top-2 record.  Over ℝ: after each block the running best is unchanged or an `Admissible` candidate (`Adv`)
  and dominates the block's candidates (`TopGe`, `pick_max`).  `Gen.Kauri.*` is unfolded only in `Example`.
-/
import GemVerif.NumReal
import GemVerif.Lemmas.Fold
import GemVerif.Lemmas.KauriTree

namespace GemVerif.KauriC08
open RealLike Model.Kauri

-- the model reads arrays of numbers (`a[i]!`) under its file-local `Inhabited α := ⟨0⟩`: definitions here that read
-- such arrays must elaborate with the same instance
attribute [local instance low] GemVerif.Model.Kauri.instInhabited_gemVerif

section scan
variable {α : Type} [RealLike α]

variable (κ X : Nat → Nat → α) (a : Assign) (nClusters K_max nLeaves minLeaf : Nat)

/-- samples of each cluster (`Y[:n_clusters, :n_leaves] @ Z[:n_leaves]`) -/
def clusterSamplesOf : Array (List Nat) :=
  Array.ofFn fun c : Fin nClusters => a.samplesOfCluster nLeaves c.val

/-- `omega[c, i] = σ(C_c × {i})` -/
def omegaOf : Array (Array α) :=
  (clusterSamplesOf a nClusters nLeaves).map fun cs => Array.ofFn fun i : Fin a.n => sumL (cs.map fun j => κ j i.val)

/-- `gamma[c, c] = σ(C_c²)` -/
def gammaDiagOf : Array α :=
  Array.ofFn fun c : Fin nClusters =>
    sumL (((clusterSamplesOf a nClusters nLeaves)[c.val]!).map fun i => ((omegaOf κ a nClusters nLeaves)[c.val]!)[i]!)

/-- `cluster_sizes` -/
def sizesOf : Array Nat := (clusterSamplesOf a nClusters nLeaves).map List.length

/-- `n_leaf` for leaf `j` -/
def nLeafOf (j : Nat) : Nat := (a.samplesOfLeaf j).length

/-- `nu`: the samples of leaf `j` sorted by feature `f` -/
def nuOf (j f : Nat) : Array Nat :=
  ((sortBy (fun x y => le x y) ((a.samplesOfLeaf j).map fun i => (X i f, i))).map (·.2)).toArray

/-- the accumulators `sl_square`, `sr_square`, `sl_clusters`, `sr_clusters` of the sorted scan -/
structure Acc (α : Type) where
  sl : α
  sr : α
  slc : Array α
  src : Array α

/-- their values before the scan of leaf `j` -/
def accInit (j : Nat) : Acc α :=
  ⟨0, stock κ (a.samplesOfLeaf j) (a.samplesOfLeaf j), Array.replicate nClusters 0,
   Array.ofFn fun c : Fin nClusters =>
     sumL ((a.samplesOfLeaf j).map fun i => ((omegaOf κ a nClusters nLeaves)[c.val]!)[i]!)⟩

/-- their update when the sample at sorted position `l` moves from the right part to the left part -/
def accStep (j f : Nat) (s : Acc α) (l : Nat) : Acc α :=
  let nu := nuOf X a j f
  let i := nu[l]!
  let alpha := sumL ((List.range l).map fun l' => κ i nu[l']!)
  let beta := sumL ((List.range (nLeafOf a j - 1 - l)).map fun d => κ i nu[l + 1 + d]!)
  ⟨s.sl + (nat 2 * alpha + κ i i), s.sr - (nat 2 * beta + κ i i),
   Array.ofFn fun c : Fin nClusters => s.slc[c.val]! + ((omegaOf κ a nClusters nLeaves)[c.val]!)[i]!,
   Array.ofFn fun c : Fin nClusters => s.src[c.val]! - ((omegaOf κ a nClusters nLeaves)[c.val]!)[i]!⟩

/-- the accumulators after the first `m` sorted samples of leaf `j` (feature `f`) have moved to the left -/
def accAt (j f m : Nat) : Acc α :=
  (List.range m).foldl (accStep κ X a nClusters nLeaves j f) (accInit κ a nClusters nLeaves j)

/-- The candidate record that `find_best_split` passes to `compute_all_splits` at leaf `j`, feature `f`, sorted
    position `l` (the left part is the first `l + 1` sorted samples, the threshold is the value of the `l`-th). -/
def candAt (j f l : Nat) : Cand α :=
  let s := accAt κ X a nClusters nLeaves j f (l + 1)
  { sl_square := s.sl, sr_square := s.sr,
    leaf_square := stock κ (a.samplesOfLeaf j) (a.samplesOfLeaf j),
    sl_clusters := fun c => s.slc[c]!, sr_clusters := fun c => s.src[c]!,
    cluster_sizes := fun c => (sizesOf a nClusters nLeaves)[c]!,
    gammaDiag := fun c => (gammaDiagOf κ a nClusters nLeaves)[c]!,
    omega_k_feat := ((omegaOf κ a nClusters nLeaves)[a.clusterOf[j]!]!)[f]!,
    n_leaf := nLeafOf a j, n_clusters := nClusters, K_max := K_max, k := a.clusterOf[j]!, leaf_id := j,
    split_size := l + 1, feature_id := f, threshold := X (nuOf X a j f)[l]! f }

/-- the guard (as computed) under which the scan calls `compute_all_splits` at position `l` -/
def evaluatedB (j f l : Nat) : Bool :=
  !(l + 1 < minLeaf || l + minLeaf + 1 > nLeafOf a j) &&
    !(beq (X (nuOf X a j f)[l]! f) (X (nuOf X a j f)[l + 1]! f))

/-- The scan of leaf `j`, feature `f` calls `compute_all_splits` at sorted position `l`: both parts keep at least
    `min_samples_leaf` samples and the feature values at positions `l` and `l + 1` differ (`==` of the code false). -/
def Evaluated (j f l : Nat) : Prop :=
  l < nLeafOf a j - 1 ∧ minLeaf ≤ l + 1 ∧ l + minLeaf + 1 ≤ nLeafOf a j ∧
    beq (X (nuOf X a j f)[l]! f) (X (nuOf X a j f)[l + 1]! f) = false

theorem evaluatedB_eq_true {j f l : Nat} :
    evaluatedB X a minLeaf j f l = true ↔
      (minLeaf ≤ l + 1 ∧ l + minLeaf + 1 ≤ nLeafOf a j ∧
        beq (X (nuOf X a j f)[l]! f) (X (nuOf X a j f)[l + 1]! f) = false) := by
  unfold evaluatedB
  simp only [Bool.and_eq_true, Bool.not_eq_true', Bool.or_eq_false_iff, decide_eq_false_iff_not, not_lt, gt_iff_lt]
  tauto

namespace Evaluated
variable {X a minLeaf} {j f l : Nat} (h : Evaluated X a minLeaf j f l)
include h

theorem lt : l < nLeafOf a j - 1 := h.1

theorem left_size : minLeaf ≤ l + 1 := h.2.1

theorem right_size : l + minLeaf + 1 ≤ nLeafOf a j := h.2.2.1

theorem values_ne : beq (X (nuOf X a j f)[l]! f) (X (nuOf X a j f)[l + 1]! f) = false := h.2.2.2

theorem guard : evaluatedB X a minLeaf j f l = true := (evaluatedB_eq_true X a minLeaf).2 h.2

end Evaluated

def bestUpd (j f : Nat) (b : Split α) (l : Nat) : Split α :=
  if evaluatedB X a minLeaf j f l then computeAllSplits b (candAt κ X a nClusters K_max nLeaves j f l) else b

def Acc.toScan (A : Acc α) (b : Split α) : Scan α := ⟨A.sl, A.sr, A.slc, A.src, b⟩

theorem accAt_succ (j f m : Nat) :
    accAt κ X a nClusters nLeaves j f (m + 1) =
      accStep κ X a nClusters nLeaves j f (accAt κ X a nClusters nLeaves j f m) m := by
  unfold accAt
  rw [List.range_succ, List.foldl_append, List.foldl_cons, List.foldl_nil]

theorem findBestSplit_eq (toExplore features : List Nat) :
    findBestSplit κ X toExplore a nClusters K_max nLeaves minLeaf features =
      toExplore.foldl (fun best j =>
        features.foldl (fun best f =>
          (List.range (nLeafOf a j - 1)).foldl (bestUpd κ X a nClusters K_max nLeaves minLeaf j f) best) best)
        Split.init := by
  unfold findBestSplit
  dsimp only
  congr 1
  funext best j
  congr 1
  funext best f
  -- after `m` positions the scan state is the accumulators `accAt … m` and the running best folded by `bestUpd`
  refine congrArg Scan.best (foldl_range_inv
    (fun m s => s = (accAt κ X a nClusters nLeaves j f m).toScan
      ((List.range m).foldl (bestUpd κ X a nClusters K_max nLeaves minLeaf j f) best)) _ _ _ rfl ?_)
  intro m s _ hs
  have e : ∀ b, (List.range (m + 1)).foldl (bestUpd κ X a nClusters K_max nLeaves minLeaf j f) b =
      bestUpd κ X a nClusters K_max nLeaves minLeaf j f
        ((List.range m).foldl (bestUpd κ X a nClusters K_max nLeaves minLeaf j f) b) m := fun b => by
    rw [List.range_succ, List.foldl_append, List.foldl_cons, List.foldl_nil]
  rw [hs, e]
  generalize (List.range m).foldl (bestUpd κ X a nClusters K_max nLeaves minLeaf j f) best = b
  unfold bestUpd evaluatedB candAt
  rw [accAt_succ]
  unfold accStep Acc.toScan nuOf nLeafOf
  dsimp only
  generalize (decide (m + 1 < minLeaf) || decide (m + minLeaf + 1 > (a.samplesOfLeaf j).length)) = A
  generalize beq (X _ f) (X _ f) = B
  -- in each of the four cases the `if`s on both sides are rewritten away before `rfl`: unfolding them inside `rfl`, on
  -- terms in which the sorted order occurs some thirty times, costs more than everything else in this proof
  cases A <;> cases B <;>
    simp only [Bool.false_eq_true, if_false, if_true, Bool.not_false, Bool.not_true, Bool.and_self, Bool.and_false,
      Bool.and_true] <;>
    rfl

theorem findBestSplit_induction (toExplore features : List Nat) (P : Split α → Prop) (h0 : P Split.init)
    (hstep : ∀ b j f l, j ∈ toExplore → f ∈ features → Evaluated X a minLeaf j f l → P b →
      P (computeAllSplits b (candAt κ X a nClusters K_max nLeaves j f l))) :
    P (findBestSplit κ X toExplore a nClusters K_max nLeaves minLeaf features) := by
  rw [findBestSplit_eq]
  refine foldl_induction _ P _ (fun b j hj hb => ?_) _ h0
  refine foldl_induction _ P _ (fun b f hf hb => ?_) _ hb
  refine foldl_induction _ P _ (fun b l hl hb => ?_) _ hb
  unfold bestUpd
  split_ifs with he
  · rw [evaluatedB_eq_true] at he
    exact hstep b j f l hj hf ⟨List.mem_range.1 hl, he⟩ hb
  · exact hb

theorem clusterSamplesOf_get {c : Nat} (hc : c < nClusters) :
    (clusterSamplesOf a nClusters nLeaves)[c]! = a.samplesOfCluster nLeaves c := by
  unfold clusterSamplesOf
  rw [KauriC09.getElem!_ofFn _ c hc]

theorem sizesOf_get {c : Nat} (hc : c < nClusters) :
    (sizesOf a nClusters nLeaves)[c]! = (a.samplesOfCluster nLeaves c).length := by
  unfold sizesOf
  have hsz : (clusterSamplesOf a nClusters nLeaves).size = nClusters := by simp [clusterSamplesOf]
  have h1 : ((clusterSamplesOf a nClusters nLeaves).map List.length)[c]! =
      ((clusterSamplesOf a nClusters nLeaves)[c]!).length := by
    simp [hsz, hc]
  rw [h1, clusterSamplesOf_get a nClusters nLeaves hc]

end scan

noncomputable section computeAllSplits

/-- the record `compute_all_splits` writes into `best_split` for candidate `c`: gain `g`, targets `(l, r)` -/
def Cand.record {α : Type} (c : Cand α) (g : α) (l r : Int) : Split α :=
  ⟨g, c.leaf_id, l, r, c.feature_id, c.threshold⟩

theorem set_eq_record {α : Type} (b : Split α) (c : Cand α) (g : α) (l r : Nat) :
    b.set c g l r = Cand.record c g (l : Int) (r : Int) := rfl

/-- `left_switch` of the code for the other cluster `p` -/
abbrev lsw (c : Cand ℝ) (p : Nat) : ℝ := c.app Gen.Kauri.leftSwitch p
/-- `right_switch` of the code for the other cluster `p` -/
abbrev rsw (c : Cand ℝ) (p : Nat) : ℝ := c.app Gen.Kauri.rightSwitch p

/-- The candidates `compute_all_splits` may evaluate for `c` — gain, target of the left part, target of the right
    part — each under the guard written in the code.  (`2 ≤ n_clusters` / `3 ≤ n_clusters` are the guards of the
    switch and refurbish blocks; they follow from the other conditions when `c.k < c.n_clusters`, see
    `Props.C08Max.switch_guard_redundant`, `realloc_guard_redundant`.) -/
inductive Admissible (c : Cand ℝ) : ℝ → Int → Int → Prop
  /-- both parts become new clusters -/
  | doubleStar : c.n_clusters + 1 < c.K_max → c.n_leaf ≠ c.cluster_sizes c.k →
      Admissible c (c.app Gen.Kauri.doubleStar c.k) (c.n_clusters : Int) ((c.n_clusters + 1 : Nat) : Int)
  /-- the left part becomes a new cluster, the right part stays in `k` -/
  | leftStar : c.n_clusters < c.K_max →
      Admissible c (c.app Gen.Kauri.leftStar c.k) (c.n_clusters : Int) (c.k : Int)
  /-- the right part becomes a new cluster, the left part stays in `k` -/
  | rightStar : c.n_clusters < c.K_max →
      Admissible c (c.app Gen.Kauri.rightStar c.k) (c.k : Int) (c.n_clusters : Int)
  /-- the left part joins the existing cluster `p` -/
  | leftSwitch (p : Nat) : 2 ≤ c.n_clusters → p < c.n_clusters → p ≠ c.k →
      Admissible c (lsw c p) (p : Int) (c.k : Int)
  /-- the right part joins the existing cluster `p` -/
  | rightSwitch (p : Nat) : 2 ≤ c.n_clusters → p < c.n_clusters → p ≠ c.k →
      Admissible c (rsw c p) (c.k : Int) (p : Int)
  /-- the left part joins `l`, the right part joins `r`, two different existing clusters other than `k` -/
  | realloc (l r : Nat) : 3 ≤ c.n_clusters → c.n_leaf ≠ c.cluster_sizes c.k →
      l < c.n_clusters → r < c.n_clusters → l ≠ c.k → r ≠ c.k → l ≠ r →
      Admissible c (lsw c l + rsw c r + c.app Gen.Kauri.corrective c.k) (l : Int) (r : Int)

/-- the candidate is one of the two switch candidates of some other cluster `p` (the block that overwrites on ties) -/
def IsSwitch (c : Cand ℝ) (g : ℝ) (l r : Int) : Prop :=
  ∃ p : Nat, p < c.n_clusters ∧ p ≠ c.k ∧
    ((g = lsw c p ∧ l = (p : Int) ∧ r = (c.k : Int)) ∨ (g = rsw c p ∧ l = (c.k : Int) ∧ r = (p : Int)))

/-- `b'` is what the running best `b` may have become after evaluating candidates of `c`: unchanged, or the record of
    an admissible candidate whose gain is at least (strictly more than, unless it is a switch candidate) `b.gain`. -/
def Adv (c : Cand ℝ) (b b' : Split ℝ) : Prop :=
  b' = b ∨ ∃ g l r, Admissible c g l r ∧ b' = Cand.record c g l r ∧ b.gain ≤ g ∧ (b.gain < g ∨ IsSwitch c g l r)

theorem Adv.refl (c : Cand ℝ) (b : Split ℝ) : Adv c b b := Or.inl rfl

theorem Adv.gain_le {c : Cand ℝ} {b b' : Split ℝ} (h : Adv c b b') : b.gain ≤ b'.gain := by
  rcases h with rfl | ⟨g, l, r, _, rfl, hg, _⟩
  · exact le_refl _
  · exact hg

theorem Adv.trans {c : Cand ℝ} {b b' b'' : Split ℝ} (h1 : Adv c b b') (h2 : Adv c b' b'') : Adv c b b'' := by
  rcases h2 with rfl | ⟨g, l, r, ha, rfl, hg, hs⟩
  · exact h1
  · have := h1.gain_le
    refine Or.inr ⟨g, l, r, ha, rfl, le_trans this hg, ?_⟩
    rcases hs with hs | hs
    · exact Or.inl (lt_of_le_of_lt this hs)
    · exact Or.inr hs

theorem Adv.of_lt {c : Cand ℝ} {b : Split ℝ} {g : ℝ} {l r : Int} (ha : Admissible c g l r) (hg : b.gain < g) :
    Adv c b (Cand.record c g l r) :=
  Or.inr ⟨g, l, r, ha, rfl, le_of_lt hg, Or.inl hg⟩

section stages
variable {α : Type} [RealLike α]

/-- double-star block -/
def stage1 (c : Cand α) (best : Split α) : Split α :=
  if c.n_clusters + 1 < c.K_max && c.n_leaf != c.cluster_sizes c.k then
    let g := c.app Gen.Kauri.doubleStar c.k
    if lt best.gain g then best.set c g c.n_clusters (c.n_clusters + 1) else best
  else best

/-- single-star block -/
def stage2 (c : Cand α) (best : Split α) : Split α :=
  if c.n_clusters < c.K_max then
    let l := c.app Gen.Kauri.leftStar c.k
    let r := c.app Gen.Kauri.rightStar c.k
    if lt best.gain l || lt best.gain r then
      if lt r l then best.set c l c.n_clusters c.k else best.set c r c.k c.n_clusters
    else best
  else best

/-- the four top-2 variables of one side (left or right) -/
structure Side (α : Type) where
  tg : NegInf α
  sg : NegInf α
  tk : Int
  sk : Int

/-- the `if … >= top … elif … >= second …` update of one side -/
def Side.upd (s : Side α) (x : α) (p : Nat) : Side α :=
  if geN x s.tg then ⟨some x, s.tg, p, s.tk⟩ else if geN x s.sg then ⟨s.tg, some x, s.tk, p⟩ else s

def Top2L (t : Top2 α) : Side α := ⟨t.topGL, t.secGL, t.topKL, t.secKL⟩
def Top2R (t : Top2 α) : Side α := ⟨t.topGR, t.secGR, t.topKR, t.secKR⟩
def Top2.ofSides (L R : Side α) : Top2 α := ⟨L.tg, L.sg, L.tk, L.sk, R.tg, R.sg, R.tk, R.sk⟩

/-- the choice of the pair of switches in the refurbish block, from the left and the right top-2 variables -/
def pick (L R : Side α) : NegInf α × Int × Int :=
  if L.tk != R.tk then (addN L.tg R.tg, L.tk, R.tk)
  else if gtN (addN L.tg R.sg) (addN R.tg L.sg) then (addN L.tg R.sg, L.tk, R.sk)
  else (addN R.tg L.sg, L.sk, R.tk)

/-- refurbish (reallocation) block -/
def stage4 (c : Cand α) (L R : Side α) (best : Split α) : Split α :=
  if c.n_clusters ≥ 3 && c.n_leaf != c.cluster_sizes c.k then
    match (pick L R).1 with
    | some r =>
      if lt best.gain (r + c.app Gen.Kauri.corrective c.k) then
        Cand.record c (r + c.app Gen.Kauri.corrective c.k) (pick L R).2.1 (pick L R).2.2
      else best
    | none => best
  else best

/-- the switch loop -/
def switchLoop (c : Cand α) (best : Split α) : Top2 α × Split α :=
  (List.range c.n_clusters).foldl (switchStep c) (({} : Top2 α), best)

/-- switch loop followed by the refurbish block -/
def stage34 (c : Cand α) (best : Split α) : Split α :=
  if c.n_clusters ≥ 2 then
    stage4 c (Top2L (switchLoop c best).1) (Top2R (switchLoop c best).1) (switchLoop c best).2
  else best

theorem computeAllSplits_eq (best : Split α) (c : Cand α) :
    computeAllSplits best c = stage34 c (stage2 c (stage1 c best)) := by
  unfold computeAllSplits stage34 switchLoop stage4 pick stage2 stage1
  rfl

/-- the `best_split` update of one iteration of the switch loop (for a cluster `p ≠ k`) -/
def bestStep (c : Cand α) (b : Split α) (p : Nat) : Split α :=
  if le b.gain (c.app Gen.Kauri.leftSwitch p) || le b.gain (c.app Gen.Kauri.rightSwitch p) then
    if lt (c.app Gen.Kauri.rightSwitch p) (c.app Gen.Kauri.leftSwitch p) then
      Cand.record c (c.app Gen.Kauri.leftSwitch p) p c.k
    else Cand.record c (c.app Gen.Kauri.rightSwitch p) c.k p
  else b

theorem switchStep_of_eq (c : Cand α) (st : Top2 α × Split α) {p : Nat} (h : c.k = p) : switchStep c st p = st := by
  unfold switchStep
  rw [if_pos h]

/-- the update of the left variables of the top-2 tracking by the gain `x` of cluster `p` -/
def updL (t : Top2 α) (x : α) (p : Nat) : Top2 α :=
  if geN x t.topGL then { t with topGL := some x, secGL := t.topGL, topKL := p, secKL := t.topKL }
  else if geN x t.secGL then { t with secGL := some x, secKL := p }
  else t

/-- the update of the right variables -/
def updR (t : Top2 α) (x : α) (p : Nat) : Top2 α :=
  if geN x t.topGR then { t with topGR := some x, secGR := t.topGR, topKR := p, secKR := t.topKR }
  else if geN x t.secGR then { t with secGR := some x, secKR := p }
  else t

theorem updL_eq (t : Top2 α) (x : α) (p : Nat) : updL t x p = Top2.ofSides ((Top2L t).upd x p) (Top2R t) := by
  unfold updL Side.upd
  rw [apply_ite (Top2.ofSides · (Top2R t)), apply_ite (Top2.ofSides · (Top2R t))]
  rfl

theorem updR_eq (t : Top2 α) (x : α) (p : Nat) : updR t x p = Top2.ofSides (Top2L t) ((Top2R t).upd x p) := by
  unfold updR Side.upd
  rw [apply_ite (Top2.ofSides (Top2L t)), apply_ite (Top2.ofSides (Top2L t))]
  rfl

theorem switchStep_of_ne (c : Cand α) (t : Top2 α) (b : Split α) {p : Nat} (h : c.k ≠ p) :
    switchStep c (t, b) p =
      (Top2.ofSides ((Top2L t).upd (c.app Gen.Kauri.leftSwitch p) p) ((Top2R t).upd (c.app Gen.Kauri.rightSwitch p) p),
        bestStep c b p) := by
  unfold switchStep
  rw [if_neg h]
  refine Prod.ext ?_ rfl
  show updR (updL t (c.app Gen.Kauri.leftSwitch p) p) (c.app Gen.Kauri.rightSwitch p) p = _
  rw [updR_eq, updL_eq]
  rfl

/-- Induction along the switch loop, read through the two sides of its top-2 record: the loop skips `k` and otherwise
    updates each side by `Side.upd` and the running best by `bestStep`.  The invariants of the loop (`LoopInv`,
    `KauriSpec.stage34_ind`) are instances. -/
theorem switchLoop_induction (c : Cand α) (best : Split α) (I : Nat → Side α → Side α → Split α → Prop)
    (h0 : I 0 ⟨none, none, -1, -1⟩ ⟨none, none, -1, -1⟩ best)
    (hskip : ∀ n L R b, c.k = n → I n L R b → I (n + 1) L R b)
    (hstep : ∀ n L R b, n < c.n_clusters → c.k ≠ n → I n L R b →
      I (n + 1) (L.upd (c.app Gen.Kauri.leftSwitch n) n) (R.upd (c.app Gen.Kauri.rightSwitch n) n) (bestStep c b n)) :
    I c.n_clusters (Top2L (switchLoop c best).1) (Top2R (switchLoop c best).1) (switchLoop c best).2 := by
  refine foldl_range_inv (fun n (st : Top2 α × Split α) => I n (Top2L st.1) (Top2R st.1) st.2) _ _ _ h0
    (fun n st hn h => ?_)
  by_cases hk : c.k = n
  · rw [switchStep_of_eq c st hk]
    exact hskip n _ _ _ hk h
  · obtain ⟨t, b⟩ := st
    rw [switchStep_of_ne c t b hk]
    exact hstep n _ _ _ hn hk h

/-- One side of the top-2 tracking of `f` after the clusters `q < n`, `q ≠ k`: a finite top gain is `f` of the tracked
    top cluster, a finite second gain is `f` of the tracked second cluster, which differs from the top one. -/
structure TopAt (f : Nat → α) (k n : Nat) (s : Side α) : Prop where
  top_at : ∀ y, s.tg = some y → ∃ q, q < n ∧ q ≠ k ∧ s.tk = (q : Int) ∧ f q = y
  sec_at : ∀ y, s.sg = some y → ∃ q, q < n ∧ q ≠ k ∧ s.sk = (q : Int) ∧ (q : Int) ≠ s.tk ∧ f q = y

omit [RealLike α] in
theorem TopAt.init (f : Nat → α) (k : Nat) : TopAt f k 0 ⟨none, none, -1, -1⟩ :=
  ⟨fun y h => (by cases h), fun y h => (by cases h)⟩

omit [RealLike α] in
theorem TopAt.mono {f : Nat → α} {k n : Nat} {s : Side α} (h : TopAt f k n s) : TopAt f k (n + 1) s := by
  refine ⟨fun y hy => ?_, fun y hy => ?_⟩
  · obtain ⟨q, h1, h2⟩ := h.top_at y hy
    exact ⟨q, Nat.lt_succ_of_lt h1, h2⟩
  · obtain ⟨q, h1, h2⟩ := h.sec_at y hy
    exact ⟨q, Nat.lt_succ_of_lt h1, h2⟩

theorem exists_of_not_geN {x : α} {o : NegInf α} (h : ¬ geN x o = true) : ∃ y, o = some y := by
  cases o with
  | none => exact absurd rfl h
  | some y => exact ⟨y, rfl⟩

theorem TopAt.step {f : Nat → α} {k n : Nat} {s : Side α} (h : TopAt f k n s) (hk : k ≠ n) :
    TopAt f k (n + 1) (s.upd (f n) n) := by
  have cast_ne : ∀ q, q < n → (q : Int) ≠ (n : Int) := fun q hq => by omega
  unfold Side.upd
  split_ifs with h1 h2
  · refine ⟨fun y hy => ?_, fun y hy => ?_⟩
    · cases hy
      exact ⟨n, Nat.lt_succ_self n, fun e => hk e.symm, rfl, rfl⟩
    · obtain ⟨q, hq, hqk, htk, hf⟩ := h.top_at y hy
      exact ⟨q, Nat.lt_succ_of_lt hq, hqk, htk, cast_ne q hq, hf⟩
  · -- the old top stays: it is finite, so it sits on a cluster `q1 < n`, different from the new second `n`
    obtain ⟨y1, hy1⟩ := exists_of_not_geN h1
    obtain ⟨q1, hq1, _, htk1, _⟩ := h.top_at y1 hy1
    refine ⟨h.mono.top_at, fun y hy => ?_⟩
    cases hy
    refine ⟨n, Nat.lt_succ_self n, fun e => hk e.symm, rfl, ?_, rfl⟩
    show (n : Int) ≠ s.tk
    rw [htk1]
    exact fun e => cast_ne q1 hq1 e.symm
  · exact h.mono

theorem addN_eq_some {a b : NegInf α} {m : α} (h : addN a b = some m) :
    ∃ x y, a = some x ∧ b = some y ∧ m = x + y := by
  cases a with
  | none => cases h
  | some x =>
    cases b with
    | none => cases h
    | some y => exact ⟨x, y, rfl, rfl, (Option.some.inj h).symm⟩

theorem pick_cases (L R : Side α) :
    (L.tk ≠ R.tk ∧ pick L R = (addN L.tg R.tg, L.tk, R.tk)) ∨
    (L.tk = R.tk ∧ gtN (addN L.tg R.sg) (addN R.tg L.sg) = true ∧ pick L R = (addN L.tg R.sg, L.tk, R.sk)) ∨
    (L.tk = R.tk ∧ ¬ gtN (addN L.tg R.sg) (addN R.tg L.sg) = true ∧ pick L R = (addN R.tg L.sg, L.sk, R.tk)) := by
  unfold pick
  by_cases h1 : L.tk = R.tk
  · rw [if_neg (by simpa using h1)]
    by_cases h2 : gtN (addN L.tg R.sg) (addN R.tg L.sg) = true
    · exact .inr (.inl ⟨h1, h2, if_pos h2⟩)
    · exact .inr (.inr ⟨h1, h2, if_neg h2⟩)
  · exact .inl ⟨h1, if_pos (by simpa using h1)⟩

theorem pick_attained {c : Cand α} {L R : Side α} {n : Nat} (hL : TopAt (c.app Gen.Kauri.leftSwitch) c.k n L)
    (hR : TopAt (c.app Gen.Kauri.rightSwitch) c.k n R) {m : α} (hm : (pick L R).1 = some m) :
    ∃ kl kr : Nat, kl < n ∧ kr < n ∧ kl ≠ c.k ∧ kr ≠ c.k ∧ kl ≠ kr ∧ (pick L R).2.1 = (kl : Int) ∧
      (pick L R).2.2 = (kr : Int) ∧ (m = c.app Gen.Kauri.leftSwitch kl + c.app Gen.Kauri.rightSwitch kr ∨
        m = c.app Gen.Kauri.rightSwitch kr + c.app Gen.Kauri.leftSwitch kl) := by
  rcases pick_cases L R with ⟨h1, e⟩ | ⟨h1, _, e⟩ | ⟨h1, _, e⟩ <;> rw [e] at hm ⊢
  · obtain ⟨x, y, hx, hy, rfl⟩ := addN_eq_some hm
    obtain ⟨kl, hkl, hklk, htl, hfl⟩ := hL.top_at x hx
    obtain ⟨kr, hkr, hkrk, htr, hfr⟩ := hR.top_at y hy
    refine ⟨kl, kr, hkl, hkr, hklk, hkrk, fun e => h1 ?_, htl, htr, Or.inl (by rw [hfl, hfr])⟩
    rw [htl, htr, e]
  · obtain ⟨x, y, hx, hy, rfl⟩ := addN_eq_some hm
    obtain ⟨kl, hkl, hklk, htl, hfl⟩ := hL.top_at x hx
    obtain ⟨kr, hkr, hkrk, hsr, hne, hfr⟩ := hR.sec_at y hy
    refine ⟨kl, kr, hkl, hkr, hklk, hkrk, fun e => hne ?_, htl, hsr, Or.inl (by rw [hfl, hfr])⟩
    rw [← h1, htl, e]
  · obtain ⟨x, y, hx, hy, rfl⟩ := addN_eq_some hm
    obtain ⟨kr, hkr, hkrk, htr, hfr⟩ := hR.top_at x hx
    obtain ⟨kl, hkl, hklk, hsl, hne, hfl⟩ := hL.sec_at y hy
    refine ⟨kl, kr, hkl, hkr, hklk, hkrk, fun e => hne ?_, hsl, htr, Or.inr (by rw [hfl, hfr])⟩
    rw [h1, htr, e]

end stages

theorem stage1_adv (c : Cand ℝ) (b : Split ℝ) : Adv c b (stage1 c b) := by
  unfold stage1
  dsimp only
  split_ifs with h1 h2
  · simp only [Bool.and_eq_true, decide_eq_true_eq, bne_iff_ne, ne_eq] at h1
    rw [set_eq_record]
    exact Adv.of_lt (Admissible.doubleStar h1.1 h1.2) (by simpa using h2)
  · exact Adv.refl _ _
  · exact Adv.refl _ _

theorem stage1_max (c : Cand ℝ) (b : Split ℝ) (h1 : c.n_clusters + 1 < c.K_max)
    (h2 : c.n_leaf ≠ c.cluster_sizes c.k) : c.app Gen.Kauri.doubleStar c.k ≤ (stage1 c b).gain := by
  unfold stage1
  dsimp only
  rw [if_pos (by simp [h1, h2])]
  split_ifs with h
  · exact le_refl _
  · simpa using h

theorem stage2_adv (c : Cand ℝ) (b : Split ℝ) : Adv c b (stage2 c b) := by
  unfold stage2
  dsimp only
  split_ifs with h1 h2 h3
  · simp only [lt_real, Bool.or_eq_true, decide_eq_true_eq] at h2 h3
    rw [set_eq_record]
    refine Adv.of_lt (Admissible.leftStar h1) ?_
    rcases h2 with h2 | h2
    · exact h2
    · exact lt_trans h2 h3
  · simp only [lt_real, Bool.or_eq_true, decide_eq_true_eq, not_lt] at h2 h3
    rw [set_eq_record]
    refine Adv.of_lt (Admissible.rightStar h1) ?_
    rcases h2 with h2 | h2
    · exact lt_of_lt_of_le h2 h3
    · exact h2
  · exact Adv.refl _ _
  · exact Adv.refl _ _

theorem stage2_max (c : Cand ℝ) (b : Split ℝ) (h1 : c.n_clusters < c.K_max) :
    c.app Gen.Kauri.leftStar c.k ≤ (stage2 c b).gain ∧ c.app Gen.Kauri.rightStar c.k ≤ (stage2 c b).gain := by
  unfold stage2
  dsimp only
  rw [if_pos h1]
  split_ifs with h2 h3
  · simp only [lt_real, decide_eq_true_eq] at h3
    exact ⟨le_refl _, le_of_lt h3⟩
  · simp only [lt_real, decide_eq_true_eq, not_lt] at h3
    exact ⟨h3, le_refl _⟩
  · simp only [lt_real, Bool.or_eq_true, decide_eq_true_eq, not_or, not_lt] at h2
    exact h2

theorem bestStep_adv (c : Cand ℝ) (b : Split ℝ) {p : Nat} (hn : 2 ≤ c.n_clusters) (hp : p < c.n_clusters)
    (hk : c.k ≠ p) : Adv c b (bestStep c b p) := by
  have hpk : p ≠ c.k := fun h => hk h.symm
  unfold bestStep
  split_ifs with h1 h2
  · simp only [le_real, lt_real, Bool.or_eq_true, decide_eq_true_eq] at h1 h2
    refine Or.inr ⟨_, _, _, Admissible.leftSwitch p hn hp hpk, rfl, ?_, Or.inr ⟨p, hp, hpk, Or.inl ⟨rfl, rfl, rfl⟩⟩⟩
    rcases h1 with h1 | h1
    · exact h1
    · exact le_trans h1 (le_of_lt h2)
  · simp only [le_real, lt_real, Bool.or_eq_true, decide_eq_true_eq, not_lt] at h1 h2
    refine Or.inr ⟨_, _, _, Admissible.rightSwitch p hn hp hpk, rfl, ?_, Or.inr ⟨p, hp, hpk, Or.inr ⟨rfl, rfl, rfl⟩⟩⟩
    rcases h1 with h1 | h1
    · exact le_trans h1 h2
    · exact h1
  · exact Adv.refl _ _

theorem bestStep_max (c : Cand ℝ) (b : Split ℝ) (p : Nat) :
    lsw c p ≤ (bestStep c b p).gain ∧ rsw c p ≤ (bestStep c b p).gain := by
  unfold bestStep
  split_ifs with h1 h2
  · simp only [lt_real, decide_eq_true_eq] at h2
    exact ⟨le_refl _, le_of_lt h2⟩
  · simp only [lt_real, decide_eq_true_eq, not_lt] at h2
    exact ⟨h2, le_refl _⟩
  · simp only [le_real, Bool.or_eq_true, decide_eq_true_eq, not_or, not_le] at h1
    exact ⟨le_of_lt h1.1, le_of_lt h1.2⟩

/-- `x ≤ o` where `none` is `-∞` -/
def leN (x : ℝ) (o : NegInf ℝ) : Prop := ∃ y, o = some y ∧ x ≤ y

/-- the tracked gains of one side dominate `f` over the clusters `q < n`, `q ≠ k` (the second one: over those other than
    the tracked top cluster) -/
structure TopGe (f : Nat → ℝ) (k n : Nat) (s : Side ℝ) : Prop where
  top_ge : ∀ q, q < n → q ≠ k → leN (f q) s.tg
  sec_ge : ∀ q, q < n → q ≠ k → (q : Int) ≠ s.tk → leN (f q) s.sg

theorem TopGe.init (f : Nat → ℝ) (k : Nat) : TopGe f k 0 ⟨none, none, -1, -1⟩ :=
  ⟨fun q h _ => absurd h (Nat.not_lt_zero q), fun q h _ _ => absurd h (Nat.not_lt_zero q)⟩

theorem TopGe.skip {f : Nat → ℝ} {k n : Nat} {s : Side ℝ} (h : TopGe f k n s) (hk : k = n) : TopGe f k (n + 1) s := by
  have lt_of : ∀ q, q < n + 1 → q ≠ k → q < n := fun q h1 h2 => by omega
  exact ⟨fun q h1 h2 => h.top_ge q (lt_of q h1 h2) h2, fun q h1 h2 => h.sec_ge q (lt_of q h1 h2) h2⟩

theorem geN_iff (x : ℝ) (o : NegInf ℝ) : geN x o = true ↔ ∀ y, o = some y → y ≤ x := by
  cases o with
  | none => simp [geN]
  | some z => simp [geN]

theorem not_geN_iff (x : ℝ) (o : NegInf ℝ) : ¬ geN x o = true ↔ ∃ y, o = some y ∧ x < y := by
  cases o with
  | none => simp [geN]
  | some z => simp [geN]

theorem TopGe.step {f : Nat → ℝ} {k n : Nat} {s : Side ℝ} (h : TopGe f k n s) : TopGe f k (n + 1) (s.upd (f n) n) := by
  unfold Side.upd
  split_ifs with h1 h2
  · -- new top
    rw [geN_iff] at h1
    refine ⟨fun q hq hqk => ?_, fun q hq hqk hne => ?_⟩
    · rcases Nat.lt_succ_iff_lt_or_eq.1 hq with hq | rfl
      · obtain ⟨y, hy, hle⟩ := h.top_ge q hq hqk
        exact ⟨_, rfl, le_trans hle (h1 y hy)⟩
      · exact ⟨_, rfl, le_refl _⟩
    · rcases Nat.lt_succ_iff_lt_or_eq.1 hq with hq | rfl
      · exact h.top_ge q hq hqk
      · exact absurd rfl hne
  · -- new second
    rw [not_geN_iff] at h1
    rw [geN_iff] at h2
    obtain ⟨y1, hy1, hlt1⟩ := h1
    refine ⟨fun q hq hqk => ?_, fun q hq hqk hne => ?_⟩
    · rcases Nat.lt_succ_iff_lt_or_eq.1 hq with hq | rfl
      · exact h.top_ge q hq hqk
      · exact ⟨y1, hy1, le_of_lt hlt1⟩
    · rcases Nat.lt_succ_iff_lt_or_eq.1 hq with hq | rfl
      · obtain ⟨y, hy, hle⟩ := h.sec_ge q hq hqk hne
        exact ⟨_, rfl, le_trans hle (h2 y hy)⟩
      · exact ⟨_, rfl, le_refl _⟩
  · -- unchanged
    rw [not_geN_iff] at h1 h2
    obtain ⟨y1, hy1, hlt1⟩ := h1
    obtain ⟨y2, hy2, hlt2⟩ := h2
    refine ⟨fun q hq hqk => ?_, fun q hq hqk hne => ?_⟩
    · rcases Nat.lt_succ_iff_lt_or_eq.1 hq with hq | rfl
      · exact h.top_ge q hq hqk
      · exact ⟨y1, hy1, le_of_lt hlt1⟩
    · rcases Nat.lt_succ_iff_lt_or_eq.1 hq with hq | rfl
      · exact h.sec_ge q hq hqk hne
      · exact ⟨y2, hy2, le_of_lt hlt2⟩

theorem leN_addN {x y : ℝ} {a b : NegInf ℝ} (hx : leN x a) (hy : leN y b) : leN (x + y) (addN a b) := by
  obtain ⟨x', rfl, hx⟩ := hx
  obtain ⟨y', rfl, hy⟩ := hy
  exact ⟨x' + y', rfl, add_le_add hx hy⟩

theorem leN_of_gtN {x : ℝ} {u v : NegInf ℝ} (h : gtN u v = true) (hx : leN x v) : leN x u := by
  obtain ⟨y, rfl, hy⟩ := hx
  cases u with
  | none => cases h
  | some z => exact ⟨z, rfl, le_trans hy (le_of_lt (by simpa [gtN] using h))⟩

theorem leN_of_not_gtN {x : ℝ} {u v : NegInf ℝ} (h : ¬ gtN u v = true) (hx : leN x u) : leN x v := by
  obtain ⟨y, rfl, hy⟩ := hx
  cases v with
  | none => exact absurd rfl h
  | some z => exact ⟨z, rfl, le_trans hy (by simpa [gtN] using h)⟩

/-- The pair chosen by the refurbish block dominates `left_switch(l) + right_switch(r)` for every pair of different
    clusters `l ≠ r` other than `k`: this is the top-2 argument (when both maxima sit on the same cluster, one of `l`, `r`
    is another cluster, so the pair made of the second best of that side and the best of the other dominates, and the
    code takes the larger of the two such pairs). -/
theorem pick_max {c : Cand ℝ} {L R : Side ℝ} {n : Nat} (hL : TopGe (lsw c) c.k n L) (hR : TopGe (rsw c) c.k n R)
    {l r : Nat} (hl : l < n) (hlk : l ≠ c.k) (hr : r < n) (hrk : r ≠ c.k) (hlr : l ≠ r) :
    leN (lsw c l + rsw c r) (pick L R).1 := by
  have hu : (r : Int) ≠ R.tk → leN (lsw c l + rsw c r) (addN L.tg R.sg) :=
    fun h => leN_addN (hL.top_ge l hl hlk) (hR.sec_ge r hr hrk h)
  have hv : (l : Int) ≠ L.tk → leN (lsw c l + rsw c r) (addN R.tg L.sg) := fun h => by
    rw [add_comm]
    exact leN_addN (hR.top_ge r hr hrk) (hL.sec_ge l hl hlk h)
  rcases pick_cases L R with ⟨_, e⟩ | ⟨h1, h2, e⟩ | ⟨h1, h2, e⟩ <;> rw [e]
  · exact leN_addN (hL.top_ge l hl hlk) (hR.top_ge r hr hrk)
  · by_cases h : (r : Int) = R.tk
    · exact leN_of_gtN h2 (hv (fun e => hlr (by omega)))
    · exact hu h
  · by_cases h : (r : Int) = R.tk
    · exact hv (fun e => hlr (by omega))
    · exact leN_of_not_gtN h2 (hu h)

/-- state of the switch loop after the clusters `q < n`: the two sides and the running best -/
structure LoopInv (c : Cand ℝ) (best : Split ℝ) (n : Nat) (L R : Side ℝ) (b : Split ℝ) : Prop where
  atL : TopAt (lsw c) c.k n L
  atR : TopAt (rsw c) c.k n R
  geL : TopGe (lsw c) c.k n L
  geR : TopGe (rsw c) c.k n R
  adv : Adv c best b
  switch_le : ∀ q, q < n → q ≠ c.k → lsw c q ≤ b.gain ∧ rsw c q ≤ b.gain

theorem loopInv_loop (c : Cand ℝ) (best : Split ℝ) (hn : 2 ≤ c.n_clusters) :
    LoopInv c best c.n_clusters (Top2L (switchLoop c best).1) (Top2R (switchLoop c best).1) (switchLoop c best).2 := by
  refine switchLoop_induction c best (LoopInv c best)
    ⟨TopAt.init _ _, TopAt.init _ _, TopGe.init _ _, TopGe.init _ _, Adv.refl _ _,
      fun q hq => absurd hq (Nat.not_lt_zero q)⟩
    (fun n L R b hk h => ⟨h.atL.mono, h.atR.mono, h.geL.skip hk, h.geR.skip hk, h.adv,
      fun q hq hqk => h.switch_le q (by omega) hqk⟩)
    (fun n L R b hlt hk h => ?_)
  have hadv := bestStep_adv c b hn hlt hk
  refine ⟨h.atL.step hk, h.atR.step hk, h.geL.step, h.geR.step, h.adv.trans hadv, fun q hq hqk => ?_⟩
  rcases Nat.lt_succ_iff_lt_or_eq.1 hq with hq | rfl
  · have := h.switch_le q hq hqk
    have hg := hadv.gain_le
    exact ⟨le_trans this.1 hg, le_trans this.2 hg⟩
  · exact bestStep_max c b q

theorem stage4_adv {c : Cand ℝ} {L R : Side ℝ} (hL : TopAt (lsw c) c.k c.n_clusters L)
    (hR : TopAt (rsw c) c.k c.n_clusters R) (b : Split ℝ) : Adv c b (stage4 c L R b) := by
  unfold stage4
  split_ifs with hg
  · simp only [ge_iff_le, Bool.and_eq_true, decide_eq_true_eq, bne_iff_ne, ne_eq] at hg
    cases hp : (pick L R).1 with
    | none => exact Adv.refl _ _
    | some m =>
      obtain ⟨kl, kr, hkl, hkr, hklk, hkrk, hne, e1, e2, hm⟩ := pick_attained hL hR hp
      have hm : m = lsw c kl + rsw c kr := hm.elim id (fun e => e.trans (add_comm _ _))
      subst hm
      dsimp only
      split_ifs with hlt
      · rw [e1, e2]
        exact Adv.of_lt (Admissible.realloc kl kr hg.1 hg.2 hkl hkr hklk hkrk hne) (by simpa using hlt)
      · exact Adv.refl _ _
  · exact Adv.refl _ _

theorem stage4_max {c : Cand ℝ} {L R : Side ℝ} (hL : TopGe (lsw c) c.k c.n_clusters L)
    (hR : TopGe (rsw c) c.k c.n_clusters R) (b : Split ℝ) (h3 : 3 ≤ c.n_clusters)
    (hleaf : c.n_leaf ≠ c.cluster_sizes c.k) {l r : Nat} (hl : l < c.n_clusters) (hr : r < c.n_clusters)
    (hlk : l ≠ c.k) (hrk : r ≠ c.k) (hlr : l ≠ r) :
    lsw c l + rsw c r + c.app Gen.Kauri.corrective c.k ≤ (stage4 c L R b).gain := by
  obtain ⟨m, hm, hle⟩ := pick_max hL hR hl hlk hr hrk hlr
  unfold stage4
  rw [if_pos (by simp [h3, hleaf]), hm]
  dsimp only
  split_ifs with hlt
  · exact add_le_add_left hle _
  · simp only [lt_real, decide_eq_true_eq, not_lt] at hlt
    exact le_trans (add_le_add_left hle _) hlt

theorem stage34_adv (c : Cand ℝ) (b : Split ℝ) : Adv c b (stage34 c b) := by
  unfold stage34
  split_ifs with hn
  · have h := loopInv_loop c b hn
    exact h.adv.trans (stage4_adv h.atL h.atR _)
  · exact Adv.refl _ _

theorem stage34_switch_max (c : Cand ℝ) (b : Split ℝ) (hn : 2 ≤ c.n_clusters) {p : Nat} (hp : p < c.n_clusters)
    (hpk : p ≠ c.k) : lsw c p ≤ (stage34 c b).gain ∧ rsw c p ≤ (stage34 c b).gain := by
  unfold stage34
  rw [if_pos hn]
  have h := loopInv_loop c b hn
  have hg := (stage4_adv h.atL h.atR (switchLoop c b).2).gain_le
  have := h.switch_le p hp hpk
  exact ⟨le_trans this.1 hg, le_trans this.2 hg⟩

theorem stage34_realloc_max (c : Cand ℝ) (b : Split ℝ) (h3 : 3 ≤ c.n_clusters)
    (hleaf : c.n_leaf ≠ c.cluster_sizes c.k) {l r : Nat} (hl : l < c.n_clusters) (hr : r < c.n_clusters)
    (hlk : l ≠ c.k) (hrk : r ≠ c.k) (hlr : l ≠ r) :
    lsw c l + rsw c r + c.app Gen.Kauri.corrective c.k ≤ (stage34 c b).gain := by
  have hn : 2 ≤ c.n_clusters := by omega
  unfold stage34
  rw [if_pos hn]
  have h := loopInv_loop c b hn
  exact stage4_max h.geL h.geR _ h3 hleaf hl hr hlk hrk hlr

theorem computeAllSplits_adv (best : Split ℝ) (c : Cand ℝ) : Adv c best (computeAllSplits best c) := by
  rw [computeAllSplits_eq]
  exact ((stage1_adv c best).trans (stage2_adv c _)).trans (stage34_adv c _)

end computeAllSplits

section lift
variable (κ X : Nat → Nat → ℝ) (a : Assign) (nClusters K_max nLeaves minLeaf : Nat)

theorem bestUpd_ge (j f : Nat) (b : Split ℝ) (l : Nat) :
    b.gain ≤ (bestUpd κ X a nClusters K_max nLeaves minLeaf j f b l).gain := by
  unfold bestUpd
  split_ifs
  · exact (computeAllSplits_adv _ _).gain_le
  · exact le_refl _

theorem foldl_gain_le {γ : Type} (F : Split ℝ → γ → Split ℝ) (hF : ∀ b x, b.gain ≤ (F b x).gain) (l : List γ)
    (b : Split ℝ) :
    b.gain ≤ (l.foldl F b).gain ∧ ∀ x ∈ l, ∀ g : ℝ, (∀ b', g ≤ (F b' x).gain) → g ≤ (l.foldl F b).gain := by
  induction l generalizing b with
  | nil => exact ⟨le_refl _, fun x hx => absurd hx List.not_mem_nil⟩
  | cons y ys ih =>
    obtain ⟨h1, h2⟩ := ih (F b y)
    refine ⟨le_trans (hF b y) h1, fun x hx g hg => ?_⟩
    rcases List.mem_cons.1 hx with rfl | hx
    · exact le_trans (hg b) h1
    · exact h2 x hx g hg

end lift

/-! Concrete candidates, used by the examples of `Props/C08Max.lean`. -/

namespace Example

/-- a cut of a 2-sample leaf of cluster `k = 0` (4 samples) into 1 + 1, with three clusters and `K_max = 3` (no star
    allowed); `slc`, `src` are the stocks σ(S_L × C_p), σ(S_R × C_p) -/
noncomputable def exCand (slc src : List ℝ) : Cand ℝ :=
  { sl_square := 1, sr_square := 1, leaf_square := 2,
    sl_clusters := fun c => slc.getD c 0, sr_clusters := fun c => src.getD c 0,
    cluster_sizes := fun c => [4, 2, 2].getD c 0, gammaDiag := fun c => [6, 4, 4].getD c 0,
    omega_k_feat := 0, n_leaf := 2, n_clusters := 3, K_max := 3, k := 0, leaf_id := 0, split_size := 1,
    feature_id := 0, threshold := 0 }

/-- the left sample is close to cluster 1, the right sample to cluster 2 -/
noncomputable def exA : Cand ℝ := exCand [1, 6, 0] [1, 0, 6]
/-- both samples are closest to cluster 1 -/
noncomputable def exB : Cand ℝ := exCand [1, 6, 3] [1, 6, 2]

/-! The 14 arguments are the stocks of `exCand` read off by `Cand.app`: σ(S_L²), σ(S_R²), σ(N²), |N|, |S_L|, |C_k|, then
    |C_p|, σ(C_k²), σ(C_p²), σ(S_L×C_k), σ(S_R×C_k), σ(S_L×C_p), σ(S_R×C_p) and the unused `omega[k, feature]`. -/

/-- the switch gains of `exCand` towards cluster 1 or 2 (both of size 2 with σ(C_p²) = 4), as functions of
    `x = σ(S_L×C_p)`, `y = σ(S_R×C_p)` -/
theorem lsw_ex (x y : ℝ) :
    Gen.Kauri.leftSwitch (1 : ℝ) 1 2 (nat 2) (nat 1) (nat 4) (nat 2) 6 4 1 1 x y 0 = (4 * x - 1) / 6 := by
  simp only [Gen.Kauri.leftSwitch, nat_real]
  ring
theorem rsw_ex (x y : ℝ) :
    Gen.Kauri.rightSwitch (1 : ℝ) 1 2 (nat 2) (nat 1) (nat 4) (nat 2) 6 4 1 1 x y 0 = (4 * y - 1) / 6 := by
  simp only [Gen.Kauri.rightSwitch, nat_real]
  ring

theorem lswA1 : lsw exA 1 = 23 / 6 := (lsw_ex 6 0).trans (by norm_num)
theorem lswA2 : lsw exA 2 = -1 / 6 := (lsw_ex 0 6).trans (by norm_num)
theorem rswA1 : rsw exA 1 = -1 / 6 := (rsw_ex 6 0).trans (by norm_num)
theorem rswA2 : rsw exA 2 = 23 / 6 := (rsw_ex 0 6).trans (by norm_num)
theorem lswB1 : lsw exB 1 = 23 / 6 := (lsw_ex 6 6).trans (by norm_num)
theorem lswB2 : lsw exB 2 = 11 / 6 := (lsw_ex 3 2).trans (by norm_num)
theorem rswB1 : rsw exB 1 = 23 / 6 := (rsw_ex 6 6).trans (by norm_num)
theorem rswB2 : rsw exB 2 = 7 / 6 := (rsw_ex 3 2).trans (by norm_num)

/-- the corrective term does not look at the other clusters: it is the same for `exA` and `exB` -/
theorem corrA : exA.app Gen.Kauri.corrective 0 = 1 / 6 := by
  show Gen.Kauri.corrective (1 : ℝ) 1 2 (nat 2) (nat 1) (nat 4) (nat 4) 6 6 1 1 1 1 0 = _
  simp only [Gen.Kauri.corrective, nat_real]
  norm_num
theorem corrB : exB.app Gen.Kauri.corrective 0 = 1 / 6 := corrA

/-- the switch loop on `exA`: the maxima sit on different clusters (1 on the left, 2 on the right); the running best
    is overwritten on a tie (`right_switch(2) = left_switch(1)`) -/
theorem foldA : (List.range 3).foldl (switchStep exA) (({} : Top2 ℝ), Split.init) =
    (⟨some (23 / 6), some (-1 / 6), 1, 2, some (23 / 6), some (-1 / 6), 2, 1⟩, Cand.record exA (23 / 6) 0 2) := by
  have hk : exA.k = 0 := rfl
  simp [List.range_succ, switchStep, hk, lswA1, lswA2, rswA1, rswA2, geN, Split.init, Split.set, Cand.record]
  norm_num

/-- the switch loop on `exB`: both maxima sit on cluster 1 -/
theorem foldB : (List.range 3).foldl (switchStep exB) (({} : Top2 ℝ), Split.init) =
    (⟨some (23 / 6), some (11 / 6), 1, 2, some (23 / 6), some (7 / 6), 1, 2⟩, Cand.record exB (23 / 6) 0 1) := by
  have hk : exB.k = 0 := rfl
  simp [List.range_succ, switchStep, hk, lswB1, lswB2, rswB1, rswB2, geN, Split.init, Split.set, Cand.record]
  norm_num

theorem resultA : computeAllSplits Split.init exA = Cand.record exA (47 / 6) 1 2 := by
  have h1 : stage1 exA Split.init = Split.init := rfl
  have h2 : stage2 exA Split.init = Split.init := rfl
  have hn : exA.n_clusters = 3 := rfl
  have hl : exA.n_leaf = 2 := rfl
  have hk : exA.k = 0 := rfl
  have hc : exA.cluster_sizes 0 = 4 := rfl
  rw [computeAllSplits_eq, h1, h2]
  unfold stage34 switchLoop
  rw [hn, if_pos (by norm_num), foldA]
  simp [stage4, pick, Top2L, Top2R, hn, hl, hk, hc, corrA, addN, Cand.record]
  norm_num

theorem resultB : computeAllSplits Split.init exB = Cand.record exB (35 / 6) 2 1 := by
  have h1 : stage1 exB Split.init = Split.init := rfl
  have h2 : stage2 exB Split.init = Split.init := rfl
  have hn : exB.n_clusters = 3 := rfl
  have hl : exB.n_leaf = 2 := rfl
  have hk : exB.k = 0 := rfl
  have hc : exB.cluster_sizes 0 = 4 := rfl
  rw [computeAllSplits_eq, h1, h2]
  unfold stage34 switchLoop
  rw [hn, if_pos (by norm_num), foldB]
  simp [stage4, pick, Top2L, Top2R, hn, hl, hk, hc, corrB, addN, gtN, Cand.record]
  norm_num

end Example

end GemVerif.KauriC08
