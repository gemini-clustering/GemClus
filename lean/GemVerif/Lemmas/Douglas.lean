/-
  The soft binning of `Model/Douglas.lean` over ℝ in closed form: logit `j` is `lg x s j` for the sorted cuts `s`, the
  max-shifted soft-max is the textbook one (`smx`), so a binning is `exp (lg / T) / Z` and a probability vector (`IsProb`).
-/
import GemVerif.Lemmas.Softmax
import GemVerif.Lemmas.DouglasSort

namespace GemVerif.Douglas
open Model.Douglas

theorem pairLe_iff (p q : ℝ × ℕ) : pairLe p q = true ↔ p.1 ≤ q.1 := by simp [pairLe]

theorem sortedCuts_eq_map_fst (cuts : List ℝ) :
    sortedCuts cuts = (isort pairLe cuts.zipIdx).map Prod.fst := by
  simp only [sortedCuts, takeIdx, argsort, List.map_map]
  refine List.map_congr_left fun p hp => ?_
  have hp' : p ∈ cuts.zipIdx := (isort_perm _ _).mem_iff.mp hp
  have := List.mem_zipIdx_iff_getElem?.mp hp'
  simp [List.getD_eq_getElem?_getD, this]

theorem sortedCuts_perm (cuts : List ℝ) : (sortedCuts cuts).Perm cuts := by
  rw [sortedCuts_eq_map_fst]
  have h := (isort_perm pairLe cuts.zipIdx).map Prod.fst
  rwa [List.zipIdx_map_fst] at h

theorem sortedCuts_sorted (cuts : List ℝ) : (sortedCuts cuts).Pairwise (· ≤ ·) := by
  rw [sortedCuts_eq_map_fst, List.pairwise_map]
  refine (isort_sorted (le := pairLe) (fun p q => ?_) (fun p q r => ?_) _).imp fun {p q} h => (pairLe_iff p q).mp h
  · simp only [pairLe_iff]; exact le_total _ _
  · simp only [pairLe_iff]; exact le_trans

theorem sortedCuts_congr {c₁ c₂ : List ℝ} (h : c₁.Perm c₂) : sortedCuts c₁ = sortedCuts c₂ :=
  List.Perm.eq_of_pairwise' (r := (· ≤ ·)) (sortedCuts_sorted c₁) (sortedCuts_sorted c₂)
    ((sortedCuts_perm c₁).trans (h.trans (sortedCuts_perm c₂).symm))

theorem sorted_split (x : ℝ) : ∀ (s : List ℝ), s.Pairwise (· ≤ ·) → ∀ (i : ℕ) (h : i < s.length),
    (i < s.countP (fun c => decide (c < x)) → s[i] < x) ∧ (s.countP (fun c => decide (c < x)) ≤ i → x ≤ s[i])
  | [], _, i, h => absurd h (Nat.not_lt_zero i)
  | a :: t, hs, i, h => by
    obtain ⟨ha, ht⟩ := List.pairwise_cons.mp hs
    by_cases hax : a < x
    · rw [List.countP_cons_of_pos (p := fun c => decide (c < x)) (decide_eq_true hax)]
      cases i with
      | zero => exact ⟨fun _ => hax, fun h0 => absurd h0 (Nat.not_succ_le_zero _)⟩
      | succ i =>
        have := sorted_split x t ht i (Nat.lt_of_succ_lt_succ h)
        rw [List.getElem_cons_succ]
        exact ⟨fun h1 => this.1 (Nat.lt_of_succ_lt_succ h1), fun h1 => this.2 (Nat.le_of_succ_le_succ h1)⟩
    · -- `x ≤ a`, and `a` is the least entry: no entry is below `x`
      have hall : ∀ c ∈ a :: t, x ≤ c := fun c hc =>
        (List.mem_cons.mp hc).elim (fun h => h ▸ not_lt.mp hax) fun h => (not_lt.mp hax).trans (ha c h)
      rw [List.countP_eq_zero.mpr fun c hc => by rw [decide_eq_true_eq, not_lt]; exact hall c hc]
      exact ⟨fun h0 => absurd h0 (Nat.not_lt_zero _), fun _ => hall _ (List.getElem_mem h)⟩

theorem cumsumAux_getElem (acc : ℝ) (l : List ℝ) (j : ℕ) (h : j < (cumsumAux acc l).length) :
    (cumsumAux acc l)[j] = acc + (l.take (j + 1)).sum := by
  induction l generalizing acc j with
  | nil => simp [cumsumAux] at h
  | cons a l ih =>
    cases j with
    | zero => simp [cumsumAux]
    | succ j =>
      simp only [cumsumAux, List.getElem_cons_succ, List.take_succ_cons, List.sum_cons]
      rw [ih]; ring

theorem cumsum_getElem (l : List ℝ) (j : ℕ) (h : j < (cumsum l).length) :
    (cumsum l)[j] = (l.take (j + 1)).sum := by
  cases l with
  | nil => simp [cumsum] at h
  | cons a l =>
    cases j with
    | zero => simp [cumsum]
    | succ j =>
      simp only [cumsum, List.getElem_cons_succ, List.take_succ_cons, List.sum_cons]
      rw [cumsumAux_getElem]

theorem bias_getElem (cuts : List ℝ) (j : ℕ) (h : j < (bias cuts).length) :
    (bias cuts)[j] = -((sortedCuts cuts).take j).sum := by
  simp only [bias, cumsum_getElem, List.take_succ_cons, List.sum_cons, zero_add]
  rw [← List.map_take, ← List.sum_neg]

/-- logit `j` of the binning in closed form (`logits_getElem`), `s` the sorted cuts -/
noncomputable def lg (x : ℝ) (s : List ℝ) (j : ℕ) : ℝ := x * ((j : ℝ) + 1) - (s.take j).sum

theorem logits_length (x : ℝ) (cuts : List ℝ) : (logits x cuts).length = cuts.length + 1 := by
  simp [logits, linspaceW, bias_length]

theorem logits_getElem (x : ℝ) (cuts : List ℝ) (j : ℕ) (h : j < (logits x cuts).length) :
    (logits x cuts)[j] = lg x (sortedCuts cuts) j := by
  simp only [logits, List.getElem_zipWith, linspaceW, List.getElem_map, List.getElem_range, bias_getElem, lg,
    RealLike.nat_real]
  push_cast
  ring

theorem logits_eq (x : ℝ) (cuts : List ℝ) :
    logits x cuts = (List.range (cuts.length + 1)).map (lg x (sortedCuts cuts)) := by
  apply List.ext_getElem
  · simp [logits_length]
  · intro j h1 h2
    rw [logits_getElem]; simp

theorem lg_succ_sub (x : ℝ) (s : List ℝ) (j : ℕ) (h : j < s.length) :
    lg x s (j + 1) - lg x s j = x - s[j] := by
  simp only [lg, List.sum_take_succ _ _ h]
  push_cast
  ring

theorem sum_eq_sum_range (l : List ℝ) : l.sum = ∑ i ∈ Finset.range l.length, l.getD i 0 := by
  rw [Finset.sum_range, ← Fin.sum_univ_getElem]
  exact Finset.sum_congr rfl fun i _ => (List.getD_eq_getElem _ _ i.isLt).symm

theorem sumL_eq (l : List ℝ) : sumL l = l.sum := by
  simp only [sumL]
  rw [List.sum_eq_foldl]

/-- the mathematical soft-max of a row -/
noncomputable def smx (z : List ℝ) : List ℝ := z.map fun v => Real.exp v / (z.map Real.exp).sum

theorem sum_map_exp_sub (z : List ℝ) (m : ℝ) :
    (z.map fun v => Real.exp (v - m)).sum = (z.map Real.exp).sum / Real.exp m := by
  simp only [Real.exp_sub, div_eq_mul_inv, List.sum_map_mul_right]

/-- subtracting the row maximum (or anything else) does not change the soft-max -/
theorem softmaxRow_eq_smx (z : List ℝ) : softmaxRow z = smx z := by
  simp only [softmaxRow, smx, sumL_eq, List.map_map, RealLike.exp_real]
  refine List.map_congr_left fun v _ => ?_
  simp only [Function.comp]
  rw [sum_map_exp_sub, Real.exp_sub, div_div_div_cancel_right₀ (Real.exp_pos _).ne']

theorem smx_length (z : List ℝ) : (smx z).length = z.length := by simp [smx]

/-- read entrywise, the list soft-max of the model is the `Fin`-indexed soft-max of the nets -/
theorem softmaxRow_ofFn_getD {K : ℕ} (f : Fin K → ℝ) (k : Fin K) :
    (softmaxRow (List.ofFn f)).getD k.val 0 = Model.Nets.softmaxRow f k := by
  have hk : k.val < (smx (List.ofFn f)).length := by rw [smx_length, List.length_ofFn]; exact k.isLt
  rw [softmaxRow_eq_smx, softmaxRow_eq, List.getD_eq_getElem _ _ hk]
  simp only [smx, List.getElem_ofFn, List.map_ofFn, List.sum_ofFn, Function.comp]

def IsProb (l : List ℝ) : Prop := (∀ p ∈ l, 0 < p) ∧ l.sum = 1

theorem IsProb.pos {l : List ℝ} (h : IsProb l) : ∀ p ∈ l, 0 < p := h.1

theorem IsProb.sum_eq {l : List ℝ} (h : IsProb l) : l.sum = 1 := h.2

theorem IsProb.le_one {l : List ℝ} (h : IsProb l) : ∀ p ∈ l, p ≤ 1 := fun p hp => by
  rw [← h.sum_eq]; exact List.single_le_sum (fun q hq => (h.pos q hq).le) p hp

theorem getD_of_forall {P : ℝ → Prop} {l : List ℝ} (h : ∀ p ∈ l, P p) (h0 : P 0) (i : ℕ) : P (l.getD i 0) := by
  by_cases hi : i < l.length
  · rw [List.getD_eq_getElem _ _ hi]; exact h _ (List.getElem_mem hi)
  · rw [List.getD_eq_default _ _ (not_lt.mp hi)]; exact h0

theorem IsProb.getD_nonneg {l : List ℝ} (h : IsProb l) (i : ℕ) : 0 ≤ l.getD i 0 :=
  getD_of_forall (P := fun v => 0 ≤ v) (fun p hp => (h.pos p hp).le) le_rfl i

theorem IsProb.getD_le_one {l : List ℝ} (h : IsProb l) (i : ℕ) : l.getD i 0 ≤ 1 :=
  getD_of_forall (P := fun v => v ≤ 1) h.le_one zero_le_one i

theorem smx_isProb {z : List ℝ} (hz : z ≠ []) : IsProb (smx z) := by
  have hS : 0 < (z.map Real.exp).sum :=
    List.sum_pos _ (List.forall_mem_map.mpr fun v _ => Real.exp_pos v) (mt List.map_eq_nil_iff.mp hz)
  refine ⟨fun p hp => ?_, ?_⟩
  · obtain ⟨v, _, rfl⟩ := List.mem_map.mp hp
    exact div_pos (Real.exp_pos v) hS
  · simp only [smx, div_eq_mul_inv, List.sum_map_mul_right]
    exact mul_inv_cancel₀ hS.ne'

/-- normalising constant of the binning of `x` -/
noncomputable def Z (T x : ℝ) (s : List ℝ) : ℝ := ∑ i ∈ Finset.range (s.length + 1), Real.exp (lg x s i / T)

theorem Z_pos (T x : ℝ) (s : List ℝ) : 0 < Z T x s :=
  Finset.sum_pos (fun _ _ => Real.exp_pos _) ⟨0, Finset.mem_range.mpr (Nat.succ_pos _)⟩

theorem binning_eq (T x : ℝ) (cuts : List ℝ) :
    binning T x cuts = (List.range (cuts.length + 1)).map fun j =>
      Real.exp (lg x (sortedCuts cuts) j / T) / Z T x (sortedCuts cuts) := by
  simp only [binning, softmaxRow_eq_smx, smx, logits_eq, List.map_map, Z, sortedCuts_length]
  refine List.map_congr_left fun j _ => ?_
  simp only [Function.comp]
  rw [← List.toFinset_range, List.sum_toFinset _ List.nodup_range]
  rfl

theorem binning_length (T x : ℝ) (cuts : List ℝ) : (binning T x cuts).length = cuts.length + 1 := by
  simp [binning_eq]

theorem binning_ne_nil (T x : ℝ) (cuts : List ℝ) : binning T x cuts ≠ [] :=
  List.ne_nil_of_length_pos (by rw [binning_length]; exact Nat.succ_pos _)

theorem binning_getD (T x : ℝ) (cuts : List ℝ) (j : ℕ) (hj : j ≤ cuts.length) :
    (binning T x cuts).getD j 0 = Real.exp (lg x (sortedCuts cuts) j / T) / Z T x (sortedCuts cuts) := by
  have h : j < (binning T x cuts).length := by rw [binning_length]; omega
  rw [List.getD_eq_getElem?_getD, List.getElem?_eq_getElem h]
  simp [binning_eq]

theorem binning_isProb (T x : ℝ) (cuts : List ℝ) : IsProb (binning T x cuts) := by
  rw [binning, softmaxRow_eq_smx]
  exact smx_isProb (List.ne_nil_of_length_pos (by rw [List.length_map, logits_length]; exact Nat.succ_pos _))

end GemVerif.Douglas
