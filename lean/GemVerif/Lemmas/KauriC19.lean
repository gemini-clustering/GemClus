/-
  The printer of the KAURI tree and a reader of what it prints.  `printLines` is a structured twin of `Tree.printNode`
  (`Props.C19.print_eq_render`); `parseAt` is a recursive-descent reader written after the harness reader
  `harness/props/c19.py::parse_rules` (depth-directed; both branches must name the same feature and threshold);
  `Line.read`, `splitLines` take the printed text back to lines.  No Mathlib.
-/
import GemVerif.Lemmas.KauriTree
import Std.Data.String.ToInt

namespace GemVerif.KauriC19
open RealLike Model.Kauri

variable {α : Type} [RealLike α]
set_option linter.unusedSectionVars false

/-- the four kinds of lines `print_node` emits; `depth` is the number of leading `"| "` -/
inductive Line where
  | node (depth id : Nat)
  | cluster (depth : Nat) (c : Int)
  | le (depth : Nat) (name thr : String)
  | gt (depth : Nat) (name thr : String)
  deriving DecidableEq, Repr

/-- the text of a line, exactly as `print` composes it -/
def Line.render : Line → String
  | .node d id => rep "| " d ++ s!"Node {id}"
  | .cluster d c => rep "| " d ++ " " ++ s!"Cluster: {c}"
  | .le d n th => rep "| " d ++ "|=" ++ s!"{n} <= {th}"
  | .gt d n th => rep "| " d ++ "|=" ++ s!"{n} > {th}"

/-- the threshold text printed at `node` (`None` for a node without threshold, as Python prints it) -/
def thrStr (t : Tree α) (showThr : α → String) (node : Nat) : String :=
  match t.thr[node]! with
  | some x => showThr x
  | none => "None"

/-- the feature index `print_node` looks up in `feature_names` at `node` -/
def featAt (t : Tree α) (node : Nat) : Int := (t.feat[node]!).getD 0

/-- structured twin of `Tree.printNode` -/
def printLines (t : Tree α) (showThr : α → String) (name : Int → String) : Nat → Nat → List Line
  | 0, _ => []
  | fuel + 1, node =>
    let d := t.depths[node]!
    if t.left[node]! == -1 then
      [.node d node, .cluster d (t.target[node]!)]
    else
      [.node d node, .le d (name (featAt t node)) (thrStr t showThr node)]
        ++ printLines t showThr name fuel (t.left[node]!).toNat
        ++ [.gt d (name (featAt t node)) (thrStr t showThr node)]
        ++ printLines t showThr name fuel (t.right[node]!).toNat

theorem printLines_zero (t : Tree α) (sh : α → String) (nm : Int → String) (node : Nat) :
    printLines t sh nm 0 node = [] := rfl

theorem printLines_leaf (t : Tree α) (sh : α → String) (nm : Int → String) (k : Nat) {node : Nat}
    (h : t.left[node]! = -1) :
    printLines t sh nm (k + 1) node = [.node (t.depths[node]!) node, .cluster (t.depths[node]!) (t.target[node]!)] := by
  simp only [printLines, h, beq_self_eq_true, if_true]

theorem printLines_node (t : Tree α) (sh : α → String) (nm : Int → String) (k : Nat) {node : Nat}
    (h : t.left[node]! ≠ -1) :
    printLines t sh nm (k + 1) node =
      [.node (t.depths[node]!) node, .le (t.depths[node]!) (nm (featAt t node)) (thrStr t sh node)]
        ++ printLines t sh nm k (t.left[node]!).toNat
        ++ [.gt (t.depths[node]!) (nm (featAt t node)) (thrStr t sh node)]
        ++ printLines t sh nm k (t.right[node]!).toNat := by
  simp only [printLines, beq_iff_eq, h, if_false]

/-- `print_node` at a leaf -/
theorem printNode_leaf (t : Tree α) (sh : α → String) (nm : Int → String) (k : Nat) {node : Nat}
    (h : t.left[node]! = -1) :
    t.printNode sh nm (k + 1) node =
      [(Line.node (t.depths[node]!) node).render, (Line.cluster (t.depths[node]!) (t.target[node]!)).render] := by
  simp only [Tree.printNode, h, beq_self_eq_true, if_true, Line.render]

/-- `print_node` at an internal node: the node line, the `<=` rule, the left subtree, the `>` rule, the right subtree -/
theorem printNode_node (t : Tree α) (sh : α → String) (nm : Int → String) (k : Nat) {node : Nat}
    (h : t.left[node]! ≠ -1) :
    t.printNode sh nm (k + 1) node =
      [(Line.node (t.depths[node]!) node).render,
        (Line.le (t.depths[node]!) (nm (featAt t node)) (thrStr t sh node)).render]
        ++ t.printNode sh nm k (t.left[node]!).toNat
        ++ [(Line.gt (t.depths[node]!) (nm (featAt t node)) (thrStr t sh node)).render]
        ++ t.printNode sh nm k (t.right[node]!).toNat := by
  simp only [Tree.printNode, beq_iff_eq, h, if_false]
  rfl  -- `thrStr` and the `match` inside `printNode` are two matchers with the same cases

inductive Rules where
  | leaf (c : Int)
  | split (name thr : String) (l r : Rules)
  deriving DecidableEq, Repr

/-- read one node at depth `d` from the front of `ls`; returns the rules and the unread lines.
    `fuel` bounds the nesting (any value ≥ number of lines is enough, see `parse`). -/
def parseAt : Nat → Nat → List Line → Option (Rules × List Line)
  | 0, _, _ => none
  | fuel + 1, d, ls =>
    match ls with
    | .node d₁ _ :: .cluster d₂ c :: rest =>
      if d₁ = d ∧ d₂ = d then some (.leaf c, rest) else none
    | .node d₁ _ :: .le d₂ n th :: rest =>
      if d₁ = d ∧ d₂ = d then
        match parseAt fuel (d + 1) rest with
        | some (l, .gt d₃ n' th' :: rest') =>
          if d₃ = d ∧ n' = n ∧ th' = th then
            match parseAt fuel (d + 1) rest' with
            | some (r, rest'') => some (.split n th l r, rest'')
            | none => none
          else none
        | _ => none
      else none
    | _ => none

def parse (ls : List Line) : Option Rules :=
  match parseAt ls.length 0 ls with
  | some (r, []) => some r
  | _ => none

/-- apply rules to a point: `colOf` turns a printed feature label back into a column, `readThr` reads a
    printed threshold -/
def evalRules (colOf : String → Nat) (readThr : String → α) (x : Nat → α) : Rules → Int
  | .leaf c => c
  | .split n th l r =>
    if le (x (colOf n)) (readThr th) then evalRules colOf readThr x l else evalRules colOf readThr x r

/-- the rules a tree denotes (same recursion as the printer) -/
def rulesOf (t : Tree α) (showThr : α → String) (name : Int → String) : Nat → Nat → Rules
  | 0, node => .leaf (t.target[node]!)
  | fuel + 1, node =>
    if t.left[node]! == -1 then .leaf (t.target[node]!)
    else .split (name (featAt t node)) (thrStr t showThr node)
      (rulesOf t showThr name fuel (t.left[node]!).toNat)
      (rulesOf t showThr name fuel (t.right[node]!).toNat)

theorem rulesOf_leaf (t : Tree α) (sh : α → String) (nm : Int → String) (k : Nat) {node : Nat}
    (h : t.left[node]! = -1) : rulesOf t sh nm k node = .leaf (t.target[node]!) := by
  cases k with
  | zero => rfl
  | succ k => simp only [rulesOf, h, beq_self_eq_true, if_true]

theorem rulesOf_node (t : Tree α) (sh : α → String) (nm : Int → String) (k : Nat) {node : Nat}
    (h : t.left[node]! ≠ -1) :
    rulesOf t sh nm (k + 1) node = .split (nm (featAt t node)) (thrStr t sh node)
      (rulesOf t sh nm k (t.left[node]!).toNat) (rulesOf t sh nm k (t.right[node]!).toNat) := by
  simp only [rulesOf, beq_iff_eq, h, if_false]

structure InternalOK (t : Tree α) (n : Nat) : Prop where
  left_gt : (n : Int) < t.left[n]!
  left_lt : t.left[n]! < (t.nNodes : Int)
  right_gt : (n : Int) < t.right[n]!
  right_lt : t.right[n]! < (t.nNodes : Int)
  depth_left : t.depths[(t.left[n]!).toNat]! = t.depths[n]! + 1
  depth_right : t.depths[(t.right[n]!).toNat]! = t.depths[n]! + 1
  thr_some : (t.thr[n]!).isSome = true
  feat_some : ∃ f : Int, t.feat[n]! = some f ∧ 0 ≤ f

/-- what printing and routing need of the tree; it holds of `Tree.init` and is kept by `Tree._add_child`
    (`wellFormed_init`, `wellFormed_addChild`), and every state of the fit loop has it
    (`Props.C18.fitted_tree_well_formed`, from the loop invariant `KauriC09.FullInv`: its `TreeWF` and, for the sign of
    the feature index, its `InvRoute`).  Children are numbered after their parent: this is what bounds the recursion. -/
structure WellFormed (t : Tree α) : Prop where
  pos : 0 < t.nNodes
  size_left : t.left.size = t.nNodes
  size_right : t.right.size = t.nNodes
  size_target : t.target.size = t.nNodes
  size_thr : t.thr.size = t.nNodes
  size_feat : t.feat.size = t.nNodes
  size_depths : t.depths.size = t.nNodes
  root_depth : t.depths[0]! = 0
  internal : ∀ n, n < t.nNodes → t.left[n]! ≠ -1 → InternalOK t n

theorem InternalOK.left_toNat {t : Tree α} {n : Nat} (h : InternalOK t n) :
    n < (t.left[n]!).toNat ∧ (t.left[n]!).toNat < t.nNodes := by
  have := h.left_gt; have := h.left_lt; omega

theorem InternalOK.right_toNat {t : Tree α} {n : Nat} (h : InternalOK t n) :
    n < (t.right[n]!).toNat ∧ (t.right[n]!).toNat < t.nNodes := by
  have := h.right_gt; have := h.right_lt; omega

theorem WellFormed.sized {t : Tree α} (h : WellFormed t) : KauriC09.Sized t :=
  ⟨h.size_left, h.size_right, h.size_target, h.size_thr, h.size_feat, h.size_depths⟩

/-- Induction along the recursion of the printer (and of `route`), for any fuel. -/
theorem WellFormed.any_fuel_induction {t : Tree α} (ht : WellFormed t) {P : Nat → Nat → Prop}
    (zero : ∀ n, n < t.nNodes → P 0 n)
    (leaf : ∀ k n, n < t.nNodes → t.left[n]! = -1 → P (k + 1) n)
    (node : ∀ k n, n < t.nNodes → t.left[n]! ≠ -1 → InternalOK t n →
      P k (t.left[n]!).toNat → P k (t.right[n]!).toNat → P (k + 1) n) :
    ∀ k n, n < t.nNodes → P k n := by
  intro k
  induction k with
  | zero => exact zero
  | succ k ih =>
    intro n hn
    by_cases hl : t.left[n]! = -1
    · exact leaf k n hn hl
    · have hi := ht.internal n hn hl
      exact node k n hn hl hi (ih _ hi.left_toNat.2) (ih _ hi.right_toNat.2)

/-- The same with enough fuel: with fuel `k` at `node` and `nNodes ≤ k + node` the fuel never runs out, because
    children are numbered after their parent. -/
theorem WellFormed.fuel_induction {t : Tree α} (ht : WellFormed t) {P : Nat → Nat → Prop}
    (leaf : ∀ k n, n < t.nNodes → t.left[n]! = -1 → P (k + 1) n)
    (node : ∀ k n, n < t.nNodes → t.left[n]! ≠ -1 → InternalOK t n →
      P k (t.left[n]!).toNat → P k (t.right[n]!).toNat → P (k + 1) n) :
    ∀ k n, n < t.nNodes → t.nNodes ≤ k + n → P k n := by
  refine ht.any_fuel_induction (P := fun k n => t.nNodes ≤ k + n → P k n) ?_ ?_ ?_
  · intro n h1 h2; omega
  · intro k n hn hl _; exact leaf k n hn hl
  · intro k n hn hl hi ihL ihR hk
    have hL := hi.left_toNat
    have hR := hi.right_toNat
    exact node k n hn hl hi (ihL (by omega)) (ihR (by omega))

/-- how printed labels are read back, for the nodes of `t` -/
structure ReadBack (t : Tree α) (showThr : α → String) (name : Int → String)
    (colOf : String → Nat) (readThr : String → α) : Prop where
  thr : ∀ n, n < t.nNodes → t.left[n]! ≠ -1 → ∀ v, t.thr[n]! = some v → readThr (showThr v) = v
  col : ∀ n, n < t.nNodes → t.left[n]! ≠ -1 → colOf (name (featAt t n)) = (featAt t n).toNat

def stripBars : List Char → Nat × List Char
  | '|' :: ' ' :: cs => ((stripBars cs).1 + 1, (stripBars cs).2)
  | cs => (0, cs)

def readBody (d : Nat) (body : List Char) : Option Line :=
  let rb := body.reverse
  let thr := (rb.takeWhile (· != ' ')).reverse
  match rb.dropWhile (· != ' ') with
  | ' ' :: '=' :: '<' :: ' ' :: nameRev => some (.le d (String.ofList nameRev.reverse) (String.ofList thr))
  | ' ' :: '>' :: ' ' :: nameRev => some (.gt d (String.ofList nameRev.reverse) (String.ofList thr))
  | _ => none

def readChars (cs : List Char) : Option Line :=
  match stripBars cs with
  | (d, 'N' :: 'o' :: 'd' :: 'e' :: ' ' :: ds) => (String.ofList ds).toNat?.map (Line.node d)
  | (d, ' ' :: 'C' :: 'l' :: 'u' :: 's' :: 't' :: 'e' :: 'r' :: ':' :: ' ' :: ds) =>
    (String.ofList ds).toInt?.map (Line.cluster d)
  | (d, '|' :: '=' :: body) => readBody d body
  | _ => none

def Line.read (s : String) : Option Line := readChars s.toList

theorem toList_rep (d : Nat) : (rep "| " d).toList = (List.replicate d ['|', ' ']).flatten := by
  induction d with
  | zero => simp [rep]
  | succ k ih => simp [rep, List.replicate_succ, String.toList_join] at ih ⊢; exact ih

theorem stripBars_rep (d : Nat) (r : List Char) (h : ∀ cs, r ≠ '|' :: ' ' :: cs) :
    stripBars ((List.replicate d ['|', ' ']).flatten ++ r) = (d, r) := by
  induction d with
  | zero =>
    simp
    unfold stripBars
    split
    · exact absurd rfl (h _)
    · rfl
  | succ k ih => simp [List.replicate_succ, stripBars, ih]

theorem toString_str (s : String) : toString s = s := rfl

theorem toList_render_le (d : Nat) (n th : String) : (Line.render (.le d n th)).toList =
    (List.replicate d ['|', ' ']).flatten ++ ('|' :: '=' :: (n.toList ++ ' ' :: '<' :: '=' :: ' ' :: th.toList)) := by
  simp [Line.render, toList_rep, toString_str]
theorem toList_render_gt (d : Nat) (n th : String) : (Line.render (.gt d n th)).toList =
    (List.replicate d ['|', ' ']).flatten ++ ('|' :: '=' :: (n.toList ++ ' ' :: '>' :: ' ' :: th.toList)) := by
  simp [Line.render, toList_rep, toString_str]
theorem toList_render_node (d : Nat) (n : Nat) : (Line.render (.node d n)).toList =
    (List.replicate d ['|', ' ']).flatten ++ ('N' :: 'o' :: 'd' :: 'e' :: ' ' :: (Nat.repr n).toList) := by
  simp [Line.render, toList_rep, toString_str]
theorem toList_render_cluster (d : Nat) (n : Int) : (Line.render (.cluster d n)).toList =
    (List.replicate d ['|', ' ']).flatten ++ (' ' :: 'C' :: 'l' :: 'u' :: 's' :: 't' :: 'e' :: 'r' :: ':' :: ' ' :: (Int.repr n).toList) := by
  simp [Line.render, toList_rep, toString_str]

theorem readBody_le (d : Nat) (n th : List Char) (h : ∀ c ∈ th, c ≠ ' ') :
    readBody d (n ++ ' ' :: '<' :: '=' :: ' ' :: th) = some (.le d (String.ofList n) (String.ofList th)) := by
  have e : (n ++ ' ' :: '<' :: '=' :: ' ' :: th).reverse = th.reverse ++ (' ' :: '=' :: '<' :: ' ' :: n.reverse) := by
    simp
  have hp : ∀ c ∈ th.reverse, (c != ' ') = true := by
    intro c hc; simpa using h c (List.mem_reverse.mp hc)
  simp only [readBody, e, List.takeWhile_append_of_pos hp, List.dropWhile_append_of_pos hp]
  simp

theorem readBody_gt (d : Nat) (n th : List Char) (h : ∀ c ∈ th, c ≠ ' ') :
    readBody d (n ++ ' ' :: '>' :: ' ' :: th) = some (.gt d (String.ofList n) (String.ofList th)) := by
  have e : (n ++ ' ' :: '>' :: ' ' :: th).reverse = th.reverse ++ (' ' :: '>' :: ' ' :: n.reverse) := by
    simp
  have hp : ∀ c ∈ th.reverse, (c != ' ') = true := by
    intro c hc; simpa using h c (List.mem_reverse.mp hc)
  simp only [readBody, e, List.takeWhile_append_of_pos hp, List.dropWhile_append_of_pos hp]
  simp

def Line.ThrNoBlank : Line → Prop
  | .le _ _ th => ∀ c ∈ th.toList, c ≠ ' '
  | .gt _ _ th => ∀ c ∈ th.toList, c ≠ ' '
  | _ => True

theorem read_render (l : Line) (h : l.ThrNoBlank) : Line.read (Line.render l) = some l := by
  cases l with
  | node d id =>
    rw [Line.read, toList_render_node, readChars, stripBars_rep _ _ (by simp)]
    simp only [Nat.toList_repr, ← Nat.repr_eq_ofList_toDigits, Nat.toNat?_repr, Option.map_some]
  | cluster d c =>
    rw [Line.read, toList_render_cluster, readChars, stripBars_rep _ _ (by simp)]
    simp only [String.ofList_toList, Int.toInt?_repr, Option.map_some]
  | le d n th =>
    rw [Line.read, toList_render_le, readChars, stripBars_rep _ _ (by simp)]
    simp [readBody_le d n.toList th.toList h]
  | gt d n th =>
    rw [Line.read, toList_render_gt, readChars, stripBars_rep _ _ (by simp)]
    simp [readBody_gt d n.toList th.toList h]

def readLines : List String → Option (List Line)
  | [] => some []
  | s :: ss =>
    match Line.read s, readLines ss with
    | some l, some ls => some (l :: ls)
    | _, _ => none

theorem readLines_map_render (ls : List Line) (h : ∀ l ∈ ls, l.ThrNoBlank) :
    readLines (ls.map Line.render) = some ls := by
  induction ls with
  | nil => rfl
  | cons l ls ih =>
    simp only [List.map_cons, readLines, read_render l (h l (List.mem_cons_self ..)),
      ih (fun l' hl' => h l' (List.mem_cons_of_mem _ hl'))]

def parseText (ss : List String) : Option Rules := (readLines ss).bind parse

/-- no printed threshold of the tree contains a blank (Python's `repr(float)` never does) -/
def ThrNoBlank (t : Tree α) (showThr : α → String) : Prop :=
  ∀ n, n < t.nNodes → t.left[n]! ≠ -1 → ∀ v, t.thr[n]! = some v → ∀ c ∈ (showThr v).toList, c ≠ ' '

theorem printLines_forall {t : Tree α} (ht : WellFormed t) (sh : α → String) (nm : Int → String) (P : Line → Prop)
    (hnode : ∀ d i, P (.node d i)) (hcl : ∀ d c, P (.cluster d c))
    (hrule : ∀ n, n < t.nNodes → t.left[n]! ≠ -1 → ∀ d,
      P (.le d (nm (featAt t n)) (thrStr t sh n)) ∧ P (.gt d (nm (featAt t n)) (thrStr t sh n))) :
    ∀ (k node : Nat), node < t.nNodes → ∀ l ∈ printLines t sh nm k node, P l := by
  refine ht.any_fuel_induction ?_ ?_ ?_
  · intro n _ l hl
    rw [printLines_zero] at hl
    cases hl
  · intro k n _ hleaf l hl
    simp only [printLines_leaf t sh nm k hleaf, List.mem_cons, List.not_mem_nil, or_false] at hl
    rcases hl with rfl | rfl
    · exact hnode _ _
    · exact hcl _ _
  · intro k n hn hleaf _ ihL ihR l hl
    have hr := hrule n hn hleaf (t.depths[n]!)
    simp only [printLines_node t sh nm k hleaf, List.mem_append, List.mem_cons, List.not_mem_nil, or_false] at hl
    rcases hl with ((((rfl | rfl) | hl) | rfl) | hl)
    · exact hnode _ _
    · exact hr.1
    · exact ihL l hl
    · exact hr.2
    · exact ihR l hl

theorem thrStr_of_some {t : Tree α} {sh : α → String} {n : Nat} {v : α} (hv : t.thr[n]! = some v) :
    thrStr t sh n = sh v := by
  simp [thrStr, hv]

theorem printLines_thrNoBlank {t : Tree α} (ht : WellFormed t) {sh : α → String} (hnb : ThrNoBlank t sh)
    (nm : Int → String) :
    ∀ (k node : Nat), node < t.nNodes → ∀ l ∈ printLines t sh nm k node, l.ThrNoBlank := by
  refine printLines_forall ht sh nm Line.ThrNoBlank (fun _ _ => True.intro) (fun _ _ => True.intro) ?_
  intro n hn hleaf d
  obtain ⟨v, hv⟩ := Option.isSome_iff_exists.mp (ht.internal n hn hleaf).thr_some
  have hth : ∀ c ∈ (thrStr t sh n).toList, c ≠ ' ' := by
    rw [thrStr_of_some hv]; exact hnb n hn hleaf v hv
  exact ⟨hth, hth⟩

/-- cut at newlines; `acc` holds the current line, reversed.  A final newline does not start a new line. -/
def splitNL : List Char → List Char → List (List Char)
  | acc, [] => if acc.isEmpty then [] else [acc.reverse]
  | acc, c :: cs => if c = '\n' then acc.reverse :: splitNL [] cs else splitNL (c :: acc) cs

def splitLines (s : String) : List String := (splitNL [] s.toList).map String.ofList

/-- what `print` writes for a list of lines: each followed by a newline -/
def textOf (lines : List String) : String := String.join (lines.map (· ++ "\n"))

theorem splitNL_line (l : List Char) (h : ∀ c ∈ l, c ≠ '\n') (acc rest : List Char) :
    splitNL acc (l ++ '\n' :: rest) = (acc.reverse ++ l) :: splitNL [] rest := by
  induction l generalizing acc with
  | nil => simp [splitNL]
  | cons c cs ih =>
    have hc : c ≠ '\n' := h c (List.mem_cons_self ..)
    simp [splitNL, hc, ih (fun c' hc' => h c' (List.mem_cons_of_mem _ hc'))]

theorem splitLines_textOf (ls : List String) (h : ∀ s ∈ ls, ∀ c ∈ s.toList, c ≠ '\n') :
    splitLines (textOf ls) = ls := by
  have key : ∀ ls : List String, (∀ s ∈ ls, ∀ c ∈ s.toList, c ≠ '\n') →
      (splitNL [] ((ls.map (· ++ "\n")).flatMap String.toList)).map String.ofList = ls := by
    intro ls
    induction ls with
    | nil => intro _; simp [splitNL]
    | cons s ss ih =>
      intro h
      have h1 := h s (List.mem_cons_self ..)
      have h2 := ih (fun s' hs' => h s' (List.mem_cons_of_mem _ hs'))
      simp only [List.map_cons, List.flatMap_cons, String.toList_append]
      have : ("\n" : String).toList = ['\n'] := by simp
      rw [this, List.append_assoc, List.singleton_append, splitNL_line _ h1]
      simp [h2]
  simp only [splitLines, textOf, String.toList_join]
  exact key ls h

theorem newline_not_mem_toDigits (n : Nat) : '\n' ∉ Nat.toDigits 10 n := by
  intro h
  have := Nat.isDigit_of_mem_toDigits (by decide) (by decide) h
  exact absurd this (by decide)

theorem newline_not_mem_intRepr (a : Int) : '\n' ∉ (Int.repr a).toList := by
  cases a with
  | ofNat m => simpa [Int.repr] using newline_not_mem_toDigits m
  | negSucc m => simpa [Int.repr] using newline_not_mem_toDigits (m + 1)

def Line.NoNewline : Line → Prop
  | .le _ n th => (∀ c ∈ n.toList, c ≠ '\n') ∧ (∀ c ∈ th.toList, c ≠ '\n')
  | .gt _ n th => (∀ c ∈ n.toList, c ≠ '\n') ∧ (∀ c ∈ th.toList, c ≠ '\n')
  | _ => True

theorem newline_not_mem_bars (d : Nat) : '\n' ∉ (List.replicate d ['|', ' ']).flatten := by
  induction d with
  | zero => simp
  | succ k _ => simp [List.replicate_succ]

theorem render_noNewline (l : Line) (h : l.NoNewline) : ∀ c ∈ l.render.toList, c ≠ '\n' := by
  intro c hc heq
  subst heq
  cases l with
  | node d id =>
    rw [toList_render_node, List.mem_append] at hc
    rcases hc with hc | hc
    · exact newline_not_mem_bars d hc
    · simp at hc
      exact newline_not_mem_toDigits id hc
  | cluster d a =>
    rw [toList_render_cluster, List.mem_append] at hc
    rcases hc with hc | hc
    · exact newline_not_mem_bars d hc
    · simp at hc
      exact newline_not_mem_intRepr a hc
  | le d n th | gt d n th =>
    simp only [toList_render_le, toList_render_gt, List.mem_append] at hc
    rcases hc with hc | hc
    · exact newline_not_mem_bars d hc
    · simp at hc
      rcases hc with hc | hc
      · exact h.1 _ hc rfl
      · exact h.2 _ hc rfl

def NoNewline (t : Tree α) (showThr : α → String) (name : Int → String) : Prop :=
  ∀ n, n < t.nNodes → t.left[n]! ≠ -1 →
    (∀ c ∈ (name (featAt t n)).toList, c ≠ '\n') ∧ ∀ v, t.thr[n]! = some v → ∀ c ∈ (showThr v).toList, c ≠ '\n'

theorem printLines_noNewline {t : Tree α} (ht : WellFormed t) {sh : α → String} {nm : Int → String}
    (hnl : NoNewline t sh nm) :
    ∀ (k node : Nat), node < t.nNodes → ∀ l ∈ printLines t sh nm k node, l.NoNewline := by
  refine printLines_forall ht sh nm Line.NoNewline (fun _ _ => True.intro) (fun _ _ => True.intro) ?_
  intro n hn hleaf d
  obtain ⟨v, hv⟩ := Option.isSome_iff_exists.mp (ht.internal n hn hleaf).thr_some
  have h := hnl n hn hleaf
  have hth : ∀ c ∈ (thrStr t sh n).toList, c ≠ '\n' := by
    rw [thrStr_of_some hv]; exact h.2 v hv
  exact ⟨⟨h.1, hth⟩, ⟨h.1, hth⟩⟩

def parseString (s : String) : Option Rules := parseText (splitLines s)

def internalNodes (t : Tree α) : List Nat := (List.range t.nNodes).filter fun n => t.left[n]! != -1

theorem mem_internalNodes {t : Tree α} {n : Nat} : n ∈ internalNodes t ↔ n < t.nNodes ∧ t.left[n]! ≠ -1 := by
  simp [internalNodes]

/-- column of a printed feature label: the feature of the first node printed with that label -/
def colOfTree (t : Tree α) (name : Int → String) (s : String) : Nat :=
  match (internalNodes t).find? (fun n => name (featAt t n) == s) with
  | some n => (featAt t n).toNat
  | none => 0

/-- value of a printed threshold: the threshold of the first node printed with that text -/
def readThrTree (t : Tree α) (showThr : α → String) (s : String) : α :=
  match (internalNodes t).find? (fun n => thrStr t showThr n == s) with
  | some n => (t.thr[n]!).getD 0
  | none => 0

/-- the labels of the features the tree uses are pairwise distinct -/
def NamesDistinct (t : Tree α) (name : Int → String) : Prop :=
  ∀ n m, n < t.nNodes → m < t.nNodes → t.left[n]! ≠ -1 → t.left[m]! ≠ -1 →
    name (featAt t n) = name (featAt t m) → featAt t n = featAt t m

/-- different thresholds of the tree print differently -/
def ThrDistinct (t : Tree α) (showThr : α → String) : Prop :=
  ∀ n m, n < t.nNodes → m < t.nNodes → t.left[n]! ≠ -1 → t.left[m]! ≠ -1 →
    thrStr t showThr n = thrStr t showThr m → t.thr[n]! = t.thr[m]!

theorem find_internal {β : Type} {t : Tree α} (key : Nat → String) (val : Nat → β) {n : Nat} (hlt : n < t.nNodes)
    (hne : t.left[n]! ≠ -1)
    (hd : ∀ m, m < t.nNodes → t.left[m]! ≠ -1 → key m = key n → val m = val n) :
    ∃ m, (internalNodes t).find? (fun m => key m == key n) = some m ∧ val m = val n := by
  cases hm : (internalNodes t).find? (fun m => key m == key n) with
  | none =>
    have := List.find?_eq_none.mp hm n (mem_internalNodes.mpr ⟨hlt, hne⟩)
    simp at this
  | some m =>
    have hmem := mem_internalNodes.mp (List.mem_of_find?_eq_some hm)
    exact ⟨m, rfl, hd m hmem.1 hmem.2 (by simpa using List.find?_some hm)⟩

theorem colOfTree_name {t : Tree α} {nm : Int → String} (hn : NamesDistinct t nm) {n : Nat} (hlt : n < t.nNodes)
    (hne : t.left[n]! ≠ -1) : colOfTree t nm (nm (featAt t n)) = (featAt t n).toNat := by
  obtain ⟨m, hm, e⟩ := find_internal (fun m => nm (featAt t m)) (fun m => featAt t m) hlt hne
    fun m h1 h2 h => hn m n h1 hlt h2 hne h
  unfold colOfTree
  rw [hm]; exact congrArg Int.toNat e

theorem readThrTree_thrStr {t : Tree α} {sh : α → String} (hth : ThrDistinct t sh) {n : Nat} (hlt : n < t.nNodes)
    (hne : t.left[n]! ≠ -1) : readThrTree t sh (thrStr t sh n) = (t.thr[n]!).getD 0 := by
  obtain ⟨m, hm, e⟩ := find_internal (fun m => thrStr t sh m) (fun m => t.thr[m]!) hlt hne
    fun m h1 h2 h => hth m n h1 hlt h2 hne h
  unfold readThrTree
  rw [hm]; exact congrArg (·.getD 0) e

theorem userName_injective (names : Array String) (hnd : names.toList.Nodup) {i j : Nat}
    (hi : i < names.size) (hj : j < names.size) (h : names[i]! = names[j]!) : i = j := by
  rw [getElem!_pos names i hi, getElem!_pos names j hj] at h
  have h' : names.toList[i]'(by simpa using hi) = names.toList[j]'(by simpa using hj) := by simpa using h
  exact (List.getElem_inj hnd).mp h'

theorem wellFormed_init : WellFormed (Tree.init : Tree α) := by
  refine ⟨Nat.one_pos, rfl, rfl, rfl, rfl, rfl, rfl, rfl, ?_⟩
  intro n hn h
  have : n = 0 := by simp [Tree.init] at hn; omega
  subst this
  exact absurd rfl h

theorem wellFormed_addChild {t : Tree α} (ht : WellFormed t) (father : Nat) (s : Split α) (hfeat : 0 ≤ s.feature) :
    WellFormed (t.addChild father s) := by
  have hs := ht.sized
  have hs' := hs.addChild father s
  have hd : ∀ {k}, k < t.nNodes → (t.addChild father s).depths[k]! = t.depths[k]! :=
    fun hk => KauriC09.addChild_depths_lt _ _ _ hs.depths hk
  have hN : (t.addChild father s).nNodes = t.nNodes + 2 := rfl
  have grow : (t.nNodes : Int) < ((t.nNodes + 2 : Nat) : Int) := Int.ofNat_lt.2 (Nat.lt_add_of_pos_right Nat.two_pos)
  refine ⟨Nat.succ_pos _, hs'.left, hs'.right, hs'.target, hs'.thr, hs'.feat, hs'.depths, ?_, ?_⟩
  · rw [hd ht.pos]; exact ht.root_depth
  · intro n hn hne
    rcases KauriC09.addChild_cases hs father s hn with ⟨h1, _, e⟩ | ⟨h1, rfl, e⟩ | ⟨_, e⟩
    · -- an old internal node: untouched, and so are its children
      rw [e.left] at hne
      have hi := ht.internal n h1 hne
      refine ⟨?_, ?_, ?_, ?_, ?_, ?_, ?_, ?_⟩
      · rw [e.left]; exact hi.left_gt
      · rw [e.left, hN]; exact Int.lt_trans hi.left_lt grow
      · rw [e.right]; exact hi.right_gt
      · rw [e.right, hN]; exact Int.lt_trans hi.right_lt grow
      · rw [e.left, hd hi.left_toNat.2, hd h1]; exact hi.depth_left
      · rw [e.right, hd hi.right_toNat.2, hd h1]; exact hi.depth_right
      · rw [e.thr]; exact hi.thr_some
      · rw [e.feat]; exact hi.feat_some
    · -- the father: its children are the two new nodes
      have dN := KauriC09.addChild_depths_new hs.depths father s (Nat.le_refl _) (Nat.lt_add_of_pos_right Nat.two_pos)
      have dN1 := KauriC09.addChild_depths_new hs.depths father s (Nat.le_succ _) (Nat.lt_succ_self _)
      refine ⟨?_, ?_, ?_, ?_, ?_, ?_, ?_, ?_⟩
      · rw [e.left]; exact Int.ofNat_lt.2 h1
      · rw [e.left, hN]; exact grow
      · rw [e.right]; exact Int.ofNat_lt.2 (Nat.lt_succ_of_lt h1)
      · rw [e.right, hN]; exact Int.ofNat_lt.2 (Nat.lt_succ_self _)
      · rw [e.left, Int.toNat_natCast, dN, hd h1]
      · rw [e.right, Int.toNat_natCast, dN1, hd h1]
      · rw [e.thr]; rfl
      · exact ⟨_, e.feat, hfeat⟩
    · exact absurd e.left hne

/-! A concrete tree on which every hypothesis of the C19 theorems holds. -/

namespace Example

/-- root split on feature 2 at 1/2, left leaf → cluster 0, right leaf → cluster 1 -/
def tree : Tree Rat :=
  Tree.init.addChild 0 { gain := 1, leaf := 0, left := 0, right := 1, feature := 2, threshold := 1/2 }
def sh (q : Rat) : String := if q = 1/2 then "0.5" else "?"
def nm (f : Int) : String := s!"X[:, {f}]"
def colOf (s : String) : Nat := if s = "X[:, 2]" then 2 else 0
def readThr (s : String) : Rat := if s = "0.5" then 1/2 else 0

theorem wf : WellFormed tree := wellFormed_addChild wellFormed_init _ _ (by decide)

theorem route_eq (x : Nat → Rat) : tree.route x 3 0 = if x 2 ≤ 1/2 then 0 else 1 := by
  simp [Tree.route, tree, Tree.addChild, Tree.init, RealLike.le]

theorem left_eq : tree.left = #[1, -1, -1] := rfl
theorem feat_eq : tree.feat = #[some 2, none, none] := rfl

theorem internal_zero {n : Nat} (hn : n < tree.nNodes) (h : tree.left[n]! ≠ -1) : n = 0 := by
  have h3 : tree.nNodes = 3 := rfl
  rw [left_eq] at h
  match n, hn, h with
  | 0, _, _ => rfl
  | 1, _, h => exact absurd rfl h
  | 2, _, h => exact absurd rfl h
  | n + 3, hn, _ => omega

theorem thr_zero {v : Rat} (hv : tree.thr[0]! = some v) : v = 1/2 := (Option.some.inj hv).symm
theorem featAt_zero : featAt tree 0 = 2 := rfl

theorem readBack : ReadBack tree sh nm colOf readThr := by
  constructor
  · intro n hn hne v hv
    obtain rfl := internal_zero hn hne
    obtain rfl := thr_zero hv
    simp [sh, readThr]
  · intro n hn hne
    obtain rfl := internal_zero hn hne
    rw [featAt_zero]
    decide

theorem noBlank : ThrNoBlank tree sh := by
  intro n hn hne v hv
  obtain rfl := internal_zero hn hne
  obtain rfl := thr_zero hv
  simp [sh]

theorem noNewline : NoNewline tree sh nm := by
  intro n hn hne
  obtain rfl := internal_zero hn hne
  refine ⟨by rw [featAt_zero]; decide, ?_⟩
  intro v hv
  obtain rfl := thr_zero hv
  simp [sh]

end Example

end GemVerif.KauriC19
