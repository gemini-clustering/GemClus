/-
  For C02, Wasserstein GEMINI: the returned gradient is the exact derivative of the returned score, given the
  sensitivity (envelope) property of the transport LP solved by POT's `ot.emd2`.
-/
import GemVerif.Lemmas.GeminiLine
import GemVerif.Lemmas.WassForms

namespace GemVerif
open scoped Topology
open Model Spec

variable {n K : ℕ}

/-- The assumption on `ot.emd2`: envelope / sensitivity property of the transport LP at one pair of marginals
    `(a₀, b₀)`.
    Along every pair of curves of marginals through `(a₀, b₀)` that stay (for `t` near 0) in the open
    probability simplex and are entrywise differentiable at 0, the optimal value returned by
    `ot.emd2` is differentiable at 0 and its derivative is the pairing of the dual potentials
    returned at `(a₀, b₀)` with the velocities of the marginals.

    For the true LP value `W(a,b) = max {⟨u,a⟩ + ⟨v,b⟩ : u_i + v_j ≤ M_ij}` this holds exactly at the
    pairs where the optimal dual solution is unique up to the additive constant
    `(u + c, v - c)`, i.e. inside one optimal-transport basis region (`W` is convex and piecewise
    linear on the product of simplices); it fails on the boundaries between such regions, where the
    score itself is not differentiable.  Because only curves of total mass 1 are considered, the
    velocities sum to 0 and the property does not depend on which additive constants the solver
    puts in `u` and `v` (`emdEnvelopeAt_shift_invariant`, Props/C02Wass.lean). -/
def EmdEnvelopeAt (emd2 : (Fin n → ℝ) → (Fin n → ℝ) → Emd ℝ n) (a₀ b₀ : Fin n → ℝ) : Prop :=
  ∀ (a b : ℝ → Fin n → ℝ) (a' b' : Fin n → ℝ), a 0 = a₀ → b 0 = b₀ →
    (∀ᶠ t in 𝓝 (0 : ℝ), OpenSimplex (a t) ∧ OpenSimplex (b t)) →
    (∀ i, HasDerivAt (fun t => a t i) (a' i) 0) → (∀ i, HasDerivAt (fun t => b t i) (b' i) 0) →
    HasDerivAt (fun t => (emd2 (a t) (b t)).value)
      (∑ i, (emd2 a₀ b₀).u i * a' i + ∑ i, (emd2 a₀ b₀).v i * b' i) 0

/-- The envelope property at every pair of marginals of the open simplex (only smooth surrogates of
    the transport cost satisfy this global form; the LP itself satisfies the pointwise form
    `EmdEnvelopeAt` at generic pairs). -/
def EmdEnvelope (emd2 : (Fin n → ℝ) → (Fin n → ℝ) → Emd ℝ n) : Prop :=
  ∀ a₀ b₀, OpenSimplex a₀ → OpenSimplex b₀ → EmdEnvelopeAt emd2 a₀ b₀

theorem sum_deriv_eq_zero {a : ℝ → Fin n → ℝ} {a' : Fin n → ℝ}
    (hs : ∀ᶠ t in 𝓝 (0 : ℝ), ∑ i, a t i = 1) (ha : ∀ i, HasDerivAt (fun t => a t i) (a' i) 0) :
    ∑ i, a' i = 0 := by
  have h1 : HasDerivAt (fun t => ∑ i, a t i) (∑ i, a' i) 0 := HasDerivAt.fun_sum fun i _ => ha i
  have h2 : HasDerivAt (fun t => ∑ i, a t i) 0 0 :=
    (hasDerivAt_const (0 : ℝ) (1 : ℝ)).congr_of_eventuallyEq hs
  exact h1.unique h2

/-- a solver that returns the same values but shifts the potentials by arbitrary constants
    (which may depend on the marginals) -/
def shiftEmd (emd2 : (Fin n → ℝ) → (Fin n → ℝ) → Emd ℝ n) (c d : (Fin n → ℝ) → (Fin n → ℝ) → ℝ) :
    (Fin n → ℝ) → (Fin n → ℝ) → Emd ℝ n :=
  fun a b => ⟨(emd2 a b).value, fun i => (emd2 a b).u i + c a b, fun i => (emd2 a b).v i + d a b⟩

/-- `wy[k][i] = P[i,k] / (π_k N)` -/
noncomputable def wyR (P : Fin n → Fin K → ℝ) (k : Fin K) (i : Fin n) : ℝ := P i k / (Spec.pi P k * n)

theorem wyR_eq_cond (P : Fin n → Fin K → ℝ) (k : Fin K) : wyR P k = Spec.cond P k :=
  funext fun i => by rw [wyR, Spec.cond, mul_comm]

theorem wassWeights_interior {ε : ℝ} {P : Fin n → Fin K → ℝ} (hI : Interior ε P) :
    wassWeights ε P = wyR P :=
  funext fun k => by rw [wassWeights_eq, clipP_of_interior hI, wyR_eq_cond]

theorem wyR_openSimplex (hn : 0 < n) {P : Fin n → Fin K → ℝ} (hP : ∀ i k, 0 < P i k) (k : Fin K) :
    OpenSimplex (wyR P k) :=
  wyR_eq_cond P k ▸ cond_openSimplex hn hP k

/-- velocity of `wy[k][i]` at `P` when `P` moves with velocity `V` -/
noncomputable def wyD (P V : Fin n → Fin K → ℝ) (k : Fin K) (i : Fin n) : ℝ :=
  (V i k * (Spec.pi P k * n) - P i k * (Spec.pi V k * n)) / (Spec.pi P k * n) ^ 2

section curve
variable {Pc : ℝ → Fin n → Fin K → ℝ} {V : Fin n → Fin K → ℝ}
  (hP : ∀ i k, HasDerivAt (fun t => Pc t i k) (V i k) 0)
include hP

theorem hasDerivAt_wyR_curve (hn : 0 < n) (k : Fin K) (hπ : Spec.pi (Pc 0) k ≠ 0) (i : Fin n) :
    HasDerivAt (fun t : ℝ => wyR (Pc t) k i) (wyD (Pc 0) V k i) 0 :=
  (hP i k).fun_div ((hasDerivAt_pi_curve hP k).mul_const (n : ℝ)) (mul_ne_zero hπ (Nat.cast_ne_zero.2 hn.ne'))

theorem wyR_curve_eventually (hn : 0 < n) {ε : ℝ} (hε : 0 < ε) (hI : Interior ε (Pc 0)) :
    ∀ᶠ t in 𝓝 (0 : ℝ), ∀ k, OpenSimplex (wyR (Pc t) k) :=
  (interior_eventually hP hI).mono fun _ ht k => wyR_openSimplex hn (P_pos hε ht) k

/-- the envelope hypothesis read along the curve: the first marginal is `wy[a]`, the second any curve `b` of the
    open simplex (the constant uniform weights one-vs-all, `wy[b]` one-vs-one) -/
theorem EmdEnvelopeAt.hasDerivAt_curve (hn : 0 < n) {ε : ℝ} (hε : 0 < ε) (hI : Interior ε (Pc 0))
    {emd2 : (Fin n → ℝ) → (Fin n → ℝ) → Emd ℝ n} {a : Fin K} {b₀ : Fin n → ℝ}
    (hE : EmdEnvelopeAt emd2 (wyR (Pc 0) a) b₀) {b : ℝ → Fin n → ℝ} {b' : Fin n → ℝ} (hb0 : b 0 = b₀)
    (hbS : ∀ᶠ t in 𝓝 (0 : ℝ), OpenSimplex (b t)) (hb : ∀ i, HasDerivAt (fun t => b t i) (b' i) 0) :
    HasDerivAt (fun t : ℝ => (emd2 (wyR (Pc t) a) (b t)).value)
      (∑ i, (emd2 (wyR (Pc 0) a) b₀).u i * wyD (Pc 0) V a i + ∑ i, (emd2 (wyR (Pc 0) a) b₀).v i * b' i) 0 :=
  hE (fun t => wyR (Pc t) a) b (wyD (Pc 0) V a) b' rfl hb0
    (((wyR_curve_eventually hP hn hε hI).and hbS).mono fun _ ht => ⟨ht.1 a, ht.2⟩)
    (hasDerivAt_wyR_curve hP hn a (pi_pos hn (P_pos hε hI) a).ne') hb

end curve

/-- The chain rule through `wy[k] = P[:,k] / (π_k N)`, and the centring is harmless.
    For any vector `p` of potentials and any constant `c` subtracted from it, `π_k · ⟨p, d wy_k⟩`
    is the pairing of `V[:,k]` with the code's expression
    `(p - c)/N - Σ_j (p_j - c) P_jk / (N² π_k)`. -/
theorem wass_chain (hn : 0 < n) (P V : Fin n → Fin K → ℝ) (k : Fin K) (hπ : Spec.pi P k ≠ 0)
    (p : Fin n → ℝ) (c : ℝ) :
    Spec.pi P k * ∑ i, p i * wyD P V k i
      = ∑ i, ((p i - c) / n - (∑ j, (p j - c) * P j k) / (n * n * Spec.pi P k)) * V i k := by
  have hn' : (n : ℝ) ≠ 0 := by exact_mod_cast hn.ne'
  have hP := sum_col_eq hn P k
  have hV := sum_col_eq hn V k
  have e1 : ∑ i, p i * wyD P V k i
      = ((∑ i, p i * V i k) * (Spec.pi P k * n) - (∑ i, p i * P i k) * (Spec.pi V k * n))
          / (Spec.pi P k * n) ^ 2 := by
    simp only [wyD, mul_div_assoc', mul_sub, ← mul_assoc, ← Finset.sum_div, Finset.sum_sub_distrib,
      ← Finset.sum_mul]
  have e2 : ∑ j, (p j - c) * P j k = (∑ i, p i * P i k) - c * (n * Spec.pi P k) := by
    simp only [sub_mul, Finset.sum_sub_distrib, ← Finset.mul_sum, hP]
  have e3 : ∑ i, ((p i - c) / n - (∑ j, (p j - c) * P j k) / (n * n * Spec.pi P k)) * V i k
      = ((∑ i, p i * V i k) - c * (n * Spec.pi V k)) / n
        - (∑ j, (p j - c) * P j k) / (n * n * Spec.pi P k) * (n * Spec.pi V k) := by
    simp only [sub_mul, Finset.sum_sub_distrib, ← Finset.mul_sum, hV, div_mul_eq_mul_div,
      ← Finset.sum_div]
  rw [e1, e3, e2]
  generalize (∑ i, p i * V i k) = S1
  generalize (∑ i, p i * P i k) = S2
  generalize Spec.pi P k = π at *
  generalize Spec.pi V k = w
  field_simp
  ring

theorem wassScore_ova_interior {ε : ℝ} {P : Fin n → Fin K → ℝ} (hI : Interior ε P)
    (emd2 : (Fin n → ℝ) → (Fin n → ℝ) → Emd ℝ n) :
    wassScore emd2 ε false P
      = ∑ k, Spec.pi P k * (emd2 (wyR P k) (fun _ => 1 / (n : ℝ))).value := by
  rw [wassScore_eq, wassScoreT_ova, wassWeights_interior hI, clipP_of_interior hI, mean0_eq_pi]

theorem wassScore_ovo_interior {ε : ℝ} {P : Fin n → Fin K → ℝ} (hI : Interior ε P)
    (emd2 : (Fin n → ℝ) → (Fin n → ℝ) → Emd ℝ n) :
    wassScore emd2 ε true P
      = ∑ a, Spec.pi P a * ∑ b, wPairT (fun c d => emd2 (wyR P c) (wyR P d)) a b * Spec.pi P b := by
  rw [wassScore_eq, wassScoreT_ovo, wassWeights_interior hI, clipP_of_interior hI, mean0_eq_pi]

theorem hasDerivAt_wPairT {Pc : ℝ → Fin n → Fin K → ℝ} {V : Fin n → Fin K → ℝ}
    (hP : ∀ i k, HasDerivAt (fun t => Pc t i k) (V i k) 0) (hn : 0 < n) {ε : ℝ} (hε : 0 < ε)
    (hI : Interior ε (Pc 0)) (emd2 : (Fin n → ℝ) → (Fin n → ℝ) → Emd ℝ n)
    (hE : ∀ a b : Fin K, a.val < b.val → EmdEnvelopeAt emd2 (wyR (Pc 0) a) (wyR (Pc 0) b)) (a b : Fin K) :
    HasDerivAt (fun t : ℝ => wPairT (fun c d => emd2 (wyR (Pc t) c) (wyR (Pc t) d)) a b)
      (if a = b then 0 else
        ∑ i, potU (fun c d => emd2 (wyR (Pc 0) c) (wyR (Pc 0) d)) a b i * wyD (Pc 0) V a i
          + ∑ i, potU (fun c d => emd2 (wyR (Pc 0) c) (wyR (Pc 0) d)) b a i * wyD (Pc 0) V b i) 0 := by
  have key : ∀ c d : Fin K, c.val < d.val →
      HasDerivAt (fun t : ℝ => (emd2 (wyR (Pc t) c) (wyR (Pc t) d)).value)
        (∑ i, (emd2 (wyR (Pc 0) c) (wyR (Pc 0) d)).u i * wyD (Pc 0) V c i
          + ∑ i, (emd2 (wyR (Pc 0) c) (wyR (Pc 0) d)).v i * wyD (Pc 0) V d i) 0 := fun c d hcd =>
    (hE c d hcd).hasDerivAt_curve hP hn hε hI (b := fun t => wyR (Pc t) d) rfl
      ((wyR_curve_eventually hP hn hε hI).mono fun _ ht => ht d)
      (hasDerivAt_wyR_curve hP hn d (pi_pos hn (P_pos hε hI) d).ne')
  rcases lt_trichotomy a.val b.val with h | h | h
  · have hab : a ≠ b := fun e => by rw [e] at h; exact lt_irrefl _ h
    simp only [wPairT_of_lt _ h, potU_of_lt _ h, potU_of_gt _ h, if_neg hab]
    exact key a b h
  · obtain rfl : a = b := Fin.ext h
    simp only [wPairT_self, if_true]
    exact hasDerivAt_const _ _
  · have hab : a ≠ b := fun e => by rw [e] at h; exact lt_irrefl _ h
    simp only [wPairT_of_gt _ h, potU_of_lt _ h, potU_of_gt _ h, if_neg hab]
    rw [add_comm]
    exact key b a h

/-- the gradient code only ever uses `u - mean u` and `v - mean v`: it cannot see the additive
    constants of the potentials (table form) -/
theorem wassGradT_shift (pairE : Fin K → Fin K → Emd ℝ n) (unifE : Fin K → Emd ℝ n)
    (c d : Fin K → Fin K → ℝ) (c' d' : Fin K → ℝ) (ε : ℝ) (ovo : Bool) (P : Fin n → Fin K → ℝ) :
    wassGradT (fun a b => ⟨(pairE a b).value, fun i => (pairE a b).u i + c a b, fun i => (pairE a b).v i + d a b⟩)
        (fun k => ⟨(unifE k).value, fun i => (unifE k).u i + c' k, fun i => (unifE k).v i + d' k⟩) ε ovo P
      = wassGradT pairE unifE ε ovo P := by
  funext i k
  cases ovo
  · simp only [wassGradT_ova, ctr_add_const]
  · have hpot : ∀ o, potT (fun a b => ⟨(pairE a b).value, fun i => (pairE a b).u i + c a b,
        fun i => (pairE a b).v i + d a b⟩) k o = potT pairE k o := fun o => by
      rw [potT_eq_ite, potT_eq_ite]
      split_ifs
      · exact ctr_add_const _ _
      · exact ctr_add_const _ _
    have hw : ∀ b, wPairT (fun a b => ⟨(pairE a b).value, fun i => (pairE a b).u i + c a b,
        fun i => (pairE a b).v i + d a b⟩) k b = wPairT pairE k b := wPairT_congr (fun _ _ _ => rfl) k
    simp only [wassGradT_ovo, hpot, hw]

/-- `EmdEnvelope` is satisfiable: a "solver" whose value is linear in the marginals, `⟨c,a⟩ + ⟨d,b⟩`, with potentials `c`, `d` -/
def linEmd (c d : Fin n → ℝ) : (Fin n → ℝ) → (Fin n → ℝ) → Emd ℝ n :=
  fun a b => ⟨∑ i, c i * a i + ∑ i, d i * b i, c, d⟩

theorem linEmd_envelope (c d : Fin n → ℝ) : EmdEnvelope (linEmd c d) := by
  intro a₀ b₀ _ _ a b a' b' _ _ _ ha hb
  exact (HasDerivAt.fun_sum fun i _ => (ha i).const_mul (c i)).fun_add
    (HasDerivAt.fun_sum fun i _ => (hb i).const_mul (d i))

/-- a non-linear one: the squared Euclidean distance between the marginals,
    `Σ (a_i - b_i)²`, with potentials `u = 2(a - b)`, `v = -2(a - b)` -/
def sqEmd : (Fin n → ℝ) → (Fin n → ℝ) → Emd ℝ n :=
  fun a b => ⟨∑ i, (a i - b i) ^ 2, fun i => 2 * (a i - b i), fun i => -(2 * (a i - b i))⟩

theorem sqEmd_envelope : EmdEnvelope (sqEmd (n := n)) := by
  intro a₀ b₀ _ _ a b a' b' ha0 hb0 _ ha hb
  subst ha0 hb0
  refine (HasDerivAt.fun_sum (u := Finset.univ) fun i _ => ((ha i).fun_sub (hb i)).fun_pow 2).congr_deriv ?_
  simp only [sqEmd, ← Finset.sum_add_distrib]
  refine Finset.sum_congr rfl fun i _ => ?_
  simp only [Nat.cast_ofNat, Nat.add_one_sub_one, pow_one]
  ring

theorem absEmd_envelopeAt {a₀ b₀ : Fin 2 → ℝ} (h : a₀ 0 ≠ b₀ 0) : EmdEnvelopeAt absEmd a₀ b₀ := by
  intro a b a' b' ha0 hb0 _ ha hb
  subst ha0 hb0
  refine (hasDerivAt_abs_sign ((ha 0).fun_sub (hb 0)) (sub_ne_zero.mpr h)).congr_deriv ?_
  simp only [absEmd, Fin.sum_univ_two, if_pos, if_neg Fin.zero_ne_one.symm, zero_mul, add_zero]
  ring

theorem wyR_exP_zero : wyR exP 0 0 = 7 / 9 ∧ wyR exP 1 0 = 3 / 11 := by
  have h0 : exP 0 0 = 7 / 10 := rfl
  have h1 : exP 0 1 = 3 / 10 := rfl
  constructor
  · rw [wyR, exP_pi.1, h0]
    norm_num
  · rw [wyR, exP_pi.2, h1]
    norm_num

theorem exP_wass_ova : ∀ k, wyR exP k 0 ≠ 1 / ((2 : ℕ) : ℝ) := by
  intro k
  fin_cases k
  · exact wyR_exP_zero.1.trans_ne (by norm_num)
  · exact wyR_exP_zero.2.trans_ne (by norm_num)

theorem exP_wass_ovo : ∀ a b : Fin 2, a.val < b.val → wyR exP a 0 ≠ wyR exP b 0 := by
  intro a b h
  obtain rfl : a = 0 := Fin.ext (by omega)
  obtain rfl : b = 1 := Fin.ext (by omega)
  rw [wyR_exP_zero.1, wyR_exP_zero.2]
  norm_num

end GemVerif
