/-
  The post-condition `KauriC09.SplitOK` of the model's `findBestSplit` (`KauriC09.FindBestSplitSpec`), proved for every
  number type whose comparisons obey the laws of a total order (`OrderLaws`; instances for ℝ and ℚ): on the blocks of
  `compute_all_splits` from `Lemmas/KauriC08.lean`, then through `KauriC08.findBestSplit_induction`.
-/
import GemVerif.Lemmas.KauriC09
import GemVerif.Lemmas.KauriC08

set_option linter.unusedSectionVars false

namespace GemVerif.KauriSpec
open RealLike Model.Kauri KauriC09

variable {α : Type} [RealLike α]

/-- The laws of the Boolean comparisons that the proof uses (a total preorder whose symmetric part is `beq`;
    `0 < 0` is false).  They hold over ℝ and ℚ; they fail for IEEE doubles only in the presence of NaN. -/
structure OrderLaws (α : Type) [RealLike α] : Prop where
  le_total : ∀ a b : α, le a b = false → le b a = true
  le_trans : ∀ a b c : α, le a b = true → le b c = true → le a c = true
  le_antisymm : ∀ a b : α, le a b = true → le b a = true → beq a b = true
  lt_zero_zero : lt (0 : α) 0 = false

theorem OrderLaws.le_refl (O : OrderLaws α) (a : α) : le a a = true := by
  by_cases h : le a a = true
  · exact h
  · exact O.le_total a a (by simpa using h)

section sort
variable (le' : α → α → Bool)

theorem insertBy_perm (x : α × Nat) (l : List (α × Nat)) : (insertBy le' x l).Perm (x :: l) := by
  induction l with
  | nil => exact List.Perm.refl _
  | cons y ys ih =>
    unfold insertBy
    split
    · exact ((List.Perm.cons y ih).trans (List.Perm.swap x y ys))
    · exact List.Perm.refl _

theorem foldl_insertBy_perm (l acc : List (α × Nat)) :
    (l.foldl (fun acc x => insertBy le' x acc) acc).Perm (l ++ acc) := by
  induction l generalizing acc with
  | nil => exact List.Perm.refl _
  | cons x xs ih =>
    rw [List.foldl_cons]
    refine (ih _).trans ?_
    refine (List.Perm.append_left xs (insertBy_perm le' x acc)).trans ?_
    simp

theorem sortBy_perm (l : List (α × Nat)) : (sortBy le' l).Perm l := by
  have := foldl_insertBy_perm le' l []
  simpa [sortBy] using this

def SortedBy (l : List (α × Nat)) : Prop := l.Pairwise fun a b => le' a.1 b.1 = true

variable {le'}

/-- Mathlib's `List.pairwise_insertionSort` does not apply: `insertBy` passes over `y` while `le' y x`, so it is
    `List.orderedInsert` for the strict order `fun x y => le' y x = false`, which is not total. -/
theorem insertBy_sorted (htot : ∀ a b, le' a b = false → le' b a = true)
    (htr : ∀ a b c, le' a b = true → le' b c = true → le' a c = true) (x : α × Nat) (l : List (α × Nat))
    (h : SortedBy le' l) : SortedBy le' (insertBy le' x l) := by
  induction l with
  | nil => exact List.pairwise_singleton _ _
  | cons y ys ih =>
    have hy := List.pairwise_cons.1 h
    unfold insertBy
    split
    · rename_i hle
      refine List.pairwise_cons.2 ⟨?_, ih hy.2⟩
      intro z hz
      rcases List.mem_cons.1 ((insertBy_perm le' x ys).mem_iff.1 hz) with hz | hz
      · rw [hz]; exact hle
      · exact hy.1 z hz
    · rename_i hle
      have hxy : le' x.1 y.1 = true := htot _ _ (by simpa using hle)
      refine List.pairwise_cons.2 ⟨?_, h⟩
      intro z hz
      rcases List.mem_cons.1 hz with hz | hz
      · rw [hz]; exact hxy
      · exact htr _ _ _ hxy (hy.1 z hz)

theorem sortBy_sorted (htot : ∀ a b, le' a b = false → le' b a = true)
    (htr : ∀ a b c, le' a b = true → le' b c = true → le' a c = true) (l : List (α × Nat)) :
    SortedBy le' (sortBy le' l) :=
  foldl_induction _ (SortedBy le') l (fun b x _ hb => insertBy_sorted htot htr x b hb) [] List.Pairwise.nil

end sort

/-- the order `nu` of the samples of a leaf along feature `f`, as a list -/
def nuList (X : Nat → Nat → α) (leaf : List Nat) (f : Nat) : List Nat :=
  (sortBy (fun x y => le x y) (leaf.map fun i => (X i f, i))).map (·.2)

theorem nuList_perm (X : Nat → Nat → α) (leaf : List Nat) (f : Nat) : (nuList X leaf f).Perm leaf := by
  have := (sortBy_perm (fun x y => le x y) (leaf.map fun i => (X i f, i))).map (·.2)
  simpa [nuList, List.map_map, Function.comp_def] using this

theorem nuList_sorted (O : OrderLaws α) (X : Nat → Nat → α) (leaf : List Nat) (f : Nat) :
    (nuList X leaf f).Pairwise fun i i' => le (X i f) (X i' f) = true := by
  have hs := sortBy_sorted (le' := fun x y : α => le x y) O.le_total O.le_trans (leaf.map fun i => (X i f, i))
  have hmem : ∀ q, q ∈ sortBy (fun x y : α => le x y) (leaf.map fun i => (X i f, i)) → q.1 = X q.2 f := by
    intro q hq
    have := (sortBy_perm _ _).mem_iff.1 hq
    obtain ⟨i, _, rfl⟩ := List.mem_map.1 this
    rfl
  unfold nuList
  rw [List.pairwise_map]
  exact hs.imp_of_mem (fun ha hb h => by rw [← hmem _ ha, ← hmem _ hb]; exact h)

theorem cut_aux (O : OrderLaws α) (v : Nat → α) {L A B : List Nat} {x y : Nat} (e : L = A ++ x :: y :: B)
    (hs : L.Pairwise fun i i' => le (v i) (v i') = true) (hne : beq (v x) (v y) = false) :
    (L.filter fun i => le (v i) (v x)) = A ++ [x] ∧ (L.filter fun i => !(le (v i) (v x))) = y :: B := by
  subst e
  obtain ⟨_, h2, h3⟩ := List.pairwise_append.1 hs
  obtain ⟨h4, h5⟩ := List.pairwise_cons.1 h2
  obtain ⟨h6, _⟩ := List.pairwise_cons.1 h5
  have hA : ∀ a, a ∈ A → le (v a) (v x) = true := fun a ha => h3 a ha x List.mem_cons_self
  have hxy : le (v x) (v y) = true := h4 y List.mem_cons_self
  have hy : le (v y) (v x) = false := by
    cases h : le (v y) (v x)
    · rfl
    · rw [O.le_antisymm _ _ hxy h] at hne; exact absurd hne (by decide)
  have hB : ∀ b, b ∈ B → le (v b) (v x) = false := by
    intro b hb
    cases h : le (v b) (v x)
    · rfl
    · rw [O.le_trans _ _ _ (h6 b hb) h] at hy; exact absurd hy (by decide)
  have hx := O.le_refl (v x)
  constructor
  · rw [List.filter_append, List.filter_cons_of_pos (by simpa using hx), List.filter_cons_of_neg (by simp [hy]),
      List.filter_eq_self.2 (fun a ha => by simpa using hA a ha),
      List.filter_eq_nil_iff.2 (fun b hb => by simp [hB b hb])]
  · rw [List.filter_append, List.filter_cons_of_neg (by simp [hx]), List.filter_cons_of_pos (by simp [hy]),
      List.filter_eq_nil_iff.2 (fun a ha => by simp [hA a ha]),
      List.filter_eq_self.2 (fun b hb => by simp [hB b hb])]
    rfl

/-- In a list sorted by `v`, if the values at positions `l` and `l+1` differ, the test `v i ≤ v L[l]` selects exactly
    the first `l+1` elements.  (The bound of `L[l]` is written out: left to the default tactic it is found by `omega`, at
    every occurrence, and elaborating the statement costs more than its proof.) -/
theorem cut_filter (O : OrderLaws α) (v : Nat → α) (L : List Nat) (l : Nat) (hl : l + 1 < L.length)
    (hs : L.Pairwise fun i i' => le (v i) (v i') = true)
    (hne : beq (v (L[l]'(Nat.lt_of_succ_lt hl))) (v L[l + 1]) = false) :
    (L.filter fun i => le (v i) (v (L[l]'(Nat.lt_of_succ_lt hl)))) = L.take (l + 1) ∧
      (L.filter fun i => !(le (v i) (v (L[l]'(Nat.lt_of_succ_lt hl))))) = L.drop (l + 1) := by
  have e : L = L.take l ++ L[l]'(Nat.lt_of_succ_lt hl) :: L[l + 1] :: L.drop (l + 2) := by
    conv_lhs => rw [← List.take_append_drop l L]
    rw [List.drop_eq_getElem_cons (Nat.lt_of_succ_lt hl), List.drop_eq_getElem_cons hl]
  have h := cut_aux O v e hs hne
  exact ⟨h.1.trans (List.take_succ_eq_append_getElem (Nat.lt_of_succ_lt hl)).symm,
    h.2.trans (List.drop_eq_getElem_cons hl).symm⟩

/-- The pair of targets of split `b` is one of the four kinds that `compute_all_splits` produces for a leaf of
    cluster `k` when there are `nC` clusters and at most `Kmax` are allowed; `outside` stands for "cluster `k` has a
    sample outside the leaf". -/
structure TargetsOK (nC Kmax k : Nat) (outside : Prop) (b : Split α) : Prop where
  left_nonneg : 0 ≤ b.left
  right_nonneg : 0 ≤ b.right
  ne : b.left ≠ b.right
  targets :
    (b.left = nC ∧ b.right = nC + 1 ∧ nC + 2 ≤ Kmax) ∨ (b.left = nC ∧ b.right = k ∧ nC + 1 ≤ Kmax) ∨
    (b.left = k ∧ b.right = nC ∧ nC + 1 ≤ Kmax) ∨ (b.left < nC ∧ b.right < nC)
  keeps : b.left = k ∨ b.right = k ∨ outside

structure CandSplit (c : Cand α) (outside : Prop) (b : Split α) : Prop where
  leaf : b.leaf = c.leaf_id
  feature : b.feature = c.feature_id
  threshold : b.threshold = c.threshold
  targets : TargetsOK c.n_clusters c.K_max c.k outside b

section stages
variable {outside : Prop} {P : Split α → Prop} {c : Cand α}

theorem candSplit_record (c : Cand α) (g : α) {l r : Nat} (hne : l ≠ r)
    (ht : (l = c.n_clusters ∧ r = c.n_clusters + 1 ∧ c.n_clusters + 2 ≤ c.K_max) ∨
      (l = c.n_clusters ∧ r = c.k ∧ c.n_clusters + 1 ≤ c.K_max) ∨
      (l = c.k ∧ r = c.n_clusters ∧ c.n_clusters + 1 ≤ c.K_max) ∨ (l < c.n_clusters ∧ r < c.n_clusters))
    (hkeep : l = c.k ∨ r = c.k ∨ outside) : CandSplit c outside (KauriC08.Cand.record c g l r) := by
  refine ⟨rfl, rfl, rfl, Int.natCast_nonneg l, Int.natCast_nonneg r, ?_, ?_, ?_⟩
  · exact fun e => hne (Int.ofNat_inj.1 e)
  · -- the same four kinds, with the targets cast to `Int`
    have eq : ∀ {a b : Nat} {m : Prop}, a = b ∧ m → ((a : Int) = (b : Int)) ∧ m := And.imp_left (congrArg _)
    exact ht.imp (And.imp (congrArg _) eq) <| Or.imp (And.imp (congrArg _) eq) <| Or.imp (And.imp (congrArg _) eq) <|
      And.imp Int.ofNat_lt.2 Int.ofNat_lt.2
  · exact hkeep.imp (congrArg _) (Or.imp_left (congrArg _))

theorem stage1_ind (best : Split α) (hout : c.n_leaf ≠ c.cluster_sizes c.k → outside) (hP : P best)
    (hc : ∀ b, CandSplit c outside b → P b) : P (KauriC08.stage1 c best) := by
  unfold KauriC08.stage1
  split
  · rename_i h
    simp only [Bool.and_eq_true, decide_eq_true_eq, bne_iff_ne, ne_eq] at h
    dsimp only
    split
    · exact hc _ (candSplit_record c _ (Nat.ne_of_lt (Nat.lt_succ_self _)) (Or.inl ⟨rfl, rfl, Nat.succ_le_of_lt h.1⟩)
        (Or.inr (Or.inr (hout h.2))))
    · exact hP
  · exact hP

theorem stage2_ind (best : Split α) (hk : c.k < c.n_clusters) (hP : P best)
    (hc : ∀ b, CandSplit c outside b → P b) : P (KauriC08.stage2 c best) := by
  unfold KauriC08.stage2
  split
  · rename_i h
    dsimp only
    split
    · split
      · exact hc _ (candSplit_record c _ (Nat.ne_of_gt hk) (Or.inr (Or.inl ⟨rfl, rfl, h⟩)) (Or.inr (Or.inl rfl)))
      · exact hc _ (candSplit_record c _ (Nat.ne_of_lt hk) (Or.inr (Or.inr (Or.inl ⟨rfl, rfl, h⟩))) (Or.inl rfl))
    · exact hP
  · exact hP

theorem bestStep_ind (best : Split α) {m : Nat} (hm : m < c.n_clusters) (hk : c.k < c.n_clusters) (hkm : c.k ≠ m)
    (hP : P best) (hc : ∀ b, CandSplit c outside b → P b) : P (KauriC08.bestStep c best m) := by
  unfold KauriC08.bestStep
  split_ifs
  · exact hc _ (candSplit_record c _ (Ne.symm hkm) (Or.inr (Or.inr (Or.inr ⟨hm, hk⟩))) (Or.inr (Or.inl rfl)))
  · exact hc _ (candSplit_record c _ hkm (Or.inr (Or.inr (Or.inr ⟨hk, hm⟩))) (Or.inl rfl))
  · exact hP

theorem stage4_ind (L R : KauriC08.Side α) (best : Split α)
    (hL : KauriC08.TopAt (c.app Gen.Kauri.leftSwitch) c.k c.n_clusters L)
    (hR : KauriC08.TopAt (c.app Gen.Kauri.rightSwitch) c.k c.n_clusters R)
    (hout : c.n_leaf ≠ c.cluster_sizes c.k → outside) (hP : P best) (hc : ∀ b, CandSplit c outside b → P b) :
    P (KauriC08.stage4 c L R best) := by
  unfold KauriC08.stage4
  split
  · rename_i h
    simp only [Bool.and_eq_true, decide_eq_true_eq, bne_iff_ne, ne_eq] at h
    cases hp : (KauriC08.pick L R).1 with
    | none => exact hP
    | some r =>
      obtain ⟨kl, kr, hkl, hkr, _, _, hne, e1, e2, _⟩ := KauriC08.pick_attained hL hR hp
      dsimp only
      split
      · rw [e1, e2]
        exact hc _ (candSplit_record c _ hne (Or.inr (Or.inr (Or.inr ⟨hkl, hkr⟩))) (Or.inr (Or.inr (hout h.2))))
      · exact hP
  · exact hP

theorem stage34_ind (best : Split α) (hk : c.k < c.n_clusters) (hout : c.n_leaf ≠ c.cluster_sizes c.k → outside)
    (hP : P best) (hc : ∀ b, CandSplit c outside b → P b) : P (KauriC08.stage34 c best) := by
  unfold KauriC08.stage34
  split
  · -- one walk of the switch loop: both sides track clusters, and the running best satisfies `P`
    obtain ⟨hL, hR, hb⟩ := KauriC08.switchLoop_induction c best
      (fun n L R b => KauriC08.TopAt (c.app Gen.Kauri.leftSwitch) c.k n L ∧
        KauriC08.TopAt (c.app Gen.Kauri.rightSwitch) c.k n R ∧ P b)
      ⟨KauriC08.TopAt.init _ _, KauriC08.TopAt.init _ _, hP⟩ (fun _ _ _ _ _ h => ⟨h.1.mono, h.2.1.mono, h.2.2⟩)
      (fun m _ _ b hm hkm h => ⟨h.1.step hkm, h.2.1.step hkm, bestStep_ind b hm hk hkm h.2.2 hc⟩)
    exact stage4_ind _ _ _ hL hR hout hb hc
  · exact hP

theorem computeAllSplits_ind (best : Split α) (hk : c.k < c.n_clusters)
    (hout : c.n_leaf ≠ c.cluster_sizes c.k → outside) (hP : P best) (hc : ∀ b, CandSplit c outside b → P b) :
    P (computeAllSplits best c) := by
  rw [KauriC08.computeAllSplits_eq]
  exact stage34_ind _ hk hout (stage2_ind _ hk (stage1_ind _ hout hP hc) hc) hc

end stages

theorem nuOf_eq (X : Nat → Nat → α) (a : Assign) (j f : Nat) :
    KauriC08.nuOf X a j f = (nuList X (a.samplesOfLeaf j) f).toArray := rfl

theorem nuOf_get (X : Nat → Nat → α) (a : Assign) (j f m : Nat) (hm : m < (nuList X (a.samplesOfLeaf j) f).length) :
    (KauriC08.nuOf X a j f)[m]! = (nuList X (a.samplesOfLeaf j) f)[m] := by
  rw [nuOf_eq]
  exact getElem!_toArray _ m hm

/-- `n_leaf != cluster_sizes[k]`: cluster `k` of leaf `j` has a sample outside leaf `j` -/
theorem exists_outside (a : Assign) (nLeaves j : Nat) (hj : j < nLeaves)
    (hne : (a.samplesOfLeaf j).length ≠ (a.samplesOfCluster nLeaves a.clusterOf[j]!).length) :
    ∃ i, i < a.n ∧ a.leafOf[i]! ≠ j ∧ a.clusterOfSample i = a.clusterOf[j]! := by
  by_contra hcon
  apply hne
  unfold Assign.samplesOfLeaf Assign.samplesOfCluster
  congr 1
  apply List.filter_congr
  intro i hi
  have hi : i < a.n := List.mem_range.1 hi
  by_cases h : a.leafOf[i]! = j
  · simp [h, hj, clusterOfSample_of_leaf h]
  · have h2 : ¬ a.clusterOfSample i = a.clusterOf[j]! := fun e => hcon ⟨i, hi, h, e⟩
    have e1 : (a.leafOf[i]! == j) = false := by simpa using h
    have e2 : (a.clusterOfSample i == a.clusterOf[j]!) = false := by simpa using h2
    rw [e1, e2, Bool.and_false]

theorem nuList_filter (O : OrderLaws α) (X : Nat → Nat → α) (a : Assign) {minLeaf j f l : Nat}
    (he : KauriC08.Evaluated X a minLeaf j f l) :
    ((nuList X (a.samplesOfLeaf j) f).filter fun i => le (X i f) (X (KauriC08.nuOf X a j f)[l]! f)) =
        (nuList X (a.samplesOfLeaf j) f).take (l + 1) ∧
      ((nuList X (a.samplesOfLeaf j) f).filter fun i => !(le (X i f) (X (KauriC08.nuOf X a j f)[l]! f))) =
        (nuList X (a.samplesOfLeaf j) f).drop (l + 1) := by
  have hlen := (nuList_perm X (a.samplesOfLeaf j) f).length_eq
  have hl : l < KauriC08.nLeafOf a j - 1 := he.lt
  unfold KauriC08.nLeafOf at hl
  have hl' : l + 1 < (nuList X (a.samplesOfLeaf j) f).length := by omega
  have hbeq := he.values_ne
  rw [nuOf_get X a j f l (by omega), nuOf_get X a j f (l + 1) hl'] at hbeq
  rw [nuOf_get X a j f l (by omega)]
  exact cut_filter O (fun i => X i f) _ l hl' (nuList_sorted O X _ f) hbeq

theorem splitOK_of_cand (O : OrderLaws α) {κ X : Nat → Nat → α} {p : Params} {s : FitState α} (b : Split α)
    {j f l : Nat} (hj : j ∈ s.toExplore) (he : KauriC08.Evaluated X s.asg p.minLeaf j f l)
    (hb : CandSplit (KauriC08.candAt κ X s.asg s.nClusters p.maxClusters s.nLeaves j f l)
      (∃ i, i < s.asg.n ∧ s.asg.leafOf[i]! ≠ j ∧ s.asg.clusterOfSample i = s.asg.clusterOf[j]!) b) :
    SplitOK X p s b := by
  obtain ⟨hcutL, hcutR⟩ := nuList_filter O X s.asg he
  have hl := he.lt
  have hw1 := he.left_size
  have hw2 := he.right_size
  unfold KauriC08.nLeafOf at hl hw2
  have hl : l + 1 < (s.asg.samplesOfLeaf j).length := Nat.add_lt_of_lt_sub hl
  have hperm := nuList_perm X (s.asg.samplesOfLeaf j) f
  have hlen := hperm.length_eq
  have hthr : b.threshold = X (KauriC08.nuOf X s.asg j f)[l]! f := hb.threshold
  have hjn : b.leaf.toNat = j := by rw [hb.leaf]; exact Int.toNat_natCast j
  have hfn : b.feature.toNat = f := by rw [hb.feature]; exact Int.toNat_natCast f
  -- the children are the two filters of the leaf, which are rearrangements of the two filters of the sorted leaf
  have hL : (leftIdx X s b).length = l + 1 := by
    unfold leftIdx members goesLeft
    rw [hjn, hfn, hthr, ← (hperm.filter _).length_eq, hcutL, List.length_take, hlen]
    exact Nat.min_eq_left (Nat.le_of_lt hl)
  have hR : (rightIdx X s b).length = (s.asg.samplesOfLeaf j).length - (l + 1) := by
    unfold rightIdx members goesLeft
    rw [hjn, hfn, hthr, ← (hperm.filter _).length_eq, hcutR, List.length_drop, hlen]
  have hmem : (KauriC08.nuOf X s.asg j f)[l]! ∈ s.asg.samplesOfLeaf j := by
    rw [nuOf_get X s.asg j f l (by rw [hlen]; exact Nat.lt_of_succ_lt hl)]
    exact hperm.mem_iff.1 (List.getElem_mem _)
  have ht : TargetsOK s.nClusters p.maxClusters s.asg.clusterOf[j]! _ b := hb.targets
  refine { leaf_nonneg := by rw [hb.leaf]; exact Int.natCast_nonneg j, leaf_mem := by rw [hjn]; exact hj,
           feature_nonneg := by rw [hb.feature]; exact Int.natCast_nonneg f,
           left_nonneg := ht.left_nonneg, right_nonneg := ht.right_nonneg, targets_ne := ht.ne,
           targets := by rw [hjn]; exact ht.targets, keeps_cluster := by rw [hjn]; exact ht.keeps,
           left_size := by rw [hL]; exact hw1, right_size := by rw [hR]; omega,
           left_nonempty := List.ne_nil_of_length_pos (by rw [hL]; exact Nat.succ_pos l),
           right_nonempty := List.ne_nil_of_length_pos (by rw [hR]; exact Nat.sub_pos_of_lt hl),
           threshold_obs := ⟨_, by unfold members; rw [hjn]; exact hmem, by rw [hfn]; exact hthr⟩ }

theorem findBestSplitSpec_of_laws (O : OrderLaws α) (κ X : Nat → Nat → α) (p : Params) : FindBestSplitSpec κ X p := by
  intro s features hF _ hpos
  have key : (fun b : Split α => b = Split.init ∨ SplitOK X p s b)
      (findBestSplit κ X s.toExplore s.asg s.nClusters p.maxClusters s.nLeaves p.minLeaf features) := by
    refine KauriC08.findBestSplit_induction κ X _ _ _ _ _ _ _ (fun b : Split α => b = Split.init ∨ SplitOK X p s b)
      (Or.inl rfl) ?_
    intro best j f l hj _ he hP
    have hjl := hF.inv.explore_lt j hj
    have hkl := hF.inv.clusterOf_lt j hjl
    refine computeAllSplits_ind (P := fun b : Split α => b = Split.init ∨ SplitOK X p s b)
      (outside := ∃ i, i < s.asg.n ∧ s.asg.leafOf[i]! ≠ j ∧ s.asg.clusterOfSample i = s.asg.clusterOf[j]!)
      best hkl ?_ hP (fun b hb => Or.inr (splitOK_of_cand O b hj he hb))
    intro hne
    apply exists_outside _ _ _ hjl
    rw [← KauriC08.sizesOf_get s.asg s.nClusters s.nLeaves hkl]
    exact hne
  rcases key with h | h
  · rw [h] at hpos
    have : lt (0 : α) 0 = true := hpos
    rw [O.lt_zero_zero] at this
    exact absurd this (by decide)
  · exact h

theorem orderLaws_real : OrderLaws ℝ where
  le_total a b h := by
    simp only [RealLike.le_real, decide_eq_false_iff_not, not_le, decide_eq_true_eq] at h ⊢
    exact le_of_lt h
  le_trans a b c h1 h2 := by
    simp only [RealLike.le_real, decide_eq_true_eq] at h1 h2 ⊢
    exact le_trans h1 h2
  le_antisymm a b h1 h2 := by
    simp only [RealLike.le_real, RealLike.beq_real, decide_eq_true_eq] at h1 h2 ⊢
    exact le_antisymm h1 h2
  lt_zero_zero := by simp

theorem orderLaws_rat : OrderLaws ℚ where
  le_total a b h := by
    have h : ¬ a ≤ b := by simpa [RealLike.le] using h
    have : b ≤ a := le_of_lt (not_le.1 h)
    simpa [RealLike.le] using this
  le_trans a b c h1 h2 := by
    have h1 : a ≤ b := by simpa [RealLike.le] using h1
    have h2 : b ≤ c := by simpa [RealLike.le] using h2
    simpa [RealLike.le] using le_trans h1 h2
  le_antisymm a b h1 h2 := by
    have h1 : a ≤ b := by simpa [RealLike.le] using h1
    have h2 : b ≤ a := by simpa [RealLike.le] using h2
    simpa [RealLike.beq] using le_antisymm h1 h2
  lt_zero_zero := by simp [RealLike.lt]

end GemVerif.KauriSpec
