/-
  Reading rules of the untyped NumPy of GemVerif/Np.lean: shape, error flag and entries of every operation (by
  unfolding), the broadcasting arithmetic on sizes, and what `Eqv A (ofFn f)` says (`Arr.eqv_ofFn_iff`).  Generic in
  `[RealLike α]`; no Mathlib.  These rules and those of Lemmas/Np2.lean … Np5.lean form the simp set `np`
  (Lemmas/NpAttr.lean).
-/
import GemVerif.Np
import GemVerif.Lemmas.NpAttr

set_option linter.unusedSectionVars false

namespace GemVerif.Np
open RealLike

-- Mathlib-free copies of `tab_apply` / `tab2_apply` of NumReal.lean.

@[simp] theorem tab_apply' {α : Type} [Inhabited α] {n : Nat} (f : Fin n → α) (i : Fin n) :
    (tab f) i = f i := by
  simp [tab, Tab.get]

@[simp] theorem tab_get' {α : Type} [Inhabited α] {n : Nat} (f : Fin n → α) (i : Fin n) :
    Tab.get (tab f) i = f i := tab_apply' f i

@[simp] theorem tab2_apply' {α : Type} [Inhabited α] {n k : Nat} (f : Fin n → Fin k → α)
    (i : Fin n) (j : Fin k) : (tab2 f) i j = f i j := by
  simp [tab2, Tab2.get]

@[simp] theorem tab2_get' {α : Type} [Inhabited α] {n k : Nat} (f : Fin n → Fin k → α)
    (i : Fin n) (j : Fin k) : Tab2.get (tab2 f) i j = f i j := tab2_apply' f i j

@[simp] theorem tab2_get_fun' {α : Type} [Inhabited α] {n k : Nat} (f : Fin n → Fin k → α) :
    Tab2.get (tab2 f) = f := by
  funext i j; exact tab2_get' f i j

/-- one row of `affine`, for rewriting under `softmaxRow` (where `affine` occurs applied to the row only) -/
theorem affine_row {α : Type} [RealLike α] {n d K : Nat} (X : Fin n → Fin d → α) (W : Fin d → Fin K → α)
    (b : Fin K → α) (i : Fin n) :
    Model.Nets.affine X W b i = fun k => (sumFin fun j => X i j * W j k) + b k := rfl

@[simp] theorem bdim_self (a : Nat) : bdim a a = a := by simp [bdim]
@[simp] theorem bdim_one_right (a : Nat) : bdim a 1 = a := by
  unfold bdim; split <;> simp_all
@[simp] theorem bdim_one_left (a : Nat) : bdim 1 a = a := by
  unfold bdim; split <;> simp_all
@[simp] theorem bok_self (a : Nat) : bok a a = true := by simp [bok]
@[simp] theorem bok_one_right (a : Nat) : bok a 1 = true := by simp [bok]
@[simp] theorem bok_one_left (a : Nat) : bok 1 a = true := by simp [bok]
theorem bidx_of_lt {n i : Nat} (h : i < n) : bidx n i = i := by
  unfold bidx; split
  · next h1 => rw [h1] at h; exact (Nat.lt_one_iff.mp h).symm
  · rfl
@[simp] theorem bidx_val {n : Nat} (i : Fin n) : bidx n i.val = i.val := bidx_of_lt i.isLt
@[simp] theorem bidx_one (i : Nat) : bidx 1 i = 0 := by simp [bidx]

@[simp] theorem sumTo_def {α : Type} [Zero α] [Add α] (n : Nat) (f : Nat → α) :
    sumTo n f = sumFin fun l : Fin n => f l.val := rfl

/-- `sumFin` adds its terms to 0 from the right; no number law removes the `+ 0` of a one-term sum. -/
theorem sumFin_one {α : Type} [Zero α] [Add α] (f : Fin 1 → α) : sumFin f = f 0 + 0 := by
  simp [sumFin, List.ofFn_succ]

namespace Arr
variable {α : Type} [RealLike α]

@[simp] theorem ofFn_r {n k : Nat} (f : Fin n → Fin k → α) : (ofFn f).r = n := rfl
@[simp] theorem ofFn_c {n k : Nat} (f : Fin n → Fin k → α) : (ofFn f).c = k := rfl
@[simp] theorem ofFn_ok {n k : Nat} (f : Fin n → Fin k → α) : (ofFn f).ok = true := rfl
@[simp] theorem ofFn_get {n k : Nat} (f : Fin n → Fin k → α) (i : Fin n) (j : Fin k) :
    (ofFn f).get i.val j.val = f i j := by
  simp [ofFn]

@[simp] theorem ofRow_r {k : Nat} (f : Fin k → α) : (ofRow f).r = 1 := rfl
@[simp] theorem ofRow_c {k : Nat} (f : Fin k → α) : (ofRow f).c = k := rfl
@[simp] theorem ofRow_ok {k : Nat} (f : Fin k → α) : (ofRow f).ok = true := rfl
@[simp] theorem ofRow_get {k : Nat} (f : Fin k → α) (i : Nat) (j : Fin k) :
    (ofRow f).get i j.val = f j := by
  simp [ofRow]

@[simp] theorem matmul_r (A B : Arr α) : (matmul A B).r = A.r := rfl
@[simp] theorem matmul_c (A B : Arr α) : (matmul A B).c = B.c := rfl
@[simp] theorem matmul_ok (A B : Arr α) : (matmul A B).ok = (A.ok && B.ok && A.c == B.r) := rfl
@[simp] theorem matmul_get (A B : Arr α) (i j : Nat) :
    (matmul A B).get i j = sumTo A.c fun l => A.get i l * B.get l j := rfl

@[simp] theorem transpose_r (A : Arr α) : (transpose A).r = A.c := rfl
@[simp] theorem transpose_c (A : Arr α) : (transpose A).c = A.r := rfl
@[simp] theorem transpose_ok (A : Arr α) : (transpose A).ok = A.ok := rfl
@[simp] theorem transpose_get (A : Arr α) (i j : Nat) : (transpose A).get i j = A.get j i := rfl

@[simp] theorem zipWith_r (f : α → α → α) (A B : Arr α) : (zipWith f A B).r = bdim A.r B.r := rfl
@[simp] theorem zipWith_c (f : α → α → α) (A B : Arr α) : (zipWith f A B).c = bdim A.c B.c := rfl
@[simp] theorem zipWith_ok (f : α → α → α) (A B : Arr α) :
    (zipWith f A B).ok = (A.ok && B.ok && bok A.r B.r && bok A.c B.c) := rfl
@[simp] theorem zipWith_get (f : α → α → α) (A B : Arr α) (i j : Nat) :
    (zipWith f A B).get i j = f (A.get (bidx A.r i) (bidx A.c j)) (B.get (bidx B.r i) (bidx B.c j)) := rfl

@[simp] theorem neg_r (A : Arr α) : (neg A).r = A.r := rfl
@[simp] theorem neg_c (A : Arr α) : (neg A).c = A.c := rfl
@[simp] theorem neg_ok (A : Arr α) : (neg A).ok = A.ok := rfl
@[simp] theorem neg_get (A : Arr α) (i j : Nat) : (neg A).get i j = -(A.get i j) := rfl

@[simp] theorem smul_r (s : α) (A : Arr α) : (smul s A).r = A.r := rfl
@[simp] theorem smul_c (s : α) (A : Arr α) : (smul s A).c = A.c := rfl
@[simp] theorem smul_ok (s : α) (A : Arr α) : (smul s A).ok = A.ok := rfl
@[simp] theorem smul_get (s : α) (A : Arr α) (i j : Nat) : (smul s A).get i j = s * A.get i j := rfl

@[simp] theorem muls_r (s : α) (A : Arr α) : (muls A s).r = A.r := rfl
@[simp] theorem muls_c (s : α) (A : Arr α) : (muls A s).c = A.c := rfl
@[simp] theorem muls_ok (s : α) (A : Arr α) : (muls A s).ok = A.ok := rfl
@[simp] theorem muls_get (s : α) (A : Arr α) (i j : Nat) : (muls A s).get i j = A.get i j * s := rfl

@[simp] theorem sumAxis0_r (A : Arr α) : (sumAxis0 A).r = 1 := rfl
@[simp] theorem sumAxis0_c (A : Arr α) : (sumAxis0 A).c = A.c := rfl
@[simp] theorem sumAxis0_ok (A : Arr α) : (sumAxis0 A).ok = A.ok := rfl
@[simp] theorem sumAxis0_get (A : Arr α) (i j : Nat) :
    (sumAxis0 A).get i j = sumTo A.r fun l => A.get l j := rfl

@[simp] theorem sumAxis1_r (A : Arr α) : (sumAxis1 A).r = A.r := rfl
@[simp] theorem sumAxis1_c (A : Arr α) : (sumAxis1 A).c = 1 := rfl
@[simp] theorem sumAxis1_ok (A : Arr α) : (sumAxis1 A).ok = A.ok := rfl
@[simp] theorem sumAxis1_get (A : Arr α) (i j : Nat) :
    (sumAxis1 A).get i j = sumTo A.c fun l => A.get i l := rfl

@[simp] theorem gt0_r (A : Arr α) : (gt0 A).r = A.r := rfl
@[simp] theorem gt0_c (A : Arr α) : (gt0 A).c = A.c := rfl
@[simp] theorem gt0_ok (A : Arr α) : (gt0 A).ok = A.ok := rfl
@[simp] theorem gt0_get (A : Arr α) (i j : Nat) : (gt0 A).get i j = ofBool (lt 0 (A.get i j)) := rfl

@[simp] theorem maximum0_r (A : Arr α) : (maximum0 A).r = A.r := rfl
@[simp] theorem maximum0_c (A : Arr α) : (maximum0 A).c = A.c := rfl
@[simp] theorem maximum0_ok (A : Arr α) : (maximum0 A).ok = A.ok := rfl
@[simp] theorem maximum0_get (A : Arr α) (i j : Nat) : (maximum0 A).get i j = max (A.get i j) 0 := rfl

@[simp] theorem softmax_r (A : Arr α) : (softmax A).r = A.r := rfl
@[simp] theorem softmax_c (A : Arr α) : (softmax A).c = A.c := rfl
@[simp] theorem softmax_ok (A : Arr α) : (softmax A).ok = A.ok := rfl
@[simp] theorem softmax_get (A : Arr α) (i j : Nat) :
    (softmax A).get i j = softmaxRowN A.c (fun k => A.get i k) j := rfl

@[simp] theorem softmaxRowN_val {K : Nat} (z : Nat → α) (j : Fin K) :
    softmaxRowN K z j.val = Model.Nets.softmaxRow (fun k : Fin K => z k.val) j := by
  simp [softmaxRowN]

@[simp] theorem nth_cons_zero (A : Arr α) (L : List (Arr α)) : nth (A :: L) 0 = A := rfl
@[simp] theorem nth_cons_succ (A : Arr α) (L : List (Arr α)) (i : Nat) : nth (A :: L) (i + 1) = nth L i := rfl
@[simp] theorem setNth_cons_zero (A B : Arr α) (L : List (Arr α)) : setNth (A :: L) 0 B = B :: L := by
  simp [setNth]

@[simp] theorem listEqv_nil : ListEqv ([] : List (Arr α)) [] = True := rfl
@[simp] theorem listEqv_cons (A B : Arr α) (L M : List (Arr α)) :
    ListEqv (A :: L) (B :: M) = (Eqv A B ∧ ListEqv L M) := rfl

theorem Eqv.ok_left {A B : Arr α} (h : Eqv A B) : A.ok = true := h.1

theorem eqv_ofFn {n k : Nat} {A : Arr α} {f : Fin n → Fin k → α} (hok : A.ok = true) (hr : A.r = n) (hc : A.c = k)
    (h : ∀ (i : Fin n) (j : Fin k), A.get i.val j.val = f i j) : Eqv A (ofFn f) := by
  subst hr hc
  refine ⟨hok, rfl, rfl, rfl, fun i j hi hj => ?_⟩
  have := h ⟨i, hi⟩ ⟨j, hj⟩
  simp only [ofFn, hi, hj, dite_true]
  exact this

theorem eqv_ofRow {k : Nat} {A : Arr α} {f : Fin k → α} (hok : A.ok = true) (hr : A.r = 1) (hc : A.c = k)
    (h : ∀ j : Fin k, A.get 0 j.val = f j) : Eqv A (ofRow f) := by
  subst hc
  refine ⟨hok, rfl, hr, rfl, fun i j hi hj => ?_⟩
  have := h ⟨j, hj⟩
  obtain rfl : i = 0 := Nat.lt_one_iff.mp (hr ▸ hi)
  simp only [ofRow, hj, dite_true]
  exact this

/-- `Eqv` reads entries only inside the shape. -/
theorem eqv_ofFn_iff {n k : Nat} {A : Arr α} {f : Fin n → Fin k → α} :
    Eqv A (ofFn f) ↔ A.ok = true ∧ A.r = n ∧ A.c = k ∧ ∀ (i : Fin n) (j : Fin k), A.get i.val j.val = f i j := by
  constructor
  · rintro ⟨hok, -, hr, hc, h⟩
    refine ⟨hok, hr, hc, fun i j => ?_⟩
    have := h i.val j.val (by rw [hr]; exact i.isLt) (by rw [hc]; exact j.isLt)
    rw [this]; exact ofFn_get f i j
  · rintro ⟨hok, hr, hc, h⟩
    exact eqv_ofFn hok hr hc h

end Arr

attribute [np] Arr.add Arr.sub Arr.mul Arr.div Bool.and_self Bool.and_true Bool.true_and Bool.and_false Bool.false_and
  Bool.false_eq_true beq_self_eq_true decide_true and_self and_true true_and implies_true if_true if_false eq_self
  Nat.mul_one Nat.one_mul Nat.min_self List.length_map
attribute [np] tab_apply' tab_get' tab2_apply' tab2_get' tab2_get_fun' bdim_self bdim_one_right bdim_one_left bok_self
  bok_one_right bok_one_left bidx_val bidx_one sumTo_def Arr.ofFn_r Arr.ofFn_c Arr.ofFn_ok Arr.ofFn_get Arr.ofRow_r
  Arr.ofRow_c Arr.ofRow_ok Arr.ofRow_get Arr.matmul_r Arr.matmul_c Arr.matmul_ok Arr.matmul_get Arr.transpose_r
  Arr.transpose_c Arr.transpose_ok Arr.transpose_get Arr.zipWith_r Arr.zipWith_c Arr.zipWith_ok Arr.zipWith_get
  Arr.neg_r Arr.neg_c Arr.neg_ok Arr.neg_get Arr.smul_r Arr.smul_c Arr.smul_ok Arr.smul_get Arr.muls_r Arr.muls_c
  Arr.muls_ok Arr.muls_get Arr.sumAxis0_r Arr.sumAxis0_c Arr.sumAxis0_ok Arr.sumAxis0_get Arr.sumAxis1_r
  Arr.sumAxis1_c Arr.sumAxis1_ok Arr.sumAxis1_get Arr.gt0_r Arr.gt0_c Arr.gt0_ok Arr.gt0_get Arr.maximum0_r
  Arr.maximum0_c Arr.maximum0_ok Arr.maximum0_get Arr.softmax_r Arr.softmax_c Arr.softmax_ok Arr.softmax_get
  Arr.softmaxRowN_val Arr.nth_cons_zero Arr.nth_cons_succ Arr.setNth_cons_zero Arr.listEqv_nil Arr.listEqv_cons

end GemVerif.Np
