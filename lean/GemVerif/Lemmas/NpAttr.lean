import Lean.Meta.Tactic.Simp.RegisterCommand

/-- The reading rules of the NumPy DSL (shape, error flag and entries of every operation of Np.lean … Np5.lean), the
    broadcasting arithmetic and the few propositional and Boolean identities that combine them.  The `…Gen` proofs call
    `simp only [np, …]`: over the default simp set every `/`, `*`, `-` of a large generated term is matched against
    Mathlib's field lemmas, which is what such a call would spend most of its time on. -/
register_simp_attr np
