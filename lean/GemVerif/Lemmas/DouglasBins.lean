/-
  At every temperature the bin with the largest membership is the cell of `x` (the number of cut points below it): the
  logits climb up to the cell and fall after it (`peak_gap`), so every other bin holds at most `exp(−gap / T)`; hence the
  limit `T → 0⁺`.
-/
import GemVerif.Lemmas.Douglas

namespace GemVerif.Douglas
open scoped Topology
open Model.Douglas Filter

/-- number of cut points strictly below `x`: the cell of `x` along the feature -/
noncomputable def cell (x : ℝ) (cuts : List ℝ) : ℕ := cuts.countP fun c => decide (c < x)

theorem cell_le_length (x : ℝ) (cuts : List ℝ) : cell x cuts ≤ cuts.length := List.countP_le_length

theorem cell_sortedCuts (x : ℝ) (cuts : List ℝ) : cell x (sortedCuts cuts) = cell x cuts :=
  (sortedCuts_perm cuts).countP_eq _

theorem le_of_chain {u : ℕ → ℝ} {a b : ℕ} (hab : a ≤ b) (h : ∀ k, a ≤ k → k < b → u k ≤ u (k + 1)) : u a ≤ u b := by
  induction b, hab using Nat.le_induction with
  | base => exact le_rfl
  | succ b hb ih => exact (ih fun k hk hkb => h k hk (Nat.lt_succ_of_lt hkb)).trans (h b hb (Nat.lt_succ_self b))

theorem peak_gap {f : ℕ → ℝ} {g : ℝ} (hg0 : 0 ≤ g) {c n : ℕ} (hup : ∀ j < c, f j + g ≤ f (j + 1))
    (hdown : ∀ j, c ≤ j → j < n → f (j + 1) + g ≤ f j) {j : ℕ} (hj : j ≤ n) (hne : j ≠ c) : f j + g ≤ f c := by
  rcases lt_or_gt_of_ne hne with h | h
  · exact (hup j h).trans (le_of_chain (u := f) h fun k _ hkc => (le_add_of_nonneg_right hg0).trans (hup k hkc))
  · have := le_of_chain (u := fun k => -f k) h fun k hk hkj =>
      neg_le_neg ((le_add_of_nonneg_right hg0).trans (hdown k (Nat.le_of_succ_le hk) (hkj.trans_le hj)))
    exact (add_le_add_left (neg_le_neg_iff.mp this) g).trans (hdown c le_rfl (h.trans_le hj))

/-- below the cell the cut points are `< x`, from the cell on they are `≥ x` (`sorted_split`), and consecutive logits
    differ by `x − s_j` (`lg_succ_sub`) -/
theorem lg_gap {x g : ℝ} {s : List ℝ} (hs : s.Pairwise (· ≤ ·)) (hg : ∀ c ∈ s, g ≤ |x - c|) (hg0 : 0 ≤ g) {j : ℕ}
    (hj : j ≤ s.length) (hne : j ≠ cell x s) : lg x s j + g ≤ lg x s (cell x s) := by
  refine peak_gap hg0 (fun k hk => ?_) (fun k hck hk => ?_) hj hne
  · have hk' : k < s.length := lt_of_lt_of_le hk (cell_le_length x s)
    have hgap := hg _ (List.getElem_mem hk')
    rw [abs_of_pos (sub_pos.mpr ((sorted_split x s hs k hk').1 hk)), ← lg_succ_sub x s k hk'] at hgap
    exact le_sub_iff_add_le'.mp hgap
  · have hgap := hg _ (List.getElem_mem hk)
    rw [abs_of_nonpos (sub_nonpos.mpr ((sorted_split x s hs k hk).2 hck)), ← lg_succ_sub x s k hk, neg_sub] at hgap
    exact le_sub_iff_add_le'.mp hgap

theorem exists_gap (x : ℝ) : ∀ cuts : List ℝ, (∀ c ∈ cuts, x ≠ c) → ∃ g : ℝ, 0 < g ∧ ∀ c ∈ cuts, g ≤ |x - c|
  | [], _ => ⟨1, one_pos, by simp⟩
  | a :: t, h => by
    obtain ⟨g, hg0, hg⟩ := exists_gap x t fun c hc => h c (List.mem_cons_of_mem _ hc)
    have ha : 0 < |x - a| := abs_pos.mpr (sub_ne_zero.mpr (h a (List.mem_cons_self)))
    refine ⟨min g |x - a|, lt_min hg0 ha, fun c hc => ?_⟩
    rcases List.mem_cons.mp hc with rfl | hc
    · exact min_le_right _ _
    · exact le_trans (min_le_left _ _) (hg c hc)

noncomputable def memb (T x : ℝ) (cuts : List ℝ) (j : ℕ) : ℝ := (binning T x cuts).getD j 0

theorem memb_eq (T x : ℝ) (cuts : List ℝ) {j : ℕ} (hj : j ≤ cuts.length) :
    memb T x cuts j = Real.exp (lg x (sortedCuts cuts) j / T) / Z T x (sortedCuts cuts) :=
  binning_getD T x cuts j hj

theorem lg_gap_cuts {x g : ℝ} {cuts : List ℝ} (hg : ∀ c ∈ cuts, g ≤ |x - c|) (hg0 : 0 ≤ g) {j : ℕ}
    (hj : j ≤ cuts.length) (hne : j ≠ cell x cuts) :
    lg x (sortedCuts cuts) j + g ≤ lg x (sortedCuts cuts) (cell x cuts) := by
  have := lg_gap (sortedCuts_sorted cuts) (fun c hc => hg c ((sortedCuts_perm cuts).mem_iff.mp hc)) hg0 (j := j)
    (by rw [sortedCuts_length]; exact hj) (by rw [cell_sortedCuts]; exact hne)
  rwa [cell_sortedCuts] at this

theorem memb_pos (T x : ℝ) (cuts : List ℝ) {j : ℕ} (hj : j ≤ cuts.length) : 0 < memb T x cuts j := by
  rw [memb_eq T x cuts hj]; exact div_pos (Real.exp_pos _) (Z_pos _ _ _)

theorem memb_le_one (T x : ℝ) (cuts : List ℝ) (j : ℕ) : memb T x cuts j ≤ 1 :=
  (binning_isProb T x cuts).getD_le_one j

theorem memb_other_le {T x g : ℝ} (hT : 0 < T) {cuts : List ℝ} (hg : ∀ c ∈ cuts, g ≤ |x - c|) (hg0 : 0 ≤ g)
    {j : ℕ} (hj : j ≤ cuts.length) (hne : j ≠ cell x cuts) : memb T x cuts j ≤ Real.exp (-g / T) := by
  rw [memb_eq T x cuts hj, div_le_iff₀ (Z_pos _ _ _)]
  have hk : cell x cuts ∈ Finset.range ((sortedCuts cuts).length + 1) := by
    rw [Finset.mem_range, sortedCuts_length]; have := cell_le_length x cuts; omega
  have hZ : Real.exp (lg x (sortedCuts cuts) (cell x cuts) / T) ≤ Z T x (sortedCuts cuts) :=
    Finset.single_le_sum (f := fun i => Real.exp (lg x (sortedCuts cuts) i / T))
      (fun i _ => (Real.exp_pos _).le) hk
  have hle := lg_gap_cuts hg hg0 hj hne
  calc Real.exp (lg x (sortedCuts cuts) j / T)
      ≤ Real.exp (-g / T) * Real.exp (lg x (sortedCuts cuts) (cell x cuts) / T) := by
        rw [← Real.exp_add, ← add_div]
        exact Real.exp_le_exp.mpr (div_le_div_of_nonneg_right (by linear_combination hle) hT.le)
    _ ≤ Real.exp (-g / T) * Z T x (sortedCuts cuts) := mul_le_mul_of_nonneg_left hZ (Real.exp_pos _).le

theorem memb_sum (T x : ℝ) (cuts : List ℝ) : ∑ j ∈ Finset.range (cuts.length + 1), memb T x cuts j = 1 := by
  rw [← binning_length T x cuts]
  exact (sum_eq_sum_range _).symm.trans (binning_isProb T x cuts).sum_eq

/-- the memberships sum to one and each of the `n_cuts` other bins holds at most `exp(−gap / T)` -/
theorem memb_cell_ge {T x g : ℝ} (hT : 0 < T) {cuts : List ℝ} (hg : ∀ c ∈ cuts, g ≤ |x - c|) (hg0 : 0 ≤ g) :
    1 - cuts.length * Real.exp (-g / T) ≤ memb T x cuts (cell x cuts) := by
  have hk : cell x cuts ∈ Finset.range (cuts.length + 1) :=
    Finset.mem_range.mpr (Nat.lt_succ_of_le (cell_le_length x cuts))
  have hsum := memb_sum T x cuts
  rw [← Finset.add_sum_erase _ _ hk] at hsum
  have hle := Finset.sum_le_sum fun j (hj : j ∈ (Finset.range (cuts.length + 1)).erase (cell x cuts)) =>
    memb_other_le hT hg hg0 (Nat.lt_succ_iff.mp (Finset.mem_range.mp (Finset.mem_erase.mp hj).2))
      (Finset.mem_erase.mp hj).1
  rw [Finset.sum_const, Finset.card_erase_of_mem hk, Finset.card_range, Nat.add_sub_cancel, nsmul_eq_mul] at hle
  linear_combination hle - hsum

theorem tendsto_exp_neg_div {g : ℝ} (hg : 0 < g) :
    Tendsto (fun T : ℝ => Real.exp (-g / T)) (𝓝[>] 0) (𝓝 0) := by
  have h1 : Tendsto (fun T : ℝ => T⁻¹) (𝓝[>] 0) atTop := tendsto_inv_nhdsGT_zero
  have h2 : Tendsto (fun T : ℝ => -g * T⁻¹) (𝓝[>] 0) atBot :=
    (tendsto_const_mul_atBot_of_neg (neg_neg_of_pos hg)).mpr h1
  have h3 := Real.tendsto_exp_atBot.comp h2
  refine h3.congr fun T => ?_
  simp [div_eq_mul_inv]

theorem tendsto_one_of_exp_bound {f : ℝ → ℝ} {g N : ℝ} (hg : 0 < g)
    (hlow : ∀ T, 0 < T → 1 - N * Real.exp (-g / T) ≤ f T) (hup : ∀ T, f T ≤ 1) : Tendsto f (𝓝[>] 0) (𝓝 1) := by
  have h := ((tendsto_exp_neg_div hg).const_mul N).const_sub 1
  rw [mul_zero, sub_zero] at h
  refine tendsto_of_tendsto_of_tendsto_of_le_of_le' h tendsto_const_nhds ?_ (Eventually.of_forall hup)
  filter_upwards [self_mem_nhdsWithin] with T hT using hlow T hT

end GemVerif.Douglas
