/-
  C10: the `while j < len(X)` loop `batchLoop` through its two equations (batches concatenate to the rest of the
  permutation, the `k`-th batch, their number); fancy indexing by contiguous indices is slicing, so the decorated
  generator of `mlcl` and the validation loop of `compute_val_score` are `batchLoop` again.
-/
import GemVerif.Model.Batch
import GemVerif.Lemmas.Fold
import Mathlib.Order.Nat

namespace GemVerif.BatchLemmas
open GemVerif.Model.Batch

theorem batchLoop_of_lt {all : List Nat} {bs : Nat} (hbs : 0 < bs) {j : Nat} (h : j < all.length) :
    batchLoop all bs hbs j = (all.drop j).take bs :: batchLoop all bs hbs (j + bs) := by
  rw [batchLoop, if_pos h]

theorem batchLoop_of_ge {all : List Nat} {bs : Nat} (hbs : 0 < bs) {j : Nat} (h : all.length ≤ j) :
    batchLoop all bs hbs j = [] := by
  rw [batchLoop, if_neg (Nat.not_lt.2 h)]

theorem batchLoop_flatten (all : List Nat) (bs : Nat) (hbs : 0 < bs) (j : Nat) :
    (batchLoop all bs hbs j).flatten = all.drop j := by
  fun_induction batchLoop all bs hbs j with
  | case1 j hj ih =>
    rw [List.flatten_cons, ih, ← List.drop_drop, List.take_append_drop]
  | case2 j hj =>
    simp only [List.flatten_nil]
    exact (List.drop_eq_nil_of_le (by omega)).symm

theorem batchLoop_len (all : List Nat) (bs : Nat) (hbs : 0 < bs) (j : Nat) :
    ∀ b ∈ batchLoop all bs hbs j, b.length ≤ bs ∧ 0 < b.length := by
  fun_induction batchLoop all bs hbs j with
  | case1 j hj ih =>
    intro b hb
    rcases List.mem_cons.1 hb with rfl | hb
    · simp only [List.length_take, List.length_drop]; omega
    · exact ih b hb
  | case2 j hj => intro b hb; cases hb

theorem batchify_some (perm : List Nat) {bs : Nat} (hbs : 0 < bs) :
    batchify perm (some bs) = batchLoop perm bs hbs 0 := dif_pos hbs

theorem valBlocks_eq (n : Nat) {bs : Nat} (hbs : 0 < bs) :
    valBlocks n bs = batchLoop (List.range n) bs hbs 0 := dif_pos hbs

theorem valBatches_eq {β α : Type} (X : List β) (y : Mat α) {bs : Nat} (hbs : 0 < bs) :
    valBatches X y bs = valLoop X y bs hbs 0 := dif_pos hbs

theorem lt_ceilDiv_iff (n bs k : Nat) (hbs : 0 < bs) : k < (n + bs - 1) / bs ↔ k * bs < n := by
  rw [Nat.lt_div_iff_mul_lt hbs]
  generalize k * bs = m
  omega

theorem batchLoop_getElem? (all : List Nat) (bs : Nat) (hbs : 0 < bs) (k j : Nat) :
    (batchLoop all bs hbs j)[k]? =
      if j + k * bs < all.length then some ((all.drop (j + k * bs)).take bs) else none := by
  induction k generalizing j with
  | zero =>
    rw [Nat.zero_mul, Nat.add_zero]
    rcases Nat.lt_or_ge j all.length with h | h
    · rw [batchLoop_of_lt hbs h, if_pos h, List.getElem?_cons_zero]
    · rw [batchLoop_of_ge hbs h, if_neg (Nat.not_lt.2 h), List.getElem?_nil]
  | succ k ih =>
    have e : j + (k + 1) * bs = j + bs + k * bs := by rw [Nat.succ_mul]; omega
    rcases Nat.lt_or_ge j all.length with h | h
    · rw [batchLoop_of_lt hbs h, List.getElem?_cons_succ, ih, e]
    · rw [batchLoop_of_ge hbs h, List.getElem?_nil, if_neg (by omega)]

theorem batchLoop_length (all : List Nat) (bs : Nat) (hbs : 0 < bs) (j : Nat) :
    (batchLoop all bs hbs j).length = (all.length - j + bs - 1) / bs := by
  -- both sides exceed `k` exactly when `j + k·bs < n`: the left one because then there is a `k`-th batch
  refine eq_of_forall_lt_iff fun k => ?_
  have h := isSome_getElem? (batchLoop all bs hbs j) k
  rw [batchLoop_getElem?] at h
  rw [lt_ceilDiv_iff _ _ _ hbs, ← h]
  split <;> simp <;> omega

section gather
variable {β : Type} [Inhabited β]

theorem gather_length (X : List β) (idx : List Nat) : (gather X idx).length = idx.length := by
  simp [gather]

theorem gather_getElem! (X : List β) (idx : List Nat) (a : Nat) (ha : a < idx.length) :
    (gather X idx)[a]! = X[idx[a]!]! := by
  simp [gather, ha]

theorem gather_range (n : Nat) (idx : List Nat) (h : ∀ i ∈ idx, i < n) : gather (List.range n) idx = idx := by
  unfold gather
  conv_rhs => rw [← List.map_id idx]
  apply List.map_congr_left
  intro i hi
  simp [h i hi]

theorem gather_range' (X : List β) (j m : Nat) (h : m ≤ X.length - j) :
    gather X (List.range' j m) = (X.drop j).take m := by
  by_cases hj : j ≤ X.length
  · exact (map_range'_eq X _ id j m (by omega) fun i hi => getElem!_pos X i hi).trans (List.map_id _)
  · rw [Nat.le_zero.mp (by omega : m ≤ 0)]; rfl

theorem gather_range_self (X : List β) : gather X (List.range X.length) = X := by
  rw [List.range_eq_range', gather_range' X 0 X.length (Nat.le_refl _), List.drop_zero, List.take_length]

end gather

theorem range_drop_take (n j bs : Nat) : ((List.range n).drop j).take bs = List.range' j (min bs (n - j)) := by
  rw [List.range_eq_range', List.drop_range', Nat.zero_add, Nat.mul_one]
  rcases Nat.le_total bs (n - j) with h | h
  · rw [List.take_range'_of_length_ge h, Nat.min_eq_left h]
  · rw [List.take_range'_of_length_le h, Nat.min_eq_right h]

theorem gather_slice {β : Type} [Inhabited β] (X : List β) (n j bs : Nat) (hn : X.length = n) :
    gather X (((List.range n).drop j).take bs) = slice X j bs := by
  subst hn
  rw [range_drop_take, gather_range' X j _ (Nat.min_le_right _ _), slice, ← List.length_drop, ← List.take_eq_take_min]

section block
variable {α : Type} [Inhabited α]

theorem gatherCols_getElem! (M : Mat α) (idx : List Nat) (a : Nat) (ha : a < M.length) :
    (gatherCols M idx)[a]! = gather M[a]! idx := by
  simp [gatherCols, ha]

theorem length_of_mem_gatherCols {M : Mat α} {idx : List Nat} {r : List α} (h : r ∈ gatherCols M idx) :
    r.length = idx.length := by
  obtain ⟨row, _, rfl⟩ := List.mem_map.1 h
  exact gather_length row idx

theorem block_length (A : Mat α) (idx : List Nat) : (block A idx).length = idx.length := by
  rw [block, gatherCols, List.length_map, gather_length]

theorem block_getElem! (A : Mat α) (idx : List Nat) (a : Nat) (ha : a < idx.length) :
    (block A idx)[a]! = gather A[idx[a]!]! idx := by
  rw [block, gatherCols_getElem! _ _ _ (by rwa [gather_length]), gather_getElem! _ _ _ ha]

theorem block_slice (y : Mat α) (n j bs : Nat) (hn : y.length = n) (hrow : ∀ r ∈ y, r.length = n) :
    block y (((List.range n).drop j).take bs) = sliceBlock y j bs := by
  unfold block gatherCols sliceBlock
  rw [gather_slice y n j bs hn]
  apply List.map_congr_left
  intro r hr
  have hr' : r ∈ y := List.mem_of_mem_drop (List.mem_of_mem_take hr)
  exact gather_slice r n j bs (hrow r hr')

end block

theorem fitStepCount_of_const (maxIter : Nat) (perms : Nat → List Nat) (bs : Option Nat) (c : Nat)
    (h : ∀ i, i < maxIter → (batchify (perms i) bs).length = c) : fitStepCount maxIter perms bs = maxIter * c := by
  unfold fitStepCount fitSteps
  rw [List.length_flatMap, List.map_congr_left fun i hi => h i (List.mem_range.1 hi), List.map_const',
    List.sum_replicate_nat, List.length_range]

theorem paramsValid_iff {maxIter : Int} {bs : Option Int} :
    paramsValid maxIter bs = true ↔ 1 ≤ maxIter ∧ ∀ b, bs = some b → 1 ≤ b := by
  cases bs <;> simp [paramsValid]

theorem fitRun_of_valid {maxIter : Int} {bs : Option Int} (hv : paramsValid maxIter bs = true) (cat : Bool) (n : Nat)
    (perms : Nat → List Nat) :
    fitRun cat n maxIter bs perms =
      let epochs := (List.range maxIter.toNat).map fun i =>
        if cat then [List.range n] else batchify (perms i) (bs.map Int.toNat)
      .ok { epochs := epochs, steps := epochs.flatten.length, nIter := maxIter.toNat } := by
  rw [fitRun, hv]
  rfl

theorem fitRun_of_invalid {maxIter : Int} {bs : Option Int} (hv : paramsValid maxIter bs = false) (cat : Bool) (n : Nat)
    (perms : Nat → List Nat) : fitRun cat n maxIter bs perms = .error "InvalidParameterError" := by
  rw [fitRun, hv]
  rfl

/-- a batch exists only for a positive effective batch size (`None ↦ len(X)`), and then it is one of the loop's -/
theorem mem_batchify {perm : List Nat} {bs : Option Nat} {idx : List Nat} (h : idx ∈ batchify perm bs) :
    ∃ hb : 0 < bs.getD perm.length, idx ∈ batchLoop perm (bs.getD perm.length) hb 0 := by
  unfold batchify at h
  split at h <;> split at h
  · exact ⟨_, h⟩
  · cases h
  · exact ⟨_, h⟩
  · cases h

theorem subset_of_mem_batchify {perm : List Nat} {bs : Option Nat} {idx : List Nat} (h : idx ∈ batchify perm bs) :
    idx ⊆ perm := fun i hi => by
  obtain ⟨hb, h⟩ := mem_batchify h
  have := List.mem_flatten.2 ⟨idx, h, hi⟩
  rwa [batchLoop_flatten, List.drop_zero] at this

theorem batchifyDecorated_eq {β α : Type} [Inhabited β] [Inhabited α] (X : List β) (A : Option (Mat α))
    (perm : List Nat) (bs : Option Nat) (hperm : ∀ i ∈ perm, i < X.length) :
    batchifyDecorated X A perm bs
      = (batchify perm bs).map fun idx => ⟨(mkBatch X A idx).data, (mkBatch X A idx).aff, idx⟩ := by
  simp only [batchifyDecorated, decorate, batchifyData, List.map_map]
  refine List.map_congr_left fun idx hidx => ?_
  simp only [Function.comp, mkBatch, gather_range X.length idx fun i hi => hperm i (subset_of_mem_batchify hidx hi)]

theorem valLoop_eq {β α : Type} [Inhabited β] [Inhabited α] (X : List β) (y : Mat α) (bs : Nat) (hbs : 0 < bs)
    (hy : y.length = X.length) (hrow : ∀ r ∈ y, r.length = X.length) (j : Nat) :
    valLoop X y bs hbs j = (batchLoop (List.range X.length) bs hbs j).map (mkBatch X (some y)) := by
  fun_induction valLoop X y bs hbs j with
  | case1 j hj ih =>
    rw [batchLoop_of_lt hbs (by rwa [List.length_range]), List.map_cons, ih]
    congr 1
    simp only [mkBatch]
    rw [gather_slice X X.length j bs rfl, block_slice y X.length j bs hy hrow]
  | case2 j hj =>
    rw [batchLoop_of_ge hbs (by rw [List.length_range]; omega)]
    rfl

end GemVerif.BatchLemmas
