/-
  For C17: what the code's own guards give over ℝ — the window of `np.clip(·, ε, 1-ε)` and the loop guards of
  `compute_all_splits`.  Mathlib totalises `x/0 = 0`, `log 0 = 0`, `√(-1) = 0`; C17 says that none of these totalised
  values is ever used.
-/
import GemVerif.Lemmas.Gemini

namespace GemVerif.Defined
open Model

variable {n K : ℕ}

theorem window (hn : 0 < n) {ε : ℝ} (h1 : ε ≤ 1 / 2) (P : Fin n → Fin K → ℝ) (i : Fin n) (k : Fin K) :
    (ε ≤ clipP ε P i k ∧ clipP ε P i k ≤ 1 - ε) ∧ (ε ≤ mean0 (clipP ε P) k ∧ mean0 (clipP ε P) k ≤ 1 - ε) :=
  ⟨clipP_mem h1 P i k, mean0_mem hn (clipP_mem h1 P) k⟩

theorem natn_pos (hn : 0 < n) : (0 : ℝ) < RealLike.nat n := by
  simp only [RealLike.nat_real]; exact_mod_cast hn

/-- the guards of `compute_all_splits`, as real numbers: a leaf of `n_leaf ≥ 2` samples inside a cluster of `cs_k`
    samples is cut after `split ∈ [1, n_leaf)` sorted samples; the other cluster holds `cs_p ≥ 1` samples -/
structure SplitGuards (n_leaf split cs_k cs_p : ℝ) : Prop where
  leaf : 2 ≤ n_leaf
  split_lo : 1 ≤ split
  split_hi : split + 1 ≤ n_leaf
  inside : n_leaf ≤ cs_k
  other : 1 ≤ cs_p

end GemVerif.Defined
