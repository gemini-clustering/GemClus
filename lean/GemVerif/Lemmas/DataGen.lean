/-
  C20: the assembly model of `Model/DataGen.lean` read at ℝ.  The exact constants denote the real numbers they name;
  every guard list is a `List.findSome?` (first failure wins), so it passes iff each guard passes; what each guard
  token tests; entries of the selected, Student-t and affine rows.
-/
import GemVerif.NumReal
import GemVerif.Model.DataGen
import GemVerif.Lemmas.Fold

namespace GemVerif.DataGenLemmas
open GemVerif GemVerif.Model.DataGen

theorem ofInt_real (z : ℤ) : (ofInt z : ℝ) = (z : ℝ) := by
  unfold ofInt
  split
  · rename_i h
    show -((z.natAbs : ℕ) : ℝ) = z
    rw [Nat.cast_natAbs, abs_of_neg (by exact_mod_cast h)]; simp
  · rename_i h
    show ((z.natAbs : ℕ) : ℝ) = z
    rw [Nat.cast_natAbs, abs_of_nonneg (by exact_mod_cast (not_lt.1 h))]

theorem ofQ_real (q : Gen.DataGen.Q) : (ofQ q : ℝ) = (q.1 : ℝ) / (q.2 : ℝ) := by
  unfold ofQ
  rw [ofInt_real]

theorem ofQ3_real (q : Gen.DataGen.Q3) :
    (ofQ3 q : ℝ) = (q.1.1 : ℝ) / (q.1.2 : ℝ) + (q.2.1 : ℝ) / (q.2.2 : ℝ) * Real.sqrt 3 := by
  unfold ofQ3
  rw [ofQ_real, ofQ_real]
  simp [RealLike.nat]

theorem sumTo_real (n : ℕ) (f : ℕ → ℝ) : sumTo n f = ∑ k ∈ Finset.range n, f k := by
  unfold sumTo
  induction n with
  | zero => simp
  | succ n ih =>
    rw [List.range_succ, List.foldl_append, ih, Finset.sum_range_succ]
    simp

theorem checkCommon_eq_findSome? {α : Type} [RealLike α] (p : GmmIn α) (gs : List String) :
    checkCommon p gs = gs.findSome? fun g => commonGuard g p := by
  induction gs with
  | nil => rfl
  | cons g gs ih =>
    rw [checkCommon, List.findSome?_cons, ih]
    cases commonGuard g p <;> rfl

theorem checkComp_eq_findSome? {α : Type} [RealLike α] (p : GmmIn α) (k : ℕ) (gs : List String) :
    checkComp p k gs = gs.findSome? fun g => compGuard g p k := by
  induction gs with
  | nil => rfl
  | cons g gs ih =>
    rw [checkComp, List.findSome?_cons, ih]
    cases compGuard g p k <;> rfl

theorem checkComps_eq_findSome? {α : Type} [RealLike α] (p : GmmIn α) (gs : List String) (ks : List ℕ) :
    checkComps p gs ks = ks.findSome? fun k => checkComp p k gs := by
  induction ks with
  | nil => rfl
  | cons k ks ih =>
    rw [checkComps, List.findSome?_cons, ih]
    cases checkComp p k gs <;> rfl

theorem checkCommon_none_iff (p : GmmIn ℝ) (gs : List String) :
    checkCommon p gs = none ↔ ∀ g ∈ gs, commonGuard g p = none := by
  rw [checkCommon_eq_findSome?, List.findSome?_eq_none_iff]

theorem checkComps_none_iff (p : GmmIn ℝ) (gs : List String) (ks : List ℕ) :
    checkComps p gs ks = none ↔ ∀ k ∈ ks, ∀ g ∈ gs, compGuard g p k = none := by
  simp only [checkComps_eq_findSome?, checkComp_eq_findSome?, List.findSome?_eq_none_iff]

theorem gmmAccept_none_iff (p : GmmIn ℝ) :
    gmmAccept p = none ↔
      (∀ g ∈ Gen.DataGen.gmmGuardsCommon, commonGuard g p = none) ∧
      ∀ k < p.K, ∀ g ∈ (if p.d = 1 then Gen.DataGen.gmmGuards1d else Gen.DataGen.gmmGuardsNd),
        compGuard g p k = none := by
  unfold gmmAccept
  rw [← checkCommon_none_iff]
  cases checkCommon p Gen.DataGen.gmmGuardsCommon with
  | some e => simp
  | none =>
    by_cases hd : p.d = 1 <;>
      simp only [hd, if_true, if_false, true_and, checkComps_none_iff, List.mem_range]

theorem commonGuard_lenScale (p : GmmIn ℝ) :
    commonGuard "lenScale" p = none ↔ p.scaleShape[0]? = some p.K := by
  simp only [commonGuard, ↓reduceIte]
  cases p.scaleShape[0]? <;> simp [eq_comm]

theorem commonGuard_square (p : GmmIn ℝ) :
    commonGuard "square" p = none ↔ (p.d ≠ 1 → p.scaleShape[1]? = some p.d ∧ p.scaleShape[2]? = some p.d) := by
  simp only [commonGuard, String.reduceEq, ↓reduceIte]
  by_cases hd : p.d = 1
  · simp [hd]
  · cases p.scaleShape[1]? <;> cases p.scaleShape[2]? <;> simp [hd, eq_comm]

theorem commonGuard_lenPvals (p : GmmIn ℝ) : commonGuard "lenPvals" p = none ↔ p.pvalsLen = p.K := by
  simp only [commonGuard, String.reduceEq, ↓reduceIte]
  simp [eq_comm]

theorem commonGuard_pvalsPos (p : GmmIn ℝ) :
    commonGuard "pvalsPos" p = none ↔ ∀ k < p.pvalsLen, 0 < p.pvals k := by
  simp only [commonGuard, String.reduceEq, ↓reduceIte, ite_eq_right_iff, reduceCtorEq, imp_false, List.any_eq_true,
    List.mem_range, RealLike.le_real, decide_eq_true_eq, not_exists, not_and, not_le]

theorem commonGuard_pvalsSum (p : GmmIn ℝ) :
    commonGuard "pvalsSum" p = none ↔ ∑ k ∈ Finset.range p.pvalsLen, p.pvals k = 1 := by
  simp only [commonGuard, String.reduceEq, ↓reduceIte, sumTo_real]
  simp

theorem compGuard_varPos (p : GmmIn ℝ) (k : ℕ) : compGuard "varPos" p k = none ↔ 0 < p.var1 k := by
  unfold compGuard
  simp

theorem compGuard_eigNonneg (p : GmmIn ℝ) (k : ℕ) : compGuard "eigNonneg" p k = none ↔ p.eigNeg k = false := by
  simp only [compGuard, String.reduceEq, ↓reduceIte]
  cases p.eigNeg k <;> simp

theorem compGuard_notAllZero (p : GmmIn ℝ) (k : ℕ) : compGuard "notAllZero" p k = none ↔ p.allZero k = false := by
  simp only [compGuard, String.reduceEq, ↓reduceIte]
  cases p.allZero k <;> simp

theorem compGuard_symmetric (p : GmmIn ℝ) (k : ℕ) : compGuard "symmetric" p k = none ↔ p.symm k = true := by
  simp only [compGuard, String.reduceEq, ↓reduceIte]
  cases p.symm k <;> simp

theorem getElem?_selectRows {ρ : Type} (y : List ℕ) (draws : ℕ → ℕ → ρ) (i : ℕ) :
    (selectRows y draws)[i]? = y[i]?.map fun k => draws k i := by
  simp [selectRows, List.getElem?_mapIdx]

theorem map_getElem?_range {β : Type} (l : List β) : (List.range l.length).map (fun o => l[o]?) = l.map some :=
  (map_range_eq l _ some _ (Nat.le_refl _) fun _ hi => List.getElem?_eq_getElem hi).trans (by rw [List.take_length])

theorem forall_mem_selectRows {ρ : Type} {P : ρ → Prop} (y : List ℕ) (draws : ℕ → ℕ → ρ) (h : ∀ k i, P (draws k i)) :
    ∀ r ∈ selectRows y draws, P r := by
  intro r hr
  obtain ⟨i, _, rfl⟩ := List.mem_mapIdx.1 hr
  exact h _ i

theorem getElem?_studentRow (df u : ℝ) (nx loc : List ℝ) (j : ℕ) (z l : ℝ) (hz : nx[j]? = some z) (hl : loc[j]? = some l) :
    (studentRow df u nx loc)[j]? = some (Real.sqrt (df / u) * z + l) := by
  rw [studentRow, List.getElem?_zipWith, hz, hl]
  rfl

theorem getElem?_studentT {α : Type} [RealLike α] (n : ℕ) (df : α) (us : ℕ → α) (nxs : ℕ → List α) (loc : List α)
    (i : ℕ) (hi : i < n) : (studentT n df us nxs loc)[i]? = some (studentRow df (us i) (nxs i) loc) := by
  rw [studentT, List.getElem?_map, List.getElem?_range hi]
  rfl

theorem dot_pair (g1 g2 a b : ℝ) : dot [g1, g2] [a, b] = g1 * a + g2 * b := by
  simp [dot]

theorem affineRow_nil (g : List ℝ) : affineRow [] [] g [] = [] := rfl

theorem affineRow_cons (o : ℝ) (os : List ℝ) (col : List ℝ) (cols : List (List ℝ)) (g : List ℝ) (e : ℝ) (es : List ℝ) :
    affineRow (o :: os) (col :: cols) g (e :: es) = (o + dot g col + e) :: affineRow os cols g es := rfl

end GemVerif.DataGenLemmas
