/-
  Normal forms of the Wasserstein GEMINI of Model/Gemini.lean over ℝ: what `wassScoreT` / `wassGradT` are in terms of the
  clipped predictions, their column means, the mirrored distance matrix `wPairT` and the centred potentials `potT`.  The
  real-number theorems about the Wasserstein GEMINI (C01, C02Wass, C13Wass, C17) rewrite with these equations and do not
  unfold the model; Props/C01WassGen.lean, generic in the number type, compares the model term by term with the generated
  code and unfolds it.  Also what GeminiWass and GeminiWassC13 both speak of: the open simplex in which the marginals
  handed to `ot.emd2` lie, and the transport cost on two points used as a witness.
-/
import GemVerif.Lemmas.Gemini

namespace GemVerif
open Model

variable {n K : ℕ}

/-- `wasserstein_distances[a,b]`: filled from the calls `k1 < k2`, mirrored, zero diagonal -/
noncomputable def wPairT (pairE : Fin K → Fin K → Emd ℝ n) (a b : Fin K) : ℝ :=
  if a.val < b.val then (pairE a b).value
  else if b.val < a.val then (pairE b a).value else 0

/-- `u - u.mean()` -/
noncomputable def ctr (u : Fin n → ℝ) : Fin n → ℝ := fun i => u i - meanV u

/-- the potential that column `k` receives from the pair `{k, o}`: `log["u"]` of the call `(k, o)` if `k < o`, `log["v"]`
    of the call `(o, k)` otherwise -/
def potU (pairE : Fin K → Fin K → Emd ℝ n) (k o : Fin K) : Fin n → ℝ :=
  if k.val < o.val then (pairE k o).u else (pairE o k).v

/-- the centred potential `potU pairE k o - mean`, the form in which the one-vs-one gradient uses it -/
noncomputable def potT (pairE : Fin K → Fin K → Emd ℝ n) (k o : Fin K) : Fin n → ℝ := ctr (potU pairE k o)

theorem wPairT_of_lt (pairE : Fin K → Fin K → Emd ℝ n) {a b : Fin K} (h : a.val < b.val) :
    wPairT pairE a b = (pairE a b).value := if_pos h

theorem wPairT_of_gt (pairE : Fin K → Fin K → Emd ℝ n) {a b : Fin K} (h : b.val < a.val) :
    wPairT pairE a b = (pairE b a).value := by
  rw [wPairT, if_neg (not_lt.mpr h.le), if_pos h]

theorem wPairT_self (pairE : Fin K → Fin K → Emd ℝ n) (a : Fin K) : wPairT pairE a a = 0 := by
  rw [wPairT, if_neg (lt_irrefl _), if_neg (lt_irrefl _)]

theorem wPairT_symm (pairE : Fin K → Fin K → Emd ℝ n) (a b : Fin K) : wPairT pairE a b = wPairT pairE b a := by
  rcases lt_trichotomy a.val b.val with h | h | h
  · rw [wPairT_of_lt pairE h, wPairT_of_gt pairE h]
  · rw [Fin.ext h]
  · rw [wPairT_of_gt pairE h, wPairT_of_lt pairE h]

theorem wPairT_congr {pairE' pairE : Fin K → Fin K → Emd ℝ n}
    (hv : ∀ a b : Fin K, a.val < b.val → (pairE' a b).value = (pairE a b).value) (a b : Fin K) :
    wPairT pairE' a b = wPairT pairE a b := by
  rcases lt_trichotomy a.val b.val with h | h | h
  · rw [wPairT_of_lt _ h, wPairT_of_lt _ h, hv a b h]
  · rw [Fin.ext h, wPairT_self, wPairT_self]
  · rw [wPairT_of_gt _ h, wPairT_of_gt _ h, hv b a h]

theorem ctr_apply (u : Fin n → ℝ) (i : Fin n) : ctr u i = u i - meanV u := rfl

theorem potU_of_lt (pairE : Fin K → Fin K → Emd ℝ n) {k o : Fin K} (h : k.val < o.val) :
    potU pairE k o = (pairE k o).u := if_pos h

theorem potU_of_gt (pairE : Fin K → Fin K → Emd ℝ n) {k o : Fin K} (h : o.val < k.val) :
    potU pairE k o = (pairE o k).v := if_neg (not_lt.mpr h.le)

theorem potT_apply (pairE : Fin K → Fin K → Emd ℝ n) (k o : Fin K) (i : Fin n) :
    potT pairE k o i = potU pairE k o i - meanV (potU pairE k o) := rfl

/-- the case split of `potU` pushed through the centring; `k = o` falls in the second branch and is never read -/
theorem potT_eq_ite (pairE : Fin K → Fin K → Emd ℝ n) (k o : Fin K) :
    potT pairE k o = if k.val < o.val then ctr (pairE k o).u else ctr (pairE o k).v := apply_ite ctr _ _ _

theorem potT_of_lt (pairE : Fin K → Fin K → Emd ℝ n) {k o : Fin K} (h : k.val < o.val) :
    potT pairE k o = ctr (pairE k o).u := congrArg ctr (potU_of_lt pairE h)

theorem potT_of_gt (pairE : Fin K → Fin K → Emd ℝ n) {k o : Fin K} (h : o.val < k.val) :
    potT pairE k o = ctr (pairE o k).v := congrArg ctr (potU_of_gt pairE h)

theorem ctr_add_const (u : Fin n → ℝ) (c : ℝ) : ctr (fun j => u j + c) = ctr u :=
  funext fun i => by rw [ctr_apply, ctr_apply, meanV_add, meanV_const (Fin.pos i), add_sub_add_right_eq_sub]

theorem wassScoreT_ova (pairE : Fin K → Fin K → Emd ℝ n) (unifE : Fin K → Emd ℝ n) (ε : ℝ)
    (P : Fin n → Fin K → ℝ) :
    wassScoreT pairE unifE ε false P = ∑ k, mean0 (clipP ε P) k * (unifE k).value := by
  simp only [wassScoreT, tab_apply, sumFin_eq_sum, Bool.false_eq_true, if_false]

theorem wassScoreT_ovo (pairE : Fin K → Fin K → Emd ℝ n) (unifE : Fin K → Emd ℝ n) (ε : ℝ)
    (P : Fin n → Fin K → ℝ) :
    wassScoreT pairE unifE ε true P
      = ∑ a, mean0 (clipP ε P) a * ∑ b, wPairT pairE a b * mean0 (clipP ε P) b := by
  simp only [wassScoreT, tab_apply, sumFin_eq_sum, if_true, wPairT]

theorem wassGradT_ova (pairE : Fin K → Fin K → Emd ℝ n) (unifE : Fin K → Emd ℝ n) (ε : ℝ)
    (P : Fin n → Fin K → ℝ) (i : Fin n) (k : Fin K) :
    wassGradT pairE unifE ε false P i k
      = (ctr (unifE k).u i / n + (unifE k).value / n
          - (∑ j, clipP ε P j k * ctr (unifE k).u j) / (n * n * mean0 (clipP ε P) k))
        * clipMask ε P i k := by
  simp only [wassGradT, Bool.false_eq_true, if_false]
  simp only [tab_apply, sumFin_eq_sum, RealLike.nat_real, ctr_apply]

theorem wassGradT_ovo (pairE : Fin K → Fin K → Emd ℝ n) (unifE : Fin K → Emd ℝ n) (ε : ℝ)
    (P : Fin n → Fin K → ℝ) (i : Fin n) (k : Fin K) :
    wassGradT pairE unifE ε true P i k
      = ((∑ o, if o = k then 0 else
            2 * mean0 (clipP ε P) o * (potT pairE k o i / n
              - ∑ j, potT pairE k o j * clipP ε P j k / (n * n * mean0 (clipP ε P) k)))
          + 2 * (∑ b, wPairT pairE k b * mean0 (clipP ε P) b) / n) * clipMask ε P i k := by
  have hpot : ∀ (o : Fin K) (j : Fin n),
      (if k.val < o.val then fun i => (pairE k o).u i - meanV (pairE k o).u
        else fun i => (pairE o k).v i - meanV (pairE o k).v) j = potT pairE k o j := fun o j =>
    (congrFun (potT_eq_ite pairE k o) j).symm
  simp only [wassGradT, if_true]
  simp only [tab_apply, sumFin_eq_sum, RealLike.nat_real, hpot, Nat.cast_ofNat, wPairT]

theorem wassScore_eq (emd2 : (Fin n → ℝ) → (Fin n → ℝ) → Emd ℝ n) (ε : ℝ) (ovo : Bool)
    (P : Fin n → Fin K → ℝ) :
    wassScore emd2 ε ovo P
      = wassScoreT (fun a b => emd2 (wassWeights ε P a) (wassWeights ε P b))
          (fun k => emd2 (wassWeights ε P k) (fun _ => 1 / (n : ℝ))) ε ovo P := rfl

theorem wassGrad_eq (emd2 : (Fin n → ℝ) → (Fin n → ℝ) → Emd ℝ n) (ε : ℝ) (ovo : Bool)
    (P : Fin n → Fin K → ℝ) :
    wassGrad emd2 ε ovo P
      = wassGradT (fun a b => emd2 (wassWeights ε P a) (wassWeights ε P b))
          (fun k => emd2 (wassWeights ε P k) (fun _ => 1 / (n : ℝ))) ε ovo P := rfl

theorem wassWeights_apply (ε : ℝ) (P : Fin n → Fin K → ℝ) (k : Fin K) (i : Fin n) :
    wassWeights ε P k i = clipP ε P i k / (mean0 (clipP ε P) k * n) := by
  simp only [wassWeights, tab_apply, RealLike.nat_real]

theorem wassWeights_eq (ε : ℝ) (P : Fin n → Fin K → ℝ) (k : Fin K) : wassWeights ε P k = Spec.cond (clipP ε P) k :=
  funext fun i => by rw [wassWeights_apply, mean0_eq_pi, Spec.cond, mul_comm]

def OpenSimplex (a : Fin n → ℝ) : Prop := (∀ i, 0 < a i) ∧ ∑ i, a i = 1

theorem OpenSimplex.sum_eq_one {a : Fin n → ℝ} (h : OpenSimplex a) : ∑ i, a i = 1 := h.2

theorem cond_openSimplex (hn : 0 < n) {P : Fin n → Fin K → ℝ} (hP : ∀ i k, 0 < P i k) (k : Fin K) :
    OpenSimplex (Spec.cond P k) :=
  ⟨cond_pos hn hP k, cond_sum hn hP k⟩

theorem unif_openSimplex (hn : 0 < n) : OpenSimplex (fun _ : Fin n => 1 / (n : ℝ)) :=
  ⟨unif_pos hn, unif_sum hn⟩

/-- the genuine transport cost on two points at distance 1: on the simplex `W(a,b) = |a₀ - b₀|`,
    with optimal potentials `u = (s, 0)`, `v = (-s, 0)`, `s = sign (a₀ - b₀)` -/
noncomputable def absEmd : (Fin 2 → ℝ) → (Fin 2 → ℝ) → Emd ℝ 2 :=
  fun a b => ⟨|a 0 - b 0|, fun i => if i = 0 then RealLike.sign (a 0 - b 0) else 0,
    fun i => if i = 0 then -RealLike.sign (a 0 - b 0) else 0⟩

end GemVerif
