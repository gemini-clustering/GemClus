/- For C13 (invariances and bounds of the GEMINI scores), f-divergences and MMD: scores and gradients under a joint
   relabelling of samples and clusters (`*_reindex`; the permutation theorems of `Props/C13` are the instances at
   `Equiv.refl`), bounds of `Spec.ova` / `Spec.ovo` from bounds of the distance, the empty batch, an appended column. -/
import GemVerif.Lemmas.GeminiBlocks

namespace GemVerif.C13
open Model

variable {n K : ℕ}

theorem clipP_sperm (ε : ℝ) (P : Fin n → Fin K → ℝ) (σ : Equiv.Perm (Fin n)) :
    clipP ε (fun i k => P (σ i) k) = fun i k => clipP ε P (σ i) k := rfl

theorem clipMask_sperm (ε : ℝ) (P : Fin n → Fin K → ℝ) (σ : Equiv.Perm (Fin n)) :
    clipMask ε (fun i k => P (σ i) k) = fun i k => clipMask ε P (σ i) k := rfl

theorem clipP_cperm (ε : ℝ) (P : Fin n → Fin K → ℝ) (τ : Equiv.Perm (Fin K)) :
    clipP ε (fun i k => P i (τ k)) = fun i k => clipP ε P i (τ k) := rfl

theorem clipMask_cperm (ε : ℝ) (P : Fin n → Fin K → ℝ) (τ : Equiv.Perm (Fin K)) :
    clipMask ε (fun i k => P i (τ k)) = fun i k => clipMask ε P i (τ k) := rfl

section Reindex
variable (ε : ℝ) (ovo : Bool) (P : Fin n → Fin K → ℝ) (κ : Fin n → Fin n → ℝ)
  (σ : Equiv.Perm (Fin n)) (τ : Equiv.Perm (Fin K))

theorem klScore_reindex :
    klScore ε ovo (fun i k => P (σ i) (τ k)) = klScore ε ovo P := by
  cases ovo <;> simp only [klScore_ova_eq, klScore_ovo_eq, clipP_reindex, mean0_reindex _ σ τ, meanV_eq]
  -- The left side now has `∑ i, f (σ i)` and `∑ k, g (τ k)` where the right side has `∑ i, f i`, `∑ k, g k`.
  -- `∑ x, f (σ x)` is no pattern `simp` can match, `∑ x, f x` is: so every sum on the right is rewritten by
  -- `Equiv.sum_comp` read backwards, exactly once (`singlePass`: the result matches the rule again), after which
  -- the two sides coincide.  The rule for `σ` fits sums over `Fin n` only and that for `τ` sums over `Fin K` only
  -- because `n` and `K` are distinct variables.  All `_reindex` proofs have this shape.
  all_goals conv_rhs => simp (singlePass := true) only [← Equiv.sum_comp σ, ← Equiv.sum_comp τ]

theorem klGrad_reindex (i : Fin n) (k : Fin K) :
    klGrad ε ovo (fun i k => P (σ i) (τ k)) i k = klGrad ε ovo P (σ i) (τ k) := by
  cases ovo <;> simp only [klGrad_ova_eq, klGrad_ovo_eq, clipP_reindex, clipMask_reindex, mean0_reindex _ σ τ,
    meanV_eq]
  conv_rhs => simp (singlePass := true) only [← Equiv.sum_comp σ]

theorem tvScore_reindex :
    tvScore ε ovo (fun i k => P (σ i) (τ k)) = tvScore ε ovo P := by
  cases ovo <;> simp only [tvScore_ova_eq, tvScore_ovo_eq, clipP_reindex, mean0_reindex _ σ τ, meanV_eq]
  all_goals conv_rhs => simp (singlePass := true) only [← Equiv.sum_comp σ, ← Equiv.sum_comp τ]

theorem tvGrad_reindex (i : Fin n) (k : Fin K) :
    tvGrad ε ovo (fun i k => P (σ i) (τ k)) i k = tvGrad ε ovo P (σ i) (τ k) := by
  cases ovo <;> simp only [tvGrad_ova_eq, tvGrad_ovo_eq, clipP_reindex, clipMask_reindex, mean0_reindex _ σ τ,
    meanV_eq]
  all_goals conv_rhs => simp (singlePass := true) only [← Equiv.sum_comp σ, ← Equiv.sum_comp τ]

theorem hellingerScore_reindex :
    hellingerScore ε ovo (fun i k => P (σ i) (τ k)) = hellingerScore ε ovo P := by
  cases ovo <;> simp only [hellingerScore_ova_eq, hellingerScore_ovo_eq, clipP_reindex, mean0_reindex _ σ τ, meanV_eq]
  all_goals conv_rhs => simp (singlePass := true) only [← Equiv.sum_comp σ, ← Equiv.sum_comp τ]

theorem hellingerGrad_reindex (i : Fin n) (k : Fin K) :
    hellingerGrad ε ovo (fun i k => P (σ i) (τ k)) i k = hellingerGrad ε ovo P (σ i) (τ k) := by
  cases ovo <;> simp only [hellingerGrad_ova_eq, hellingerGrad_ovo_eq, clipP_reindex, clipMask_reindex, mean0_reindex _ σ τ,
    meanV_eq]
  all_goals conv_rhs => simp (singlePass := true) only [← Equiv.sum_comp σ, ← Equiv.sum_comp τ]

theorem chi2Score_reindex :
    chi2Score ε ovo (fun i k => P (σ i) (τ k)) = chi2Score ε ovo P := by
  cases ovo <;> simp only [chi2Score_ova_eq, chi2Score_ovo_eq, clipP_reindex, mean0_reindex _ σ τ, meanV_eq]
  all_goals conv_rhs => simp (singlePass := true) only [← Equiv.sum_comp σ, ← Equiv.sum_comp τ]

theorem chi2Grad_reindex (i : Fin n) (k : Fin K) :
    chi2Grad ε ovo (fun i k => P (σ i) (τ k)) i k = chi2Grad ε ovo P (σ i) (τ k) := by
  cases ovo <;> simp only [chi2Grad_ova_eq, chi2Grad_ovo_eq, clipP_reindex, clipMask_reindex, mean0_reindex _ σ τ,
    meanV_eq]
  all_goals conv_rhs => simp (singlePass := true) only [← Equiv.sum_comp σ, ← Equiv.sum_comp τ]

theorem mmdAlpha_reindex :
    mmdAlpha ε (fun i k => P (σ i) (τ k)) = fun i k => mmdAlpha ε P (σ i) (τ k) := by
  funext i k
  simp only [mmdAlpha_apply, clipP_reindex, mean0_reindex _ σ τ]

theorem mmdGamma_reindex :
    mmdGamma ε (fun i k => P (σ i) (τ k)) (fun i j => κ (σ i) (σ j)) = fun i k => mmdGamma ε P κ (σ i) (τ k) := by
  funext i k
  simp only [mmdGamma_apply, mmdAlpha_reindex]
  conv_rhs => simp (singlePass := true) only [← Equiv.sum_comp σ]

theorem mmdDeltaOvo_reindex :
    mmdDeltaOvo ε (fun i k => P (σ i) (τ k)) (fun i j => κ (σ i) (σ j))
      = fun a b => mmdDeltaOvo ε P κ (τ a) (τ b) := by
  funext a b
  simp only [mmdDeltaOvo_apply, mmdAlpha_reindex, mmdGamma_reindex]
  conv_rhs => simp (singlePass := true) only [← Equiv.sum_comp σ]

theorem mmdDeltaOva_reindex :
    mmdDeltaOva ε (fun i k => P (σ i) (τ k)) (fun i j => κ (σ i) (σ j)) = fun a => mmdDeltaOva ε P κ (τ a) := by
  funext a
  simp only [mmdDeltaOva_apply, mmdAlpha_reindex, mmdGamma_reindex]
  conv_rhs => simp (singlePass := true) only [← Equiv.sum_comp σ]

theorem mmdScore_reindex :
    mmdScore ε ovo (fun i k => P (σ i) (τ k)) (fun i j => κ (σ i) (σ j)) = mmdScore ε ovo P κ := by
  cases ovo <;> simp only [mmdScore_ova, mmdScore_ovo, mmdDeltaOvo_reindex, mmdDeltaOva_reindex, clipP_reindex,
    mean0_reindex _ σ τ]
  all_goals conv_rhs => simp (singlePass := true) only [← Equiv.sum_comp τ]

theorem mmdLam_reindex (π : Fin K → ℝ) (δ : Fin K → Fin K → ℝ) (a b : Fin K) :
    mmdLam (fun k => π (τ k)) (fun a b => δ (τ a) (τ b)) a b = mmdLam π δ (τ a) (τ b) := by
  simp only [mmdLam, EmbeddingLike.apply_eq_iff_eq]

theorem mmdGrad_reindex (i : Fin n) (k : Fin K) :
    mmdGrad ε ovo (fun i k => P (σ i) (τ k)) (fun i j => κ (σ i) (σ j)) i k = mmdGrad ε ovo P κ (σ i) (τ k) := by
  cases ovo <;> simp only [mmdGrad_ova_eq, mmdGrad_ovo_eq, mmdDeltaOvo_reindex, mmdDeltaOva_reindex, mmdGamma_reindex,
    mmdAlpha_reindex, mmdLam_reindex, clipP_reindex, clipMask_reindex, mean0_reindex _ σ τ, meanV_eq]
  all_goals conv_rhs => simp (singlePass := true) only [← Equiv.sum_comp σ, ← Equiv.sum_comp τ]

end Reindex

theorem TV_nonneg (p q : Fin n → ℝ) : 0 ≤ Spec.TV p q :=
  mul_nonneg (by norm_num) (Finset.sum_nonneg fun i _ => abs_nonneg _)

theorem TV_le_one {p q : Fin n → ℝ} (hp : ∀ i, 0 ≤ p i) (hp1 : ∑ i, p i = 1)
    (hq : ∀ i, 0 ≤ q i) (hq1 : ∑ i, q i = 1) : Spec.TV p q ≤ 1 := by
  unfold Spec.TV
  have : ∑ i, |p i - q i| ≤ ∑ i, (p i + q i) :=
    Finset.sum_le_sum fun i _ =>
      (abs_sub _ _).trans_eq (by rw [abs_of_nonneg (hp i), abs_of_nonneg (hq i)])
  rw [Finset.sum_add_distrib, hp1, hq1] at this
  linarith

/-- AM-GM for two numbers, from `(x - y)² ≥ 0` -/
theorem sqrt_mul_le_half_add {x y : ℝ} (hx : 0 ≤ x) (hy : 0 ≤ y) : Real.sqrt (x * y) ≤ (x + y) / 2 := by
  rw [Real.sqrt_le_left (div_nonneg (add_nonneg hx hy) zero_le_two)]
  linear_combination (1 / 4) * sq_nonneg (x - y)

theorem H2_nonneg {p q : Fin n → ℝ} (hp : ∀ i, 0 ≤ p i) (hp1 : ∑ i, p i = 1)
    (hq : ∀ i, 0 ≤ q i) (hq1 : ∑ i, q i = 1) : 0 ≤ Spec.H2 p q := by
  have : ∑ i, Real.sqrt (p i * q i) ≤ ∑ i, (p i + q i) / 2 :=
    Finset.sum_le_sum fun i _ => sqrt_mul_le_half_add (hp i) (hq i)
  rw [← Finset.sum_div, Finset.sum_add_distrib, hp1, hq1] at this
  unfold Spec.H2
  linarith

theorem H2_le_one (p q : Fin n → ℝ) : Spec.H2 p q ≤ 1 := by
  unfold Spec.H2
  have : 0 ≤ ∑ i, Real.sqrt (p i * q i) := Finset.sum_nonneg fun i _ => Real.sqrt_nonneg _
  linarith

theorem pi_nonneg {P : Fin n → Fin K → ℝ} (hP : ∀ i k, 0 ≤ P i k) (k : Fin K) : 0 ≤ Spec.pi P k :=
  mean0_eq_pi P ▸ mean0_nonneg hP k

theorem pi_of_indep (hn : 0 < n) {P : Fin n → Fin K → ℝ} (h : ∀ i j k, P i k = P j k) (i : Fin n) (k : Fin K) :
    Spec.pi P k = P i k :=
  mean0_eq_pi P ▸ mean0_of_const hn (fun i j => h i j k) i

/-- The bounds on a distance `D` are asked for on positive probability vectors only: that is what `Spec.cond` and
    `Spec.unif` are for a positive matrix. -/
def BoundedBelow (D : (Fin n → ℝ) → (Fin n → ℝ) → ℝ) : Prop :=
  ∀ p q : Fin n → ℝ, (∀ i, 0 < p i) → ∑ i, p i = 1 → (∀ i, 0 < q i) → ∑ i, q i = 1 → 0 ≤ D p q

def BoundedAbove (D : (Fin n → ℝ) → (Fin n → ℝ) → ℝ) : Prop :=
  ∀ p q : Fin n → ℝ, (∀ i, 0 < p i) → ∑ i, p i = 1 → (∀ i, 0 < q i) → ∑ i, q i = 1 → D p q ≤ 1

theorem ova_nonneg_of {D : (Fin n → ℝ) → (Fin n → ℝ) → ℝ} (hD : BoundedBelow D)
    {P : Fin n → Fin K → ℝ} (hP : ∀ i k, 0 < P i k) : 0 ≤ Spec.ova D P := by
  rcases Nat.eq_zero_or_pos n with rfl | hn
  · simp only [Spec.ova, pi_empty, zero_mul, Finset.sum_const_zero, le_refl]
  · exact Finset.sum_nonneg fun k _ => mul_nonneg (pi_pos hn hP k).le
      (hD _ _ (cond_pos hn hP k) (cond_sum hn hP k) (unif_pos hn) (unif_sum hn))

theorem ovo_nonneg_of {D : (Fin n → ℝ) → (Fin n → ℝ) → ℝ} (hD : BoundedBelow D)
    {P : Fin n → Fin K → ℝ} (hP : ∀ i k, 0 < P i k) : 0 ≤ Spec.ovo D P := by
  rcases Nat.eq_zero_or_pos n with rfl | hn
  · simp only [Spec.ovo, pi_empty, zero_mul, Finset.sum_const_zero, le_refl]
  · exact Finset.sum_nonneg fun a _ => Finset.sum_nonneg fun b _ =>
      mul_nonneg (mul_nonneg (pi_pos hn hP a).le (pi_pos hn hP b).le)
      (hD _ _ (cond_pos hn hP a) (cond_sum hn hP a) (cond_pos hn hP b) (cond_sum hn hP b))

theorem ova_le_one_of {D : (Fin n → ℝ) → (Fin n → ℝ) → ℝ} (hD : BoundedAbove D)
    {P : Fin n → Fin K → ℝ} (hP : ∀ i k, 0 < P i k) (hrow : ∀ i, ∑ k, P i k = 1) :
    Spec.ova D P ≤ 1 := by
  rcases Nat.eq_zero_or_pos n with rfl | hn
  · simp only [Spec.ova, pi_empty, zero_mul, Finset.sum_const_zero, zero_le_one]
  · rw [← sum_pi_eq_one hn hrow]
    exact Finset.sum_le_sum fun k _ => mul_le_of_le_one_right (pi_pos hn hP k).le
      (hD _ _ (cond_pos hn hP k) (cond_sum hn hP k) (unif_pos hn) (unif_sum hn))

theorem ovo_le_one_of {D : (Fin n → ℝ) → (Fin n → ℝ) → ℝ} (hD : BoundedAbove D)
    {P : Fin n → Fin K → ℝ} (hP : ∀ i k, 0 < P i k) (hrow : ∀ i, ∑ k, P i k = 1) :
    Spec.ovo D P ≤ 1 := by
  rcases Nat.eq_zero_or_pos n with rfl | hn
  · simp only [Spec.ovo, pi_empty, zero_mul, Finset.sum_const_zero, zero_le_one]
  · calc Spec.ovo D P ≤ ∑ a, ∑ b, Spec.pi P a * Spec.pi P b :=
          Finset.sum_le_sum fun a _ => Finset.sum_le_sum fun b _ => mul_le_of_le_one_right
            (mul_nonneg (pi_pos hn hP a).le (pi_pos hn hP b).le)
            (hD _ _ (cond_pos hn hP a) (cond_sum hn hP a) (cond_pos hn hP b) (cond_sum hn hP b))
      _ = 1 := by rw [← Finset.sum_mul_sum, sum_pi_eq_one hn hrow, one_mul]

/-! The empty batch (`n = 0`): every mean is `0 / 0 = 0`. -/

theorem klScore_empty (ε : ℝ) (ovo : Bool) (P : Fin 0 → Fin K → ℝ) : klScore ε ovo P = 0 := by
  cases ovo <;> simp only [klScore_ova_eq, klScore_ovo_eq, meanV_empty, mean0_empty, zero_mul,
    Finset.sum_const_zero, sub_self]

theorem tvScore_empty (ε : ℝ) (ovo : Bool) (P : Fin 0 → Fin K → ℝ) : tvScore ε ovo P = 0 := by
  cases ovo <;> simp only [tvScore_ova_eq, tvScore_ovo_eq, meanV_empty, Finset.sum_const_zero, mul_zero]

theorem mmdScore_empty (ε : ℝ) (ovo : Bool) (P : Fin 0 → Fin K → ℝ) (κ : Fin 0 → Fin 0 → ℝ) :
    mmdScore ε ovo P κ = 0 := by
  cases ovo <;> simp only [mmdScore_ova, mmdScore_ovo, mean0_empty, zero_mul, mul_zero, Finset.sum_const_zero]

theorem abs_mul_sub_mul {c : ℝ} (hc : 0 ≤ c) (x y : ℝ) : |c * y - x * c| = c * |y - x| := by
  rw [mul_comm x, ← mul_sub, abs_mul, abs_of_nonneg hc]

theorem mmdAlpha_of_const (hn : 0 < n) {ε : ℝ} {P : Fin n → Fin K → ℝ} {k : Fin K} (h : ∀ i j, P i k = P j k)
    (hk : mean0 (clipP ε P) k ≠ 0) (i : Fin n) : mmdAlpha ε P i k = 1 := by
  have hm : mean0 (clipP ε P) k = clipP ε P i k :=
    mean0_of_const hn (fun i j => by simp only [clipP, h i j]) i
  rw [mmdAlpha_apply, ← hm, div_self hk]

theorem mmdAlpha_addEmpty_castSucc (ε : ℝ) (P : Fin n → Fin K → ℝ) (i : Fin n) (k : Fin K) :
    mmdAlpha ε (addEmpty P) i k.castSucc = mmdAlpha ε P i k := by
  simp only [mmdAlpha_apply, clipP_addEmpty_castSucc, mean0_addEmpty_castSucc]

theorem mmdAlpha_addEmpty_last (hn : 0 < n) {ε : ℝ} (P : Fin n → Fin K → ℝ)
    (he : mean0 (clipP ε (addEmpty P)) (Fin.last K) ≠ 0) (i : Fin n) :
    mmdAlpha ε (addEmpty P) i (Fin.last K) = 1 :=
  mmdAlpha_of_const hn (fun i j => by rw [addEmpty_last, addEmpty_last]) he i

theorem mmdDeltaOvo_addEmpty_castSucc (ε : ℝ) (P : Fin n → Fin K → ℝ) (κ : Fin n → Fin n → ℝ) (a b : Fin K) :
    mmdDeltaOvo ε (addEmpty P) κ a.castSucc b.castSucc = mmdDeltaOvo ε P κ a b := by
  simp only [mmdDeltaOvo_apply, mmdGamma_apply, mmdAlpha_addEmpty_castSucc]

theorem mmdDeltaOva_addEmpty_castSucc (ε : ℝ) (P : Fin n → Fin K → ℝ) (κ : Fin n → Fin n → ℝ) (k : Fin K) :
    mmdDeltaOva ε (addEmpty P) κ k.castSucc = mmdDeltaOva ε P κ k := by
  simp only [mmdDeltaOva_apply, mmdGamma_apply, mmdAlpha_addEmpty_castSucc]

/-- The appended column has proportion `e = clip 0 ε (1-ε)` and, if `e ≠ 0`, `alpha = 1`: its distance to
    cluster `a` is the one-vs-all distance of `a`, and each unordered pair is counted twice. -/
theorem mmdScore_ovo_addEmpty (ε : ℝ) (P : Fin n → Fin K → ℝ) (κ : Fin n → Fin n → ℝ)
    (hκ : ∀ i j, κ i j = κ j i) :
    mmdScore ε true (addEmpty P) κ
      = mmdScore ε true P κ + 2 * RealLike.clip 0 ε (1 - ε) * mmdScore ε false P κ := by
  rcases Nat.eq_zero_or_pos n with rfl | hn
  · simp only [mmdScore_empty, mul_zero, add_zero]
  have hl := mean0_addEmpty_last hn ε P
  simp only [mmdScore_ovo, mmdScore_ova, Fin.sum_univ_castSucc, mean0_addEmpty_castSucc,
    mmdDeltaOvo_addEmpty_castSucc,
    mmdDeltaOvo_eq_zero ε (addEmpty P) κ (a := Fin.last K) fun _ => rfl,
    mmdDeltaOvo_symm ε (addEmpty P) hκ _ (Fin.last K), zero_mul, add_zero]
  by_cases he : mean0 (clipP ε (addEmpty P)) (Fin.last K) = 0
  · simp only [← hl, he, zero_mul, mul_zero, add_zero]
  · simp only [mmdDeltaOvo_of_alpha_one ε _ κ (mmdAlpha_addEmpty_last hn P he), mmdDeltaOva_addEmpty_castSucc, hl]
    exact ovo_addEmpty_algebra _ _ _ _

end GemVerif.C13
