/-
  C05 — the sorted-breakpoint search of `mlp_prox_grad` returns a KKT point: first for abstract sequences (`ℓ` = sorted
  `|u|` extended by zeros; comparisons with the denominators cleared), then the model's `xS`, `wS`, `hierIdx` are tied to them.
-/
import GemVerif.Lemmas.ProxSort

namespace GemVerif
open Model.Prox Spec.Prox

/-- `‖v‖ − a_s` -/
noncomputable def Aseq (ℓ : ℕ → ℝ) (N α M : ℝ) (s : ℕ) : ℝ := N - (α - M * ∑ t ∈ Finset.range s, ℓ t)

/-- `b_s = max(‖v‖ − a_s, 0) / (1 + s M²)`: the candidate norm of `β` when `s` coordinates are clipped -/
noncomputable def Bseq (ℓ : ℕ → ℝ) (N α M : ℝ) (s : ℕ) : ℝ := max (Aseq ℓ N α M s) 0 / (1 + (s : ℝ) * (M * M))

variable {ℓ : ℕ → ℝ} {N α M : ℝ}

theorem Aseq_succ (s : ℕ) : Aseq ℓ N α M (s + 1) = Aseq ℓ N α M s + M * ℓ s := by
  unfold Aseq; rw [Finset.sum_range_succ]; ring

theorem Bseq_den_pos (M : ℝ) (s : ℕ) : 0 < 1 + (s : ℝ) * (M * M) :=
  add_pos_of_pos_of_nonneg one_pos (mul_nonneg (Nat.cast_nonneg s) (mul_self_nonneg M))

theorem Bseq_nonneg (s : ℕ) : 0 ≤ Bseq ℓ N α M s :=
  div_nonneg (le_max_right _ _) (Bseq_den_pos M s).le

/-- comparisons with `M * Bseq s` without the division -/
theorem mul_Bseq_lt_iff (x : ℝ) (s : ℕ) :
    M * Bseq ℓ N α M s < x ↔ M * max (Aseq ℓ N α M s) 0 < x * (1 + (s : ℝ) * (M * M)) := by
  unfold Bseq; rw [← mul_div_assoc, div_lt_iff₀ (Bseq_den_pos M s)]

theorem le_mul_Bseq_iff (x : ℝ) (s : ℕ) :
    x ≤ M * Bseq ℓ N α M s ↔ x * (1 + (s : ℝ) * (M * M)) ≤ M * max (Aseq ℓ N α M s) 0 := by
  rw [← not_lt, mul_Bseq_lt_iff, not_lt]

theorem mul_Bseq_le_iff (x : ℝ) (s : ℕ) :
    M * Bseq ℓ N α M s ≤ x ↔ M * max (Aseq ℓ N α M s) 0 ≤ x * (1 + (s : ℝ) * (M * M)) := by
  unfold Bseq; rw [← mul_div_assoc, div_le_iff₀ (Bseq_den_pos M s)]

theorem Bseq_den_succ (M : ℝ) (s : ℕ) :
    1 + ((s + 1 : ℕ) : ℝ) * (M * M) = 1 + (s : ℝ) * (M * M) + M * M := by push_cast; ring

/-- `b_{s+1}` is a weighted mean of `b_s` and `ℓ s / M`, so `w_{s+1} = M·b_{s+1}` stays on the side of `ℓ s` where
    `w_s` is.  Once `ℓ s ≤ w_s`, also `ℓ s ≤ w_{s+1}`: with `ℓ` antitone, the mask `lower > w` is a prefix. -/
theorem le_mul_Bseq_succ (hM : 0 ≤ M) {s : ℕ} (hnn : 0 ≤ ℓ s)
    (h : ℓ s ≤ M * Bseq ℓ N α M s) : ℓ s ≤ M * Bseq ℓ N α M (s + 1) := by
  rw [le_mul_Bseq_iff] at h ⊢
  rw [Aseq_succ, Bseq_den_succ]
  rcases hnn.eq_or_lt with h0 | hpos
  · rw [← h0, zero_mul]; exact mul_nonneg hM (le_max_right _ _)
  · -- `ℓ s > 0` forces `A_s > 0`
    have hA : 0 < Aseq ℓ N α M s := by
      by_contra hA
      rw [max_eq_right (not_lt.mp hA), mul_zero] at h
      exact absurd h (not_le.mpr (mul_pos hpos (Bseq_den_pos M s)))
    rw [max_eq_left hA.le] at h
    linear_combination h + mul_le_mul_of_nonneg_left (le_max_left (Aseq ℓ N α M s + M * ℓ s) 0) hM

/-- While `w_s = M·b_s` is still below `ℓ s`, the next `w_{s+1}` does not pass it
    (`max (A + y) 0 ≤ max A 0 + y` for `y ≥ 0`). -/
theorem mul_Bseq_succ_le (hM : 0 ≤ M) {s : ℕ} (hnn : 0 ≤ ℓ s)
    (h : M * Bseq ℓ N α M s < ℓ s) : M * Bseq ℓ N α M (s + 1) ≤ ℓ s := by
  rw [mul_Bseq_lt_iff] at h
  rw [mul_Bseq_le_iff, Aseq_succ, Bseq_den_succ]
  have h1 : max (Aseq ℓ N α M s + M * ℓ s) 0 ≤ max (Aseq ℓ N α M s) 0 + M * ℓ s :=
    max_le (add_le_add_left (le_max_left _ _) _) (add_nonneg (le_max_right _ _) (mul_nonneg hM hnn))
  linear_combination h + mul_le_mul_of_nonneg_left h1 hM

theorem div_fixed_point {A D : ℝ} (hD : 0 < D) : max A 0 / D = max (A - (D - 1) * (max A 0 / D)) 0 := by
  rcases le_total A 0 with hA | hA
  · rw [max_eq_right hA, zero_div, mul_zero, sub_zero, max_eq_right hA]
  · rw [max_eq_left hA]
    rw [sub_mul, one_mul, mul_div_cancel₀ _ hD.ne', sub_sub_cancel, max_eq_left (div_nonneg hA hD.le)]

/-- the value `np.sum(lower > w)` for the sequences -/
noncomputable def kIdx (ℓ : ℕ → ℝ) (N α M : ℝ) (h : ℕ) : ℕ :=
  ((List.range (h + 1)).filter fun s => decide (M * Bseq ℓ N α M s < ℓ s)).length

/-- what the count has found: the clipping level `w = M·b_k` at `k = kIdx` lies below the first `k` breakpoints and
    above the others (the mask `lower > w` is a prefix, `prefix_count`) -/
theorem kIdx_spec (hM : 0 ≤ M) (hnn : ∀ s, 0 ≤ ℓ s) (hanti : Antitone ℓ) (h : ℕ) (hh : ℓ h = 0) :
    kIdx ℓ N α M h ≤ h ∧ ℓ (kIdx ℓ N α M h) ≤ M * Bseq ℓ N α M (kIdx ℓ N α M h) ∧
      ∀ i < kIdx ℓ N α M h, M * Bseq ℓ N α M (kIdx ℓ N α M h) ≤ ℓ i := by
  have hdown : ∀ s, s + 1 < h + 1 → M * Bseq ℓ N α M (s + 1) < ℓ (s + 1) → M * Bseq ℓ N α M s < ℓ s := by
    intro s _ hs
    by_contra hns
    exact absurd hs (not_lt.mpr ((hanti (Nat.le_succ s)).trans (le_mul_Bseq_succ hM (hnn s) (not_lt.mp hns))))
  obtain ⟨c1, c2⟩ := prefix_count (P := fun s => M * Bseq ℓ N α M s < ℓ s) (h + 1) hdown
  change ∀ s < kIdx ℓ N α M h, _ at c1
  change ∀ s, kIdx ℓ N α M h ≤ s → _ at c2
  set k := kIdx ℓ N α M h
  have hkh : k ≤ h := by
    by_contra hc
    have := c1 h (Nat.lt_of_not_le hc)
    rw [hh] at this
    exact absurd this (not_lt.mpr (mul_nonneg hM (Bseq_nonneg _)))
  refine ⟨hkh, not_lt.mp (c2 k le_rfl (Nat.lt_succ_of_le hkh)), fun i hi => ?_⟩
  obtain ⟨k', hk'⟩ : ∃ k', k = k' + 1 := Nat.exists_eq_succ_of_ne_zero (Nat.ne_of_gt (Nat.zero_lt_of_lt hi))
  have h2 := mul_Bseq_succ_le (N := N) (α := α) hM (hnn k') (c1 k' (hk' ▸ Nat.lt_succ_self k'))
  rw [← hk'] at h2
  exact h2.trans (hanti (Nat.le_of_lt_succ (hk' ▸ hi : i < k' + 1)))

/-- the breakpoint search returns a stationary point of the reduced problem -/
theorem breakpoint_kkt (hM : 0 ≤ M) (hnn : ∀ s, 0 ≤ ℓ s) (hanti : Antitone ℓ) (h : ℕ) (hh : ℓ h = 0) :
    kIdx ℓ N α M h ≤ h ∧
    Bseq ℓ N α M (kIdx ℓ N α M h)
      = max (N - α + M * ∑ i ∈ Finset.range h, max (ℓ i - M * Bseq ℓ N α M (kIdx ℓ N α M h)) 0) 0 := by
  obtain ⟨hkh, hlow, hup⟩ := kIdx_spec (N := N) (α := α) hM hnn hanti h hh
  refine ⟨hkh, ?_⟩
  set k := kIdx ℓ N α M h
  set b := Bseq ℓ N α M k
  -- the positive parts: the first `k` terms are `ℓ i − M b`, the others vanish
  have hsum : ∑ i ∈ Finset.range h, max (ℓ i - M * b) 0 = ∑ i ∈ Finset.range k, ℓ i - k * (M * b) := by
    rw [← Finset.sum_range_add_sum_Ico _ hkh,
      Finset.sum_congr rfl fun i hi => max_eq_left (sub_nonneg.mpr (hup i (Finset.mem_range.mp hi))),
      Finset.sum_eq_zero fun i hi => max_eq_right
        (sub_nonpos.mpr ((hanti (Finset.mem_Ico.mp hi).1).trans hlow)),
      Finset.sum_sub_distrib, Finset.sum_const, Finset.card_range, nsmul_eq_mul, add_zero]
  rw [hsum]
  have := div_fixed_point (A := Aseq ℓ N α M k) (Bseq_den_pos M k)
  change b = max (Aseq ℓ N α M k - (1 + (k : ℝ) * (M * M) - 1) * b) 0 at this
  refine this.trans ?_
  congr 1
  unfold Aseq
  ring

variable {k h : ℕ}

theorem uAbsSorted_perm (u : Fin h → ℝ) : (uAbsSorted u).Perm (List.ofFn fun j => |u j|) := by
  unfold uAbsSorted
  exact sortDesc_perm _

theorem uAbsSorted_nonneg (u : Fin h → ℝ) : ∀ x ∈ uAbsSorted u, 0 ≤ x := by
  intro x hx
  have := (uAbsSorted_perm u).mem_iff.mp hx
  obtain ⟨j, rfl⟩ := (List.mem_ofFn' _ _).mp this
  exact abs_nonneg _

theorem uAbsSorted_pairwise (u : Fin h → ℝ) : (uAbsSorted u).Pairwise (· ≥ ·) := sortDesc_pairwise _

theorem sum_abs_eq_range (u : Fin h → ℝ) (f : ℝ → ℝ) :
    ∑ j, f |u j| = ∑ i ∈ Finset.range h, f (seqOf (uAbsSorted u) i) := by
  have h1 := sum_map_eq_range (uAbsSorted u) f
  rw [uAbsSorted_length] at h1
  rw [← h1, ((uAbsSorted_perm u).map f).sum_eq, List.map_ofFn, List.sum_ofFn]
  rfl

theorem aS_eq (L : List ℝ) (α M : ℝ) {s : ℕ} (hs : s ≤ L.length) :
    aS L α M s = α - M * ∑ t ∈ Finset.range s, seqOf L t := by
  unfold aS; rw [prefix_getD L s hs]

theorem xS_mul_norm (L : List ℝ) (α M : ℝ) {Nv : ℝ} (hN : 0 < Nv) {s : ℕ} (hs : s ≤ L.length) :
    xS L α M Nv s * Nv = Bseq (seqOf L) Nv α M s := by
  unfold xS Bseq Aseq
  rw [aS_eq L α M hs]
  simp only [RealLike.max_real, RealLike.nat_real]
  rw [div_mul_eq_mul_div, max_mul_of_nonneg _ _ hN.le, zero_mul, sub_mul, one_mul,
    div_mul_cancel₀ _ hN.ne']

theorem xS_nonneg (L : List ℝ) (α M Nv : ℝ) (s : ℕ) : 0 ≤ xS L α M Nv s := by
  unfold xS
  simp only [RealLike.max_real, RealLike.nat_real]
  exact div_nonneg (le_max_right _ _) (Bseq_den_pos M s).le

theorem wS_eq (L : List ℝ) (α M : ℝ) {Nv : ℝ} (hN : 0 < Nv) {s : ℕ} (hs : s ≤ L.length) :
    wS L α M Nv s = M * Bseq (seqOf L) Nv α M s := by
  unfold wS; rw [mul_assoc, xS_mul_norm L α M hN hs]

theorem hierIdx_eq {L : List ℝ} (hnn : ∀ x ∈ L, 0 ≤ x) (α M : ℝ) {Nv : ℝ} (hN : 0 < Nv) :
    hierIdx L α M Nv = kIdx (seqOf L) Nv α M L.length := by
  unfold hierIdx kIdx
  congr 1
  apply List.filter_congr
  intro s hs
  have hs' : s ≤ L.length := by
    have := List.mem_range.mp hs; omega
  rw [wS_eq L α M hN hs', lowerS_eq hnn]
  simp

theorem xStar_nonneg (v : Fin k → ℝ) (u : Fin h → ℝ) (α M : ℝ) : 0 ≤ xStar v u α M := xS_nonneg _ _ _ _ _

/-- `x*·‖v‖` is the level `b_k` of the breakpoint sequences at the index `k` that the search returns; `hk` (the count
    does not run past the list) is the first part of `breakpoint_kkt` -/
theorem xStar_mul_norm2 (v : Fin k → ℝ) (u : Fin h → ℝ) (α M : ℝ) (hN : 0 < norm2 v)
    (hk : kIdx (seqOf (uAbsSorted u)) (norm2 v) α M (uAbsSorted u).length ≤ (uAbsSorted u).length) :
    xStar v u α M * norm2 v =
      Bseq (seqOf (uAbsSorted u)) (norm2 v) α M (kIdx (seqOf (uAbsSorted u)) (norm2 v) α M (uAbsSorted u).length) := by
  unfold xStar
  simp only
  rw [hierIdx_eq (uAbsSorted_nonneg u) α M hN, xS_mul_norm _ α M hN hk]

theorem toE_hierProxRow_fst (v : Fin k → ℝ) (u : Fin h → ℝ) (α M : ℝ) :
    toE (hierProxRow v u α M).1 = xStar v u α M • toE v := rfl

theorem norm_hierProxRow_fst (v : Fin k → ℝ) (u : Fin h → ℝ) (α M : ℝ) :
    ‖toE (hierProxRow v u α M).1‖ = xStar v u α M * ‖toE v‖ := by
  rw [toE_hierProxRow_fst, norm_smul, Real.norm_eq_abs, abs_of_nonneg (xStar_nonneg v u α M)]

theorem wStar_eq (v : Fin k → ℝ) (u : Fin h → ℝ) (α M : ℝ) :
    wStar v u α M = M * (xStar v u α M * ‖toE v‖) := by
  rw [← norm2_eq, ← mul_assoc]; rfl

theorem hierProxRow_snd (v : Fin k → ℝ) (u : Fin h → ℝ) (α M : ℝ) (j : Fin h) :
    (hierProxRow v u α M).2 j = clipPM (wStar v u α M) (u j) := by
  show signPM (u j) * RealLike.min (softThreshold 0 (RealLike.abs (u j))) _ = _
  unfold clipPM
  rw [signPM_real]
  simp only [RealLike.abs_real, RealLike.min_real]
  rw [softThreshold_zero_of_nonneg (abs_nonneg _)]

/-- a zero `β*` clips every hidden weight to zero (`w* = M‖β*‖ = 0`), whatever the sign of `M` -/
theorem hierProxRow_snd_of_fst_zero (v : Fin k → ℝ) (u : Fin h → ℝ) (α M : ℝ)
    (hβ : (hierProxRow v u α M).1 = 0) : (hierProxRow v u α M).2 = 0 := by
  funext j
  have h0 : ‖toE (hierProxRow v u α M).1‖ = 0 := by rw [hβ]; exact norm_zero
  rw [hierProxRow_snd, wStar_eq, ← norm_hierProxRow_fst, h0, mul_zero, clipPM, min_eq_right (abs_nonneg _),
    mul_zero]
  rfl

end GemVerif
