/-
  Reading rules of GemVerif/Np3.lean (shape, error flag and entries of every operation, by unfolding); the list facts
  that connect its primitives (`cumsumTo`, `sortAsc`, `countTo`, `lastIdx`) with the list functions of the hand model
  Model/Prox.lean (`cumsum`, `sortDesc`, the `filter … length` of `hierIdx`); what the operations make of arrays
  described by `IsMat`.  Generic in `[RealLike α]`; the sort needs the order laws `OrderLaws α` (which ℝ has:
  `orderLaws_real`, Lemmas/ProxGen.lean).
-/
import GemVerif.Lemmas.Np2
import GemVerif.Np3
import GemVerif.Lemmas.ProxList

set_option linter.unusedSectionVars false

namespace GemVerif.Np
open RealLike

namespace Arr
variable {α : Type} [RealLike α]

@[simp] theorem zeros_r (r c : Nat) : (zeros r c : Arr α).r = r := rfl
@[simp] theorem zeros_c (r c : Nat) : (zeros r c : Arr α).c = c := rfl
@[simp] theorem zeros_ok (r c : Nat) : (zeros r c : Arr α).ok = true := rfl
@[simp] theorem zeros_get (r c i j : Nat) : (zeros r c : Arr α).get i j = 0 := rfl

@[simp] theorem full_r (r c : Nat) (s : α) : (full r c s).r = r := rfl
@[simp] theorem full_c (r c : Nat) (s : α) : (full r c s).c = c := rfl
@[simp] theorem full_ok (r c : Nat) (s : α) : (full r c s).ok = true := rfl
@[simp] theorem full_get (r c : Nat) (s : α) (i j : Nat) : (full r c s).get i j = s := rfl

@[simp] theorem empty_r (junk : Nat → Nat → α) (r c : Nat) : (empty junk r c).r = r := rfl
@[simp] theorem empty_c (junk : Nat → Nat → α) (r c : Nat) : (empty junk r c).c = c := rfl
@[simp] theorem empty_ok (junk : Nat → Nat → α) (r c : Nat) : (empty junk r c).ok = true := rfl
@[simp] theorem empty_get (junk : Nat → Nat → α) (r c i j : Nat) : (empty junk r c).get i j = junk i j := rfl

@[simp] theorem arange_r (n : Nat) : (arange n : Arr α).r = 1 := rfl
@[simp] theorem arange_c (n : Nat) : (arange n : Arr α).c = n := rfl
@[simp] theorem arange_ok (n : Nat) : (arange n : Arr α).ok = true := rfl
@[simp] theorem arange_get (n i j : Nat) : (arange n : Arr α).get i j = nat j := rfl

@[simp] theorem geS_r (A : Arr α) (s : α) : (geS A s).r = A.r := rfl
@[simp] theorem geS_c (A : Arr α) (s : α) : (geS A s).c = A.c := rfl
@[simp] theorem geS_ok (A : Arr α) (s : α) : (geS A s).ok = A.ok := rfl
@[simp] theorem geS_get (A : Arr α) (s : α) (i j : Nat) : (geS A s).get i j = RealLike.le s (A.get i j) := rfl

@[simp] theorem gtA_r (A B : Arr α) : (gtA A B).r = bdim A.r B.r := rfl
@[simp] theorem gtA_c (A B : Arr α) : (gtA A B).c = bdim A.c B.c := rfl
@[simp] theorem gtA_ok (A B : Arr α) : (gtA A B).ok = (A.ok && B.ok && bok A.r B.r && bok A.c B.c) := rfl
@[simp] theorem gtA_get (A B : Arr α) (i j : Nat) :
    (gtA A B).get i j = RealLike.lt (B.get (bidx B.r i) (bidx B.c j)) (A.get (bidx A.r i) (bidx A.c j)) := rfl

@[simp] theorem whereSA_r (M : Arr Bool) (s : α) (A : Arr α) : (whereSA M s A).r = bdim M.r A.r := rfl
@[simp] theorem whereSA_c (M : Arr Bool) (s : α) (A : Arr α) : (whereSA M s A).c = bdim M.c A.c := rfl
@[simp] theorem whereSA_ok (M : Arr Bool) (s : α) (A : Arr α) :
    (whereSA M s A).ok = (M.ok && A.ok && bok M.r A.r && bok M.c A.c) := rfl
@[simp] theorem whereSA_get (M : Arr Bool) (s : α) (A : Arr α) (i j : Nat) :
    (whereSA M s A).get i j = if M.get (bidx M.r i) (bidx M.c j) then s else A.get (bidx A.r i) (bidx A.c j) := rfl

@[simp] theorem whereSS_r (M : Arr Bool) (s t : α) : (whereSS M s t).r = M.r := rfl
@[simp] theorem whereSS_c (M : Arr Bool) (s t : α) : (whereSS M s t).c = M.c := rfl
@[simp] theorem whereSS_ok (M : Arr Bool) (s t : α) : (whereSS M s t).ok = M.ok := rfl
@[simp] theorem whereSS_get (M : Arr Bool) (s t : α) (i j : Nat) :
    (whereSS M s t).get i j = if M.get i j then s else t := rfl

@[simp] theorem normAxis1_r (A : Arr α) : (normAxis1 A).r = A.r := rfl
@[simp] theorem normAxis1_c (A : Arr α) : (normAxis1 A).c = 1 := rfl
@[simp] theorem normAxis1_ok (A : Arr α) : (normAxis1 A).ok = A.ok := rfl
@[simp] theorem normAxis1_get (A : Arr α) (i j : Nat) :
    (normAxis1 A).get i j = RealLike.sqrt (sumLTo A.c fun l => A.get i l * A.get i l) := rfl

@[simp] theorem sortAxis1_r (A : Arr α) : (sortAxis1 A).r = A.r := rfl
@[simp] theorem sortAxis1_c (A : Arr α) : (sortAxis1 A).c = A.c := rfl
@[simp] theorem sortAxis1_ok (A : Arr α) : (sortAxis1 A).ok = A.ok := rfl
@[simp] theorem sortAxis1_get (A : Arr α) (i j : Nat) :
    (sortAxis1 A).get i j = (sortAsc (List.ofFn fun l : Fin A.c => A.get i l.val)).getD j 0 := rfl

@[simp] theorem flipCols_r (A : Arr α) : (flipCols A).r = A.r := rfl
@[simp] theorem flipCols_c (A : Arr α) : (flipCols A).c = A.c := rfl
@[simp] theorem flipCols_ok (A : Arr α) : (flipCols A).ok = A.ok := rfl
@[simp] theorem flipCols_get (A : Arr α) (i j : Nat) : (flipCols A).get i j = A.get i (A.c - 1 - j) := rfl

@[simp] theorem cumsumAxis1_r (A : Arr α) : (cumsumAxis1 A).r = A.r := rfl
@[simp] theorem cumsumAxis1_c (A : Arr α) : (cumsumAxis1 A).c = A.c := rfl
@[simp] theorem cumsumAxis1_ok (A : Arr α) : (cumsumAxis1 A).ok = A.ok := rfl
@[simp] theorem cumsumAxis1_get (A : Arr α) (i j : Nat) :
    (cumsumAxis1 A).get i j = cumsumTo (fun l => A.get i l) j := rfl

@[simp] theorem concat1_r (A B : Arr α) : (concat1 A B).r = A.r := rfl
@[simp] theorem concat1_c (A B : Arr α) : (concat1 A B).c = A.c + B.c := rfl
@[simp] theorem concat1_ok (A B : Arr α) : (concat1 A B).ok = (A.ok && B.ok && A.r == B.r) := rfl
@[simp] theorem concat1_get (A B : Arr α) (i j : Nat) :
    (concat1 A B).get i j = if j < A.c then A.get i j else B.get i (j - A.c) := rfl

@[simp] theorem countAxis1_r (M : Arr Bool) : (countAxis1 M).r = M.r := rfl
@[simp] theorem countAxis1_c (M : Arr Bool) : (countAxis1 M).c = 1 := rfl
@[simp] theorem countAxis1_ok (M : Arr Bool) : (countAxis1 M).ok = M.ok := rfl
@[simp] theorem countAxis1_get (M : Arr Bool) (i j : Nat) :
    (countAxis1 M).get i j = countTo M.c fun l => M.get i l := rfl

@[simp] theorem takeAlong1_r (A : Arr α) (I : Arr Nat) : (takeAlong1 A I).r = bdim A.r I.r := rfl
@[simp] theorem takeAlong1_c (A : Arr α) (I : Arr Nat) : (takeAlong1 A I).c = I.c := rfl
theorem takeAlong1_ok (A : Arr α) (I : Arr Nat) :
    (takeAlong1 A I).ok = (A.ok && I.ok && bok A.r I.r &&
      (List.range (bdim A.r I.r)).all fun i => (List.range I.c).all fun j => decide (I.get (bidx I.r i) j < A.c)) := rfl
@[simp] theorem takeAlong1_get (A : Arr α) (I : Arr Nat) (i j : Nat) :
    (takeAlong1 A I).get i j = A.get (bidx A.r i) (I.get (bidx I.r i) j) := rfl

theorem takeAlong1_ok_col {A : Arr α} {I : Arr Nat} (hA : A.ok = true) (hI : I.ok = true) (hr : I.r = A.r) (hc : I.c = 1) :
    (takeAlong1 A I).ok = true ↔ ∀ i, i < A.r → I.get i 0 < A.c := by
  rw [takeAlong1_ok, hA, hI, hr, hc]
  simp only [bok_self, Bool.and_self, Bool.true_and, bdim_self, List.all_eq_true, List.mem_range, decide_eq_true_eq]
  constructor
  · intro h i hi
    have := h i hi 0 Nat.one_pos
    rwa [bidx_of_lt hi] at this
  · intro h i hi j hj
    obtain rfl : j = 0 := Nat.lt_one_iff.mp hj
    rw [bidx_of_lt hi]; exact h i hi

@[simp] theorem reshape2_r (A : Arr α) (r c : Nat) : (reshape2 A r c).r = r := rfl
@[simp] theorem reshape2_c (A : Arr α) (r c : Nat) : (reshape2 A r c).c = c := rfl
@[simp] theorem reshape2_ok (A : Arr α) (r c : Nat) : (reshape2 A r c).ok = (A.ok && A.r * A.c == r * c) := rfl
@[simp] theorem reshape2_get (A : Arr α) (r c i j : Nat) :
    (reshape2 A r c).get i j = A.get ((i * c + j) / A.c) ((i * c + j) % A.c) := rfl

@[simp] theorem flattenRow_r (A : Arr α) : (flattenRow A).r = 1 := rfl
@[simp] theorem flattenRow_c (A : Arr α) : (flattenRow A).c = A.r * A.c := rfl
@[simp] theorem flattenRow_ok (A : Arr α) : (flattenRow A).ok = A.ok := rfl
@[simp] theorem flattenRow_get (A : Arr α) (i p : Nat) : (flattenRow A).get i p = A.get (p / A.c) (p % A.c) := rfl

@[simp] theorem takeRows_r (A : Arr α) (g : List Nat) : (takeRows A g).r = g.length := rfl
@[simp] theorem takeRows_c (A : Arr α) (g : List Nat) : (takeRows A g).c = A.c := rfl
@[simp] theorem takeRows_ok (A : Arr α) (g : List Nat) :
    (takeRows A g).ok = (A.ok && g.all fun i => decide (i < A.r)) := rfl
@[simp] theorem takeRows_get (A : Arr α) (g : List Nat) (q j : Nat) : (takeRows A g).get q j = A.get (g.getD q 0) j := rfl

@[simp] theorem setRows_r (A : Arr α) (g : List Nat) (R : Arr α) : (setRows A g R).r = A.r := rfl
@[simp] theorem setRows_c (A : Arr α) (g : List Nat) (R : Arr α) : (setRows A g R).c = A.c := rfl
@[simp] theorem setRows_ok (A : Arr α) (g : List Nat) (R : Arr α) :
    (setRows A g R).ok = (A.ok && R.ok && (g.all fun i => decide (i < A.r)) && (R.r == g.length || R.r == 1)
      && (R.c == A.c || R.c == 1)) := rfl
theorem setRows_get (A : Arr α) (g : List Nat) (R : Arr α) (i j : Nat) :
    (setRows A g R).get i j = match lastIdx g i with
      | some q => R.get (bidx R.r q) (bidx R.c j)
      | none => A.get i j := rfl

end Arr

section lists
variable {α : Type} [RealLike α]
open Model.Prox

theorem sqrt_sumLTo_eq_norm2 {n : Nat} (f : Nat → α) :
    RealLike.sqrt (sumLTo n fun l => f l * f l) = norm2 (fun l : Fin n => f l.val) := rfl

theorem cumsumTo_succ_eq_accTo (f : Nat → α) (j : Nat) :
    cumsumTo f (j + 1) = accTo (f 0) (fun l => f (l + 1)) j := by
  induction j with
  | zero => rfl
  | succ j ih => show cumsumTo f (j + 1) + f (j + 1 + 1) = _; rw [ih]; rfl

/-- `np.cumsum` of the DSL (`cumsumTo`) and of the model (`cumsum`) perform the same additions -/
theorem cumsum_getD (L : List α) (j : Nat) (hj : j < L.length) :
    (cumsum L).getD j 0 = cumsumTo (fun l => L.getD l 0) j := by
  cases L with
  | nil => exact absurd hj (by simp)
  | cons x xs =>
    cases j with
    | zero => simp [cumsum, cumsumTo]
    | succ j =>
      have hj' : j < xs.length := by simpa using hj
      rw [cumsum, List.getD_cons_succ, cumsumFrom_getD xs x j hj', cumsumTo_succ_eq_accTo]
      simp

/-- `np.concatenate([zeros, np.cumsum(L)])`, entry `s ≤ len(L)` -/
theorem zero_cumsum_getD (L : List α) (s : Nat) (hs : s ≤ L.length) :
    (0 :: cumsum L).getD s 0 = if s < 1 then 0 else cumsumTo (fun l => L.getD l 0) (s - 1) := by
  cases s with
  | zero => simp
  | succ s =>
    have h1 : ¬ (s + 1 < 1) := Nat.not_lt.mpr (Nat.succ_le_succ (Nat.zero_le s))
    rw [List.getD_cons_succ, if_neg h1, cumsum_getD L s hs]
    rfl

/-- what the sort needs from the Boolean comparison `RealLike.le`: a total order on the values -/
structure OrderLaws (α : Type) [RealLike α] : Prop where
  total : ∀ a b : α, RealLike.le a b = true ∨ RealLike.le b a = true
  trans : ∀ a b c : α, RealLike.le a b = true → RealLike.le b c = true → RealLike.le a c = true
  antisymm : ∀ a b : α, RealLike.le a b = true → RealLike.le b a = true → a = b

theorem insertAsc_eq (x : α) (l : List α) :
    insertAsc x l = l.orderedInsert (fun a b => RealLike.le a b = true) x := by
  induction l with
  | nil => rfl
  | cons y ys ih => simp only [insertAsc, List.orderedInsert_cons, ih]

theorem sortAsc_eq (l : List α) : sortAsc l = l.insertionSort (fun a b => RealLike.le a b = true) := by
  induction l with
  | nil => rfl
  | cons x xs ih =>
    show insertAsc x (sortAsc xs) = _
    rw [insertAsc_eq, ih]; rfl

theorem sortAsc_perm (l : List α) : (sortAsc l).Perm l := by
  rw [sortAsc_eq]; exact List.perm_insertionSort _ l

theorem sortAsc_length (l : List α) : (sortAsc l).length = l.length := (sortAsc_perm l).length_eq

/-- Under the order laws, the ascending sort of the DSL read backwards (`np.sort(·)[::-1]`) is the model's
    `sortDesc`: both are the one non-increasing rearrangement of the values. -/
theorem reverse_sortAsc (H : OrderLaws α) (l : List α) : (sortAsc l).reverse = sortDesc l := by
  have : Std.Total (fun a b : α => RealLike.le a b = true) := ⟨H.total⟩
  have : IsTrans α (fun a b : α => RealLike.le a b = true) := ⟨H.trans⟩
  have : Std.Total (fun a b : α => RealLike.le b a = true) := ⟨fun a b => H.total b a⟩
  have : IsTrans α (fun a b : α => RealLike.le b a = true) := ⟨fun a b c h1 h2 => H.trans c b a h2 h1⟩
  have h1 : (sortAsc l).reverse.Pairwise (fun a b => RealLike.le b a = true) := by
    rw [List.pairwise_reverse, sortAsc_eq]
    exact List.pairwise_insertionSort _ l
  have h2 : (sortDesc l).Pairwise (fun a b => RealLike.le b a = true) := by
    rw [sortDesc_eq_insertionSort]
    exact List.pairwise_insertionSort _ l
  have hp : (sortAsc l).reverse.Perm (sortDesc l) :=
    ((List.reverse_perm _).trans (sortAsc_perm l)).trans (sortDesc_perm l).symm
  exact hp.eq_of_pairwise (fun a b _ _ hab hba => H.antisymm a b hba hab) h1 h2

theorem countTo_congr {n : Nat} {p q : Nat → Bool} (h : ∀ s, s < n → p s = q s) : countTo n p = countTo n q := by
  unfold countTo
  rw [List.filter_congr (fun s hs => h s (List.mem_range.mp hs))]

theorem countTo_le (n : Nat) (p : Nat → Bool) : countTo n p ≤ n := by
  unfold countTo
  exact (List.length_filter_le _ _).trans (by simp)

theorem countTo_succ_le {n : Nat} {p : Nat → Bool} (h : p n = false) : countTo (n + 1) p ≤ n := by
  unfold countTo
  rw [List.range_succ, List.filter_append]
  simp only [List.filter_cons, h, List.filter_nil, List.length_append]
  have := countTo_le n p
  unfold countTo at this
  simpa using this

theorem countTo_succ_full {n : Nat} {p : Nat → Bool} (h : countTo (n + 1) p = n + 1) : p n = true := by
  by_contra hp
  have hp' : p n = false := by simpa using hp
  have := countTo_succ_le hp'
  omega

theorem lastIdxAux_nodup (i : Nat) : ∀ (xs : List Nat) (q : Nat) (acc : Option Nat), xs.Nodup →
    lastIdxAux i xs q acc = if i ∈ xs then some (q + xs.idxOf i) else acc := by
  intro xs
  induction xs with
  | nil => intro q acc _; simp [lastIdxAux]
  | cons x xs ih =>
    intro q acc hnd
    obtain ⟨hx, hnd'⟩ := List.nodup_cons.mp hnd
    rw [lastIdxAux, ih _ _ hnd']
    by_cases hxi : x = i
    · subst hxi
      simp [hx]
    · have hne : i ≠ x := fun h => hxi h.symm
      by_cases hmem : i ∈ xs
      · simp [hmem, List.idxOf_cons_ne _ hxi]; omega
      · simp [hmem, hxi, hne]

theorem lastIdx_of_nodup {g : List Nat} (hnd : g.Nodup) {q : Nat} (hq : q < g.length) :
    lastIdx g (g.getD q 0) = some q := by
  unfold lastIdx
  rw [lastIdxAux_nodup _ _ _ _ hnd, List.getD_eq_getElem _ _ hq, if_pos (List.getElem_mem hq), Nat.zero_add,
    hnd.idxOf_getElem]

theorem lastIdxAux_of_not_mem {i : Nat} : ∀ (xs : List Nat) (q : Nat) (acc : Option Nat), i ∉ xs →
    lastIdxAux i xs q acc = acc := by
  intro xs
  induction xs with
  | nil => intro q acc _; rfl
  | cons x xs ih =>
    intro q acc h
    have hx : x ≠ i := fun e => h (by simp [e])
    have hxs : i ∉ xs := fun e => h (by simp [e])
    rw [lastIdxAux, if_neg hx]
    exact ih _ _ hxs

theorem lastIdx_of_not_mem {g : List Nat} {i : Nat} (h : i ∉ g) : lastIdx g i = none :=
  lastIdxAux_of_not_mem g 0 none h

theorem lastIdxAux_of_mem {i : Nat} : ∀ (xs : List Nat) (q : Nat) (acc : Option Nat), i ∈ xs →
    ∃ r, lastIdxAux i xs q acc = some (q + r) ∧ xs[r]? = some i := by
  intro xs
  induction xs with
  | nil => intro q acc h; exact absurd h (by simp)
  | cons x xs ih =>
    intro q acc h
    rw [lastIdxAux]
    by_cases hxs : i ∈ xs
    · obtain ⟨r, hr, hget⟩ := ih (q + 1) (if x = i then some q else acc) hxs
      exact ⟨r + 1, by rw [hr]; congr 1; omega, by simpa using hget⟩
    · have hx : x = i := by
        rcases List.mem_cons.mp h with e | e
        · exact e.symm
        · exact absurd e hxs
      rw [lastIdxAux_of_not_mem _ _ _ hxs, if_pos hx]
      exact ⟨0, rfl, by simp [hx]⟩

theorem lastIdx_of_mem {g : List Nat} {i : Nat} (h : i ∈ g) : ∃ r, lastIdx g i = some r ∧ g[r]? = some i := by
  obtain ⟨r, hr, hget⟩ := lastIdxAux_of_mem g 0 none h
  exact ⟨r, by rw [lastIdx, hr, Nat.zero_add], hget⟩

namespace Arr

theorem setRows_get_fin {d : Nat} (A : Arr α) (g : List (Fin d)) (R : Arr α) (i : Fin d) (j : Nat) :
    (i ∉ g ∧ (setRows A (g.map Fin.val) R).get i.val j = A.get i.val j) ∨
    (∃ r : Fin g.length, g.get r = i ∧
      (setRows A (g.map Fin.val) R).get i.val j = R.get (bidx R.r r.val) (bidx R.c j)) := by
  rw [setRows_get]
  by_cases hi : i ∈ g
  · obtain ⟨r, hr1, hr2⟩ := lastIdx_of_mem (List.mem_map.mpr ⟨i, hi, rfl⟩)
    obtain ⟨hrlt, hgr⟩ := List.getElem?_eq_some_iff.mp hr2
    rw [List.length_map] at hrlt
    rw [List.getElem_map] at hgr
    exact Or.inr ⟨⟨r, hrlt⟩, Fin.ext hgr, by rw [hr1]⟩
  · have hni : i.val ∉ g.map Fin.val := fun hmem => by
      obtain ⟨i', hi', he⟩ := List.mem_map.mp hmem
      exact hi (Fin.ext he ▸ hi')
    exact Or.inl ⟨hi, by rw [lastIdx_of_not_mem hni]⟩

theorem all_val_lt {d : Nat} (g : List (Fin d)) {r : Nat} (hr : r = d) : (g.map Fin.val).all (fun i => decide (i < r)) = true :=
  List.all_eq_true.mpr fun x hx => by
    obtain ⟨i, _, rfl⟩ := List.mem_map.mp hx
    exact decide_eq_true (hr ▸ i.isLt)

theorem IsMat.takeRows {d n : Nat} {A : Arr α} {f : Fin d → Fin n → α} (hA : IsMat A f) (g : List (Fin d)) :
    IsMat (takeRows A (g.map Fin.val)) (fun (q : Fin g.length) j => f (g.get q) j) := by
  obtain ⟨hok, hr, hc, hget⟩ := hA
  refine ⟨?_, by simp, hc, fun q j => ?_⟩
  · rw [takeRows_ok, hok, all_val_lt g hr]; rfl
  · have hq : q.val < (g.map Fin.val).length := by simp
    rw [takeRows_get, List.getD_eq_getElem _ _ hq, List.getElem_map]
    exact hget _ j

/-- `A.reshape((1, -1))`: the model's row-major flattening (`unflat`) -/
theorem IsMat.flattenRow {m n : Nat} {A : Arr α} {f : Fin m → Fin n → α} (hA : IsMat A f) :
    IsMat (flattenRow A) (fun (_ : Fin 1) (p : Fin (m * n)) => f (unflat p).1 (unflat p).2) := by
  obtain ⟨hok, hr, hc, hget⟩ := hA
  subst hr hc
  refine ⟨hok, rfl, rfl, fun _ p => ?_⟩
  exact hget (unflat p).1 (unflat p).2

/-- `R.reshape((m, n))` of a `(1, m·n)` row: entry `(q, j)` is entry `q·n + j` of the row (the model's `flatIdx`) -/
theorem IsMat.unflattenRow {m n : Nat} {R : Arr α} {r : Fin (m * n) → α} (hR : IsMat R (fun (_ : Fin 1) p => r p)) :
    IsMat (reshape2 R m n) (fun q j => r (flatIdx q j)) := by
  obtain ⟨hok, hr, hc, hget⟩ := hR
  refine ⟨by simp [hok, hr, hc], rfl, rfl, fun q j => ?_⟩
  have hlt : q.val * n + j.val < m * n := (flatIdx q j).isLt
  rw [reshape2_get, hc, Nat.div_eq_of_lt hlt, Nat.mod_eq_of_lt hlt]
  exact hget ⟨0, Nat.one_pos⟩ (flatIdx q j)

theorem IsMat.takeAlong1 {n k : Nat} {A : Arr α} {f : Fin n → Fin k → α} (hA : IsMat A f) {I : Arr Nat}
    (hI : I.ok = true) (hr : I.r = n) (hc : I.c = 1) {t : Fin n → Nat} (hget : ∀ i : Fin n, I.get i.val 0 = t i)
    (ht : ∀ i, t i < k) : IsMat (takeAlong1 A I) (fun i (_ : Fin 1) => f i ⟨t i, ht i⟩) := by
  obtain ⟨hok, hAr, hAc, -⟩ := id hA
  refine ⟨?_, ?_, hc, fun i j => ?_⟩
  · refine (takeAlong1_ok_col hok hI (hr.trans hAr.symm) hc).mpr fun i hi => ?_
    rw [hAr] at hi
    rw [hget ⟨i, hi⟩, hAc]; exact ht _
  · rw [takeAlong1_r, hAr, hr, bdim_self]
  · have hj : j.val = 0 := Nat.lt_one_iff.mp j.isLt
    rw [takeAlong1_get, hAr, hr, bidx_of_lt i.isLt, hj, hget i]
    exact hA.get_nat i.isLt (ht i)

theorem IsMat.reshape2_self {n k : Nat} {A : Arr α} {f : Fin n → Fin k → α} (hA : IsMat A f) :
    IsMat (reshape2 A n k) f := by
  obtain ⟨hok, hr, hc, hget⟩ := hA
  refine ⟨by simp [hok, hr, hc], rfl, rfl, fun i j => ?_⟩
  have hlt : i.val * k + j.val < n * k := (flatIdx i j).isLt
  rw [reshape2_get, hc]
  have h1 : (i.val * k + j.val) / k = i.val := by
    rw [Nat.mul_comm, Nat.mul_add_div (Nat.zero_lt_of_lt j.isLt), Nat.div_eq_of_lt j.isLt, Nat.add_zero]
  have h2 : (i.val * k + j.val) % k = j.val := by
    rw [Nat.mul_comm, Nat.mul_add_mod, Nat.mod_eq_of_lt j.isLt]
  rw [h1, h2]; exact hget i j

theorem IsMat.normAxis1 {n k : Nat} {A : Arr α} {f : Fin n → Fin k → α} (hA : IsMat A f) :
    IsMat (normAxis1 A) (fun i (_ : Fin 1) => norm2 (f i)) := by
  obtain ⟨hok, hr, hc, hget⟩ := hA
  subst hr hc
  refine ⟨hok, rfl, rfl, fun i j => ?_⟩
  simp only [normAxis1_get, sumLTo, hget]
  rfl

/-- `np.sort(A, axis=1)[:, ::-1]` -/
theorem IsMat.sortFlip (H : OrderLaws α) {n k : Nat} {A : Arr α} {f : Fin n → Fin k → α} (hA : IsMat A f) :
    IsMat (flipCols (sortAxis1 A)) (fun i (j : Fin k) => (sortDesc (List.ofFn (f i))).getD j.val 0) := by
  obtain ⟨hok, hr, hc, hget⟩ := hA
  subst hr hc
  refine ⟨hok, rfl, rfl, fun i j => ?_⟩
  simp only [flipCols_get, sortAxis1_get, sortAxis1_c, hget]
  rw [← reverse_sortAsc H, List.getD_reverse _ (by rw [sortAsc_length, List.length_ofFn]; exact j.isLt), sortAsc_length,
    List.length_ofFn]

end Arr

theorem cumsumTo_congr {f g : Nat → α} {j : Nat} (h : ∀ l, l ≤ j → f l = g l) : cumsumTo f j = cumsumTo g j := by
  induction j with
  | zero => exact h 0 (Nat.le_refl _)
  | succ j ih =>
    show cumsumTo f j + f (j + 1) = cumsumTo g j + g (j + 1)
    rw [ih (fun l hl => h l (Nat.le_succ_of_le hl)), h (j + 1) (Nat.le_refl _)]

end lists

attribute [np] Arr.zeros_r Arr.zeros_c Arr.zeros_ok Arr.zeros_get Arr.full_r Arr.full_c Arr.full_ok Arr.full_get
  Arr.empty_r Arr.empty_c Arr.empty_ok Arr.empty_get Arr.arange_r Arr.arange_c Arr.arange_ok Arr.arange_get Arr.geS_r
  Arr.geS_c Arr.geS_ok Arr.geS_get Arr.gtA_r Arr.gtA_c Arr.gtA_ok Arr.gtA_get Arr.whereSA_r Arr.whereSA_c
  Arr.whereSA_ok Arr.whereSA_get Arr.whereSS_r Arr.whereSS_c Arr.whereSS_ok Arr.whereSS_get Arr.normAxis1_r
  Arr.normAxis1_c Arr.normAxis1_ok Arr.normAxis1_get Arr.sortAxis1_r Arr.sortAxis1_c Arr.sortAxis1_ok
  Arr.sortAxis1_get Arr.flipCols_r Arr.flipCols_c Arr.flipCols_ok Arr.flipCols_get Arr.cumsumAxis1_r Arr.cumsumAxis1_c
  Arr.cumsumAxis1_ok Arr.cumsumAxis1_get Arr.concat1_r Arr.concat1_c Arr.concat1_ok Arr.concat1_get Arr.countAxis1_r
  Arr.countAxis1_c Arr.countAxis1_ok Arr.countAxis1_get Arr.takeAlong1_r Arr.takeAlong1_c Arr.takeAlong1_get
  Arr.reshape2_r Arr.reshape2_c Arr.reshape2_ok Arr.reshape2_get Arr.flattenRow_r Arr.flattenRow_c Arr.flattenRow_ok
  Arr.flattenRow_get Arr.takeRows_r Arr.takeRows_c Arr.takeRows_ok Arr.takeRows_get Arr.setRows_r Arr.setRows_c
  Arr.setRows_ok Arr.minimum

end GemVerif.Np
