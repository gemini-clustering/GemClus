/-
  For Props/C01Gen.lean: the arrays of `MMDGEMINI.evaluate` as lemmas about array variables, whatever expressions or
  temporaries hold them — generic in the number type up to `delta`, over ℝ where the source and the hand model of
  Model/Gemini.lean associate differently (the outer product `pi.T @ pi` as a one-term sum, `x - x` on a diagonal,
  centring by a matrix product).
-/
import GemVerif.NumReal
import GemVerif.Lemmas.Np2
import GemVerif.Gen.Geminis
import GemVerif.Model.Gemini

namespace GemVerif.Lemmas.GeminiGen
open GemVerif.RealLike GemVerif.Np GemVerif.Np.Arr GemVerif.Model

section generic
variable {α : Type} [RealLike α] {n K : Nat} {ε : α} {P : Fin n → Fin K → α} {κ : Fin n → Fin n → α}

theorem isMat_alpha {y pi : Arr α} (hy : IsMat y (clipP ε P)) (hpi : IsRow pi (mean0 (clipP ε P))) :
    IsMat (div y pi) (mmdAlpha ε P) := by
  simp only [IsMat, np, mmdAlpha, hy.rules, hpi.rules]

theorem isMat_gamma {alpha nk : Arr α} (hal : IsMat alpha (mmdAlpha ε P))
    (hnk : IsMat nk (fun i j : Fin n => κ i j / (nat n * nat n))) : IsMat (matmul nk alpha) (mmdGamma ε P κ) := by
  obtain ⟨hok, hr, hc, hget⟩ := hnk.matmul hal
  exact ⟨hok, hr, hc, fun i k => by simp only [hget, mmdGamma, tab2_apply']⟩

/-- The NumPy expressions of the first lines of `MMDGEMINI.evaluate` (both modes), with names.  Rewriting a goal with the
    five equations (in one `simp only`: each pass walks the whole unfolded definition) names the expressions wherever
    they occur, whatever temporaries the source uses for them. -/
theorem mmd_prefix_named (ε : α) (P : Fin n → Fin K → α) (κ : Fin n → Fin n → α) :
    ∃ y1 pi alpha nk gamma : Arr α, Arr.clip (ofFn P) ε (1 - ε) = y1 ∧ meanAxis0 y1 = pi ∧ div y1 pi = alpha ∧
      divs (ofFn κ) (nat n * nat n) = nk ∧ matmul nk alpha = gamma ∧
      IsMat y1 (clipP ε P) ∧ IsRow pi (mean0 (clipP ε P)) ∧ IsMat alpha (mmdAlpha ε P) ∧
      IsMat nk (fun i j => κ i j / (nat n * nat n)) ∧ IsMat gamma (mmdGamma ε P κ) :=
  have hy : IsMat (Arr.clip (ofFn P) ε (1 - ε)) (clipP ε P) := (isMat_ofFn P).clip ε (1 - ε)
  have hal := isMat_alpha hy hy.meanAxis0
  have hnk := (isMat_ofFn κ).divs (nat n * nat n)
  ⟨_, _, _, _, _, rfl, rfl, rfl, rfl, rfl, hy, hy.meanAxis0, hal, hnk, isMat_gamma hal hnk⟩

/-- one-vs-all: `delta = sqrt(max(a + c - 2 b, 0))` from `alpha`, `gamma` and the normalised kernel -/
theorem isRow_deltaOva {alpha gamma nk : Arr α} (hal : IsMat alpha (mmdAlpha ε P)) (hga : IsMat gamma (mmdGamma ε P κ))
    (hnk : IsMat nk (fun i j : Fin n => κ i j / (nat n * nat n))) :
    IsRow (sqrt (maximum0 (sub (add (sumAxis0 (mul alpha gamma)) (sumAll nk)) (smul (nat 2) (sumAxis0 gamma)))))
      (mmdDeltaOva ε P κ) := by
  simp only [IsRow, np, mmdDeltaOva, hnk.rules, hal.rules, hga.rules]

/-- one-vs-one: `delta = sqrt(max(-2 omega + A + A.T, 0))` -/
theorem isMat_deltaOvo {omega A : Arr α}
    (hom : IsMat omega (fun a b : Fin K => sumFin fun i => mmdAlpha ε P i a * mmdGamma ε P κ i b))
    (hA : IsRow A (fun b : Fin K => sumFin fun i => mmdAlpha ε P i b * mmdGamma ε P κ i b)) :
    IsMat (sqrt (maximum0 (add (add (smul (-(nat 2)) omega) A) (transpose A)))) (mmdDeltaOvo ε P κ) := by
  simp only [IsMat, np, mmdDeltaOvo, hom.rules, hA.rules]

/-- `MMDGEMINI(ovo=False).evaluate(P, κ, return_grad=True)` on a non-empty batch raises no NumPy error and returns an
    `n × K` gradient. -/
theorem mmd_ova_grad_shape (hn : 0 < n) (ε : α) (P : Fin n → Fin K → α) (κ : Fin n → Fin n → α) :
    (Gen.Geminis.mmd_ova_grad ε (ofFn P) (ofFn κ)).2.ok = true ∧ (Gen.Geminis.mmd_ova_grad ε (ofFn P) (ofFn κ)).2.r = n ∧
      (Gen.Geminis.mmd_ova_grad ε (ofFn P) (ofFn κ)).2.c = K := by
  simp [Gen.Geminis.mmd_ova_grad, sub, mul, add, div, Nat.pos_iff_ne_zero.mp hn]

/-- `MMDGEMINI(ovo=True).evaluate(P, κ, return_grad=True)` raises no NumPy error (the in-place updates of `Lambda` and
    `gradient` all keep their shapes) and returns an `n × K` gradient. -/
theorem mmd_ovo_grad_shape (ε : α) (P : Fin n → Fin K → α) (κ : Fin n → Fin n → α) :
    (Gen.Geminis.mmd_ovo_grad ε (ofFn P) (ofFn κ)).2.ok = true ∧ (Gen.Geminis.mmd_ovo_grad ε (ofFn P) (ofFn κ)).2.r = n ∧
      (Gen.Geminis.mmd_ovo_grad ε (ofFn P) (ofFn κ)).2.c = K := by
  simp only [np, Gen.Geminis.mmd_ovo_grad]

end generic

section real
variable {K : ℕ}

/-- `(pi.T @ pi) / (delta + np.eye(len(delta)))`: the outer product is a sum of one term -/
theorem isMat_outer_div {pi delta : Arr ℝ} {p : Fin K → ℝ} {d : Fin K → Fin K → ℝ} (hpi : IsRow pi p)
    (hde : IsMat delta d) :
    IsMat (div (matmul (transpose pi) pi) (add delta (eye delta.r)))
      (fun a b => p a * p b / (d a b + if a = b then 1 else 0)) := by
  simp [IsMat, add, div, hpi.rules, hde.rules, Fin.val_inj]

/-- `L -= np.diag(np.diag(L))`: `x - x` on the diagonal, `x - 0` off it -/
theorem isMat_subDiag {L : Arr ℝ} {f : Fin K → Fin K → ℝ} (h : IsMat L f) :
    IsMat (inPlace L (sub L (diagMat (diagVec L)))) (fun a b => if a = b then 0 else f a b) := by
  simp only [IsMat, np, h.rules]
  intro a b
  by_cases hab : a = b
  · subst hab; simp
  · have hv : (a : ℕ) ≠ b := fun e => hab (Fin.ext e)
    simp [hab, hv]

end real

/-- `((I - c) @ M) @ x`, entry `i`, is `(M @ x)[i] - c * Σ_m (M @ x)[m]`: multiplying on the left by the identity
    minus a constant subtracts `c` times the column sums.  (`I` is read as NumPy's `np.eye` is: by comparing the
    two indices as natural numbers.) -/
theorem centering_matmul {n : ℕ} (c : ℝ) (M : Fin n → Fin n → ℝ) (x : Fin n → ℝ) (i : Fin n) :
    ∑ l, (∑ m : Fin n, ((if (i : ℕ) = (m : ℕ) then (1 : ℝ) else 0) - c) * M m l) * x l
      = ∑ j, M i j * x j - c * ∑ m, ∑ j, M m j * x j := by
  -- distribute, collapse the sum against the identity's row `i`, take `c` out, exchange the two sums
  simp only [sub_mul, Finset.sum_sub_distrib, Fin.val_inj, ite_mul, one_mul, zero_mul, Finset.sum_ite_eq,
    Finset.mem_univ, if_true, mul_assoc, ← Finset.mul_sum]
  rw [Finset.sum_comm]
  simp only [Finset.sum_mul]

/-- `tau_grad = (np.eye(N) - 1/N) @ M @ X`: the product `M @ X` minus its column means -/
theorem isMat_centering {n K : ℕ} {nk X : Arr ℝ} {M : Fin n → Fin n → ℝ} {x : Fin n → Fin K → ℝ} (hnk : IsMat nk M)
    (hX : IsMat X x) :
    IsMat (matmul (matmul (subs (eye n) (1 / nat n)) nk) X)
      (fun i k => (∑ j, M i j * x j k) - (∑ i', ∑ j, M i' j * x j k) / n) := by
  simp only [IsMat, np, hnk.rules, hX.rules, sumFin_eq_sum, nat_real]
  intro i k
  refine (centering_matmul _ _ _ i).trans ?_
  ring

end GemVerif.Lemmas.GeminiGen
