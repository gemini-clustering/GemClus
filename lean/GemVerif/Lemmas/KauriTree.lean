/-
  The array-encoded tree of `gemclus/tree/kauri.py` as a data structure: `a[i]!` after `set!` / `push` / `toArray` /
  `ofFn`, the notion `Sized` (every per-node array has one entry per node) and what `Tree._add_child` does to each node.
  Shared by the split search (KauriC08, KauriStocks), the fit invariants (KauriC09) and the printer (KauriC19);
  declared in namespace `KauriC09`.  Also the step equations of `Tree.route`.  No Mathlib.
-/
import GemVerif.Model.Kauri

namespace GemVerif.KauriC09
open RealLike Model.Kauri

section arr
variable {β : Type} [Inhabited β]

theorem getElem?_of_lt (a : Array β) (i : Nat) (h : i < a.size) : a[i]? = some a[i]! := by
  simp [h]

theorem getElem!_toArray (L : List β) (m : Nat) (hm : m < L.length) : L.toArray[m]! = L[m] := by
  simp [hm]

theorem getElem!_ofFn {n : Nat} (g : Fin n → β) (c : Nat) (hc : c < n) : (Array.ofFn g)[c]! = g ⟨c, hc⟩ := by
  simp [hc]

theorem get_set (a : Array β) (i j : Nat) (v : β) (hj : j < a.size) :
    (a.set! i v)[j]! = if i = j then v else a[j]! := by
  simp [hj, Array.getElem_setIfInBounds]

theorem get_set_eq (a : Array β) (i : Nat) (v : β) (h : i < a.size) : (a.set! i v)[i]! = v := by
  simp [h]

theorem get_pp_lt (a : Array β) (k : Nat) (x y : β) (hk : k < a.size) : ((a.push x).push y)[k]! = a[k]! := by
  simp [hk, Nat.lt_succ_of_lt hk, Nat.lt_succ_of_lt (Nat.lt_succ_of_lt hk), Array.getElem_push]

theorem get_pp_n (a : Array β) (x y : β) : ((a.push x).push y)[a.size]! = x := by
  rw [getElem!_pos _ _ (by simp; omega), Array.getElem_push_lt (by simp), Array.getElem_push_eq]

theorem get_pp_n1 (a : Array β) (x y : β) : ((a.push x).push y)[a.size + 1]! = y := by
  simp [Array.getElem_push]

omit [Inhabited β] in
theorem size_set (a : Array β) (i : Nat) (v : β) : (a.set! i v).size = a.size := by
  simp

omit [Inhabited β] in
theorem size_pp (a : Array β) (x y : β) : ((a.push x).push y).size = a.size + 2 := by
  simp

omit [Inhabited β] in
theorem size_spp (a : Array β) (F : Nat) (v x y : β) : (((a.set! F v).push x).push y).size = a.size + 2 := by
  simp

theorem get_spp_lt (a : Array β) (F k : Nat) (v x y : β) (hk : k < a.size) :
    (((a.set! F v).push x).push y)[k]! = if F = k then v else a[k]! := by
  rw [get_pp_lt _ _ _ _ ((size_set ..).symm ▸ hk), get_set _ _ _ _ hk]

theorem get_spp_n (a : Array β) (F : Nat) (v x y : β) : (((a.set! F v).push x).push y)[a.size]! = x := by
  have := get_pp_n (a.set! F v) x y
  rwa [size_set] at this

theorem get_spp_n1 (a : Array β) (F : Nat) (v x y : β) : (((a.set! F v).push x).push y)[a.size + 1]! = y := by
  have := get_pp_n1 (a.set! F v) x y
  rwa [size_set] at this

omit [Inhabited β] in
/-- `for i in l: a[i] = v` -/
theorem size_foldl_set (l : List Nat) (v : β) (a : Array β) :
    (l.foldl (fun (acc : Array β) i => acc.set! i v) a).size = a.size := by
  induction l generalizing a with
  | nil => rfl
  | cons x xs ih => rw [List.foldl_cons, ih]; simp

theorem get_foldl_set (l : List Nat) (v : β) (a : Array β) (j : Nat) (hj : j < a.size) :
    (l.foldl (fun (acc : Array β) i => acc.set! i v) a)[j]! = if j ∈ l then v else a[j]! := by
  induction l generalizing a with
  | nil => simp
  | cons x xs ih =>
    rw [List.foldl_cons, ih _ (by simpa using hj)]
    by_cases h1 : j ∈ xs
    · simp [h1]
    · by_cases h2 : j = x
      · subst h2; simp [h1, hj]
      · have : x ≠ j := fun h => h2 h.symm
        rw [get_set _ _ _ _ hj, if_neg this]; simp [h1, h2]

end arr

/-- a node index is not the marker `-1` of a missing child -/
theorem natCast_ne_neg_one (n : Nat) : (n : Int) ≠ -1 := by
  omega

theorem get_replicate_zero (m i : Nat) : (Array.replicate m (0 : Nat))[i]! = 0 := by
  by_cases h : i < m <;> simp [h]

variable {α : Type} [RealLike α]

/-- every per-node array that `predict` and the printer read has one entry per node -/
structure Sized (t : Tree α) : Prop where
  left : t.left.size = t.nNodes
  right : t.right.size = t.nNodes
  target : t.target.size = t.nNodes
  thr : t.thr.size = t.nNodes
  feat : t.feat.size = t.nNodes
  depths : t.depths.size = t.nNodes

section tree
variable (t : Tree α) (F : Nat) (b : Split α)

theorem addChild_nNodes : (t.addChild F b).nNodes = t.nNodes + 2 := rfl

theorem addChild_size_gains : (t.addChild F b).gains.size = t.gains.size + 2 := size_spp ..

theorem addChild_left_lt (h : t.left.size = t.nNodes) {k : Nat} (hk : k < t.nNodes) :
    (t.addChild F b).left[k]! = if F = k then (t.nNodes : Int) else t.left[k]! :=
  get_spp_lt _ _ _ _ _ _ (h ▸ hk)

theorem addChild_right_lt (h : t.right.size = t.nNodes) {k : Nat} (hk : k < t.nNodes) :
    (t.addChild F b).right[k]! = if F = k then ((t.nNodes + 1 : Nat) : Int) else t.right[k]! :=
  get_spp_lt _ _ _ _ _ _ (h ▸ hk)

theorem addChild_thr_lt (h : t.thr.size = t.nNodes) {k : Nat} (hk : k < t.nNodes) :
    (t.addChild F b).thr[k]! = if F = k then some b.threshold else t.thr[k]! :=
  get_spp_lt _ _ _ _ _ _ (h ▸ hk)

theorem addChild_feat_lt (h : t.feat.size = t.nNodes) {k : Nat} (hk : k < t.nNodes) :
    (t.addChild F b).feat[k]! = if F = k then some b.feature else t.feat[k]! :=
  get_spp_lt _ _ _ _ _ _ (h ▸ hk)

theorem addChild_depths_lt (h : t.depths.size = t.nNodes) {k : Nat} (hk : k < t.nNodes) :
    (t.addChild F b).depths[k]! = t.depths[k]! :=
  get_pp_lt _ _ _ _ (h ▸ hk)

theorem addChild_target_lt (h : t.target.size = t.nNodes) {k : Nat} (hk : k < t.nNodes) :
    (t.addChild F b).target[k]! = t.target[k]! :=
  get_pp_lt _ _ _ _ (h ▸ hk)

theorem addChild_target_n (h : t.target.size = t.nNodes) : (t.addChild F b).target[t.nNodes]! = b.left :=
  h ▸ get_pp_n t.target b.left b.right

theorem addChild_target_n1 (h : t.target.size = t.nNodes) : (t.addChild F b).target[t.nNodes + 1]! = b.right :=
  h ▸ get_pp_n1 t.target b.left b.right

end tree

variable {t : Tree α}

theorem route_zero (t : Tree α) (x : Nat → α) (k : Nat) : t.route x 0 k = t.target[k]! := rfl

theorem route_leaf (t : Tree α) (x : Nat → α) (fuel k : Nat) (h : t.left[k]! = -1) :
    t.route x fuel k = t.target[k]! := by
  cases fuel with
  | zero => exact route_zero t x k
  | succ fuel => simp only [Tree.route, h, beq_self_eq_true, if_true]

/-- one test of `Tree.predict` at an internal node that has a threshold -/
theorem route_node (x : Nat → α) (fuel : Nat) {k : Nat} {th : α} (h : t.left[k]! ≠ -1) (hth : t.thr[k]! = some th) :
    t.route x (fuel + 1) k = if le (x ((t.feat[k]!).getD 0).toNat) th then t.route x fuel (t.left[k]!).toNat
      else t.route x fuel (t.right[k]!).toNat := by
  simp only [Tree.route, beq_iff_eq, h, if_false, hth]

theorem Sized.addChild (hs : Sized t) (F : Nat) (b : Split α) : Sized (t.addChild F b) :=
  ⟨(size_spp ..).trans (congrArg (· + 2) hs.left), (size_spp ..).trans (congrArg (· + 2) hs.right),
    (size_pp ..).trans (congrArg (· + 2) hs.target), (size_spp ..).trans (congrArg (· + 2) hs.thr),
    (size_spp ..).trans (congrArg (· + 2) hs.feat), (size_pp ..).trans (congrArg (· + 2) hs.depths)⟩

/-- the four entries of node `k` that `Tree.route` and the printer read -/
structure NodeIs (t : Tree α) (k : Nat) (l r : Int) (th : Option α) (f : Option Int) : Prop where
  left : t.left[k]! = l
  right : t.right[k]! = r
  thr : t.thr[k]! = th
  feat : t.feat[k]! = f

theorem addChild_old_of_size (hl : t.left.size = t.nNodes) (hr : t.right.size = t.nNodes)
    (ht : t.thr.size = t.nNodes) (hf : t.feat.size = t.nNodes) (F : Nat) (b : Split α) {k : Nat} (hk : k < t.nNodes)
    (hne : F ≠ k) : NodeIs (t.addChild F b) k t.left[k]! t.right[k]! t.thr[k]! t.feat[k]! :=
  ⟨(addChild_left_lt _ _ _ hl hk).trans (if_neg hne), (addChild_right_lt _ _ _ hr hk).trans (if_neg hne),
    (addChild_thr_lt _ _ _ ht hk).trans (if_neg hne), (addChild_feat_lt _ _ _ hf hk).trans (if_neg hne)⟩

theorem addChild_old (hs : Sized t) (F : Nat) (b : Split α) {k : Nat} (hk : k < t.nNodes) (hne : F ≠ k) :
    NodeIs (t.addChild F b) k t.left[k]! t.right[k]! t.thr[k]! t.feat[k]! :=
  addChild_old_of_size hs.left hs.right hs.thr hs.feat F b hk hne

theorem addChild_father (hs : Sized t) {F : Nat} (b : Split α) (hF : F < t.nNodes) :
    NodeIs (t.addChild F b) F (t.nNodes : Int) ((t.nNodes + 1 : Nat) : Int) (some b.threshold) (some b.feature) :=
  ⟨(addChild_left_lt _ _ _ hs.left hF).trans (if_pos rfl), (addChild_right_lt _ _ _ hs.right hF).trans (if_pos rfl),
    (addChild_thr_lt _ _ _ hs.thr hF).trans (if_pos rfl), (addChild_feat_lt _ _ _ hs.feat hF).trans (if_pos rfl)⟩

theorem addChild_new (hs : Sized t) (F : Nat) (b : Split α) {k : Nat} (h1 : t.nNodes ≤ k) (h2 : k < t.nNodes + 2) :
    NodeIs (t.addChild F b) k (-1) (-1) none none := by
  have hk : k = t.nNodes ∨ k = t.nNodes + 1 := by omega
  have hl := hs.left; have hr := hs.right; have ht := hs.thr; have hf := hs.feat
  rcases hk with rfl | rfl
  · exact ⟨hl ▸ get_spp_n .., hr ▸ get_spp_n .., ht ▸ get_spp_n .., hf ▸ get_spp_n ..⟩
  · exact ⟨hl ▸ get_spp_n1 .., hr ▸ get_spp_n1 .., ht ▸ get_spp_n1 .., hf ▸ get_spp_n1 ..⟩

/-- the nodes after `Tree._add_child`: an old node other than the father, the father, one of the two new leaves -/
theorem addChild_cases (hs : Sized t) (F : Nat) (b : Split α) {k : Nat} (hk : k < t.nNodes + 2) :
    (k < t.nNodes ∧ F ≠ k ∧ NodeIs (t.addChild F b) k t.left[k]! t.right[k]! t.thr[k]! t.feat[k]!) ∨
    (k < t.nNodes ∧ F = k ∧
      NodeIs (t.addChild F b) k (t.nNodes : Int) ((t.nNodes + 1 : Nat) : Int) (some b.threshold) (some b.feature)) ∨
    (t.nNodes ≤ k ∧ NodeIs (t.addChild F b) k (-1) (-1) none none) := by
  by_cases h1 : k < t.nNodes
  · by_cases h2 : F = k
    · exact .inr (.inl ⟨h1, h2, h2 ▸ addChild_father hs b (h2 ▸ h1)⟩)
    · exact .inl ⟨h1, h2, addChild_old hs F b h1 h2⟩
  · exact .inr (.inr ⟨Nat.le_of_not_lt h1, addChild_new hs F b (Nat.le_of_not_lt h1) hk⟩)

theorem addChild_depths_new (h : t.depths.size = t.nNodes) (F : Nat) (b : Split α) {k : Nat} (h1 : t.nNodes ≤ k)
    (h2 : k < t.nNodes + 2) : (t.addChild F b).depths[k]! = t.depths[F]! + 1 := by
  have hk : k = t.nNodes ∨ k = t.nNodes + 1 := by omega
  rcases hk with rfl | rfl
  · exact h ▸ get_pp_n ..
  · exact h ▸ get_pp_n1 ..

end GemVerif.KauriC09
