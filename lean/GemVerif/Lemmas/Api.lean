/-
  C04: the scan of `np.argmax` (`argmaxRow`) is a fold of `amStep`; `foldl_amStep_induction` is its invariant rule,
  used with `IdxInv` (every number type: the index stays inside the row) and `MaxInv` (over ℝ: it is the first index
  of a maximal entry).  The soft-max facts C04 needs are those of `Lemmas/Softmax.lean`.  The operations of the state
  machine (`fit`, `predict_proba`, `fit_predict`) have one equation per branch; C04 reasons from those.
-/
import GemVerif.Model.Api
import GemVerif.Lemmas.Softmax

namespace GemVerif.ApiLemmas
open GemVerif Model.Nets

section Generic
variable {α : Type} [RealLike α]

/-- the fold function of `argmaxRow` (a strictly larger entry replaces the running best) -/
def amStep (best : Option (α × Nat)) (x : α × Nat) : Option (α × Nat) :=
  match best with
  | none => some x
  | some (bv, bi) => if RealLike.lt bv x.1 then some x else some (bv, bi)

theorem argmaxRow_eq_fold {K : Nat} (z : Fin K → α) :
    argmaxRow z = (((List.ofFn z).zipIdx.foldl amStep none).map (·.2)).getD 0 := rfl

def IdxInv (m : Nat) (r : Option (α × Nat)) : Prop :=
  match r with
  | none => m = 0
  | some p => p.2 < m

theorem idxInv_step {m : Nat} {r : Option (α × Nat)} (h : IdxInv m r) (v : α) : IdxInv (m + 1) (amStep r (v, m)) := by
  match r, h with
  | none, _ => exact Nat.lt_succ_self m
  | some (bv, bi), h =>
    show IdxInv (m + 1) (if RealLike.lt bv v then some (v, m) else some (bv, bi))
    split
    · exact Nat.lt_succ_self m
    · exact Nat.lt_succ_of_lt h

theorem foldl_amStep_induction {K : Nat} (z : Fin K → α) (P : Nat → Option (α × Nat) → Prop) (h0 : P 0 none)
    (hstep : ∀ (m : Nat) (hm : m < K) (r : Option (α × Nat)), P m r → P (m + 1) (amStep r (z ⟨m, hm⟩, m))) :
    P K ((List.ofFn z).zipIdx.foldl amStep none) := by
  induction K with
  | zero => simpa using h0
  | succ K ih =>
    rw [List.ofFn_succ_last, List.zipIdx_append, List.foldl_append]
    simp only [List.length_ofFn, Nat.zero_add, List.zipIdx_singleton, List.foldl_cons, List.foldl_nil]
    exact hstep K (Nat.lt_succ_self K) _ (ih (fun i => z i.castSucc) fun m hm r => hstep m (Nat.lt_succ_of_lt hm) r)

theorem argmaxRow_lt {K : Nat} (z : Fin K → α) (hK : 0 < K) : argmaxRow z < K := by
  rw [argmaxRow_eq_fold]
  have h := foldl_amStep_induction z IdxInv rfl fun m _ r hr => idxInv_step hr _
  cases hr : (List.ofFn z).zipIdx.foldl amStep none with
  | none => simpa using hK
  | some p => rw [hr] at h; simpa [IdxInv] using h

/-! The state machine of `Model/Api.lean`, one equation per branch of `fit` and per state of the other operations
(`predict` and `score` have theirs in Props/C04: `predict_eq_argmax_predict_proba`, `score_eq_gemini`). -/

variable {K : Nat} {X Y Aff Params Opt Rng : Type} (F : Model.Api.Family α K X Y Aff Params Opt Rng)
  {e : Model.Api.Estimator Params Opt} {rng : Rng} {x : X} {y : Option Y}
open Model.Api

theorem fit_of_invalid (hv : e.cfg.valid K = false) : fit F e rng x y = .error .invalidParameter := by
  unfold fit
  rw [hv]
  rfl

theorem fit_of_tooFew (hv : e.cfg.valid K = true) (hn : F.rows x < K) : fit F e rng x y = .error .tooFewSamples := by
  unfold fit
  rw [hv, Bool.not_true, if_neg Bool.false_ne_true, if_pos hn]

theorem fit_of_noAffinity (hv : e.cfg.valid K = true) (hn : K ≤ F.rows x) (ha : F.affinity x y = none) :
    fit F e rng x y = .error .noAffinity := by
  unfold fit
  rw [hv, Bool.not_true, if_neg Bool.false_ne_true, if_neg (Nat.not_lt.2 hn), ha]

/-- the successful branch: `s` is the state after `max_iter` epochs from the initial weights and a fresh optimiser -/
theorem fit_of_affinity (hv : e.cfg.valid K = true) (hn : K ≤ F.rows x) {aff : Aff} (ha : F.affinity x y = some aff) :
    fit F e rng x y =
      let i := F.initParams rng x
      let s := train F x aff e.cfg.maxIter (i.1, F.newOptimiser e.cfg.solver i.1, i.2)
      .ok { e with fitted := some { params := s.1, optimiser := optimiserOf e.cfg.solver, optState := s.2.1,
                                    labels := (F.infer s.1 true x).argmax, nIter := e.cfg.maxIter } } := by
  unfold fit
  rw [hv, Bool.not_true, if_neg Bool.false_ne_true, if_neg (Nat.not_lt.2 hn), ha]

omit [RealLike α] in
theorem predictProba_of_fitted {f : Fitted Params Opt} (hf : e.fitted = some f) (x : X) :
    predictProba F e x = .ok (F.infer f.params false x) := by
  unfold predictProba
  rw [hf]

theorem fitPredict_of_ok {e' : Estimator Params Opt} (h : fit F e rng x y = .ok e') :
    fitPredict F e rng x y = .ok (e', (e'.fitted.map (·.labels)).getD []) := by
  unfold fitPredict
  rw [h]

end Generic

/-- after the first `m` entries of the row, the running best is `(z i, i)` with `i` the first index of a maximal entry
    among them -/
def MaxInv {K : Nat} (z : Fin K → ℝ) (m : Nat) (r : Option (ℝ × Nat)) : Prop :=
  match r with
  | none => m = 0
  | some p => ∃ h : p.2 < K, p.2 < m ∧ p.1 = z ⟨p.2, h⟩ ∧ (∀ j : Fin K, j.val < m → z j ≤ z ⟨p.2, h⟩) ∧
      ∀ j : Fin K, j.val < p.2 → z j < z ⟨p.2, h⟩

theorem maxInv_step {K : Nat} {z : Fin K → ℝ} {m : Nat} (hm : m < K) {r : Option (ℝ × Nat)} (h : MaxInv z m r) :
    MaxInv z (m + 1) (amStep r (z ⟨m, hm⟩, m)) := by
  have hlast : ∀ j : Fin K, j.val < m + 1 → j.val < m ∨ j = ⟨m, hm⟩ := fun j hj =>
    (Nat.lt_succ_iff_lt_or_eq.mp hj).imp_right Fin.ext
  cases r with
  | none =>
    obtain rfl : m = 0 := h
    refine ⟨hm, Nat.zero_lt_one, rfl, fun j hj => ?_, fun j hj => absurd hj (Nat.not_lt_zero _)⟩
    rcases hlast j hj with hj | rfl
    · exact absurd hj (Nat.not_lt_zero _)
    · exact le_refl _
  | some p =>
    obtain ⟨bv, bi⟩ := p
    obtain ⟨hb, h1, h2, h3, h4⟩ := h
    simp only at hb h1 h2 h3 h4
    subst h2
    simp only [amStep, RealLike.lt_real]
    by_cases hlt : z ⟨bi, hb⟩ < z ⟨m, hm⟩
    · rw [if_pos (decide_eq_true hlt)]
      refine ⟨hm, Nat.lt_succ_self m, rfl, fun j hj => ?_, fun j hj => lt_of_le_of_lt (h3 j hj) hlt⟩
      rcases hlast j hj with hj | rfl
      · exact le_trans (h3 j hj) hlt.le
      · exact le_refl _
    · rw [if_neg (by simpa using hlt)]
      refine ⟨hb, Nat.lt_succ_of_lt h1, rfl, fun j hj => ?_, h4⟩
      rcases hlast j hj with hj | rfl
      · exact h3 j hj
      · exact not_lt.mp hlt

end GemVerif.ApiLemmas
