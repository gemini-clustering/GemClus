/-
  Reading rules of GemVerif/Np4.lean (shape, error flag and entries of every operation, by unfolding), the invariant
  rule for the `List.foldl` that a Python `for k in range(a, b)` becomes (`foldl_pyRange_inv`, from `foldl_range_inv` of
  Lemmas/Fold.lean, where the general fold rules are), and the facts about Python lists of POT logs
  (`L[k] = log`, `L.append(log)`, `np.vstack([… for x in L])`) used by Lemmas/WassGen.lean and Props/C01WassGen.lean.
  Generic in `[RealLike α]`.
-/
import GemVerif.Lemmas.Np3
import GemVerif.Np4
import GemVerif.Lemmas.Fold

set_option linter.unusedSectionVars false

namespace GemVerif.Np

/-- `for k in range(a, b):` with `a ≤ b` -/
theorem foldl_pyRange_inv {σ : Type} (Inv : Nat → σ → Prop) (a b : Nat) (hab : a ≤ b) (f : σ → Nat → σ) (init : σ)
    (h0 : Inv a init) (hstep : ∀ k st, a ≤ k → k < b → Inv k st → Inv (k + 1) (f st k)) :
    Inv b ((pyRange a b).foldl f init) := by
  have := foldl_range_inv (fun k => Inv (a + k)) (b - a) (fun st k => f st (a + k)) init h0 fun k st hk =>
    hstep (a + k) st (Nat.le_add_right a k) (Nat.add_lt_of_lt_sub' hk)
  rwa [Nat.add_sub_cancel' hab, ← List.foldl_map, ← List.range'_eq_map_range] at this

namespace Arr
variable {α : Type} [RealLike α]

@[simp] theorem row_r (A : Arr α) (k : Nat) : (row A k).r = 1 := rfl
@[simp] theorem row_c (A : Arr α) (k : Nat) : (row A k).c = A.c := rfl
@[simp] theorem row_ok (A : Arr α) (k : Nat) : (row A k).ok = (A.ok && decide (k < A.r)) := rfl
@[simp] theorem row_get (A : Arr α) (k i j : Nat) : (row A k).get i j = A.get k j := rfl

@[simp] theorem col_r (A : Arr α) (k : Nat) : (col A k).r = 1 := rfl
@[simp] theorem col_c (A : Arr α) (k : Nat) : (col A k).c = A.r := rfl
@[simp] theorem col_ok (A : Arr α) (k : Nat) : (col A k).ok = (A.ok && decide (k < A.c)) := rfl
@[simp] theorem col_get (A : Arr α) (k i j : Nat) : (col A k).get i j = A.get j k := rfl

@[simp] theorem at1_def (v : Arr α) (k : Nat) : at1 v k = v.get 0 k := rfl
@[simp] theorem inb1_def (v : Arr α) (k : Nat) : inb1 v k = (v.ok && v.r == 1 && decide (k < v.c)) := rfl

@[simp] theorem setAt1_r (v : Arr α) (k : Nat) (s : α) : (setAt1 v k s).r = v.r := rfl
@[simp] theorem setAt1_c (v : Arr α) (k : Nat) (s : α) : (setAt1 v k s).c = v.c := rfl
@[simp] theorem setAt1_ok (v : Arr α) (k : Nat) (s : α) :
    (setAt1 v k s).ok = (v.ok && v.r == 1 && decide (k < v.c)) := rfl
@[simp] theorem setAt1_get (v : Arr α) (k : Nat) (s : α) (i j : Nat) :
    (setAt1 v k s).get i j = if j = k then s else v.get i j := rfl

@[simp] theorem setAt2_r (A : Arr α) (a b : Nat) (s : α) : (setAt2 A a b s).r = A.r := rfl
@[simp] theorem setAt2_c (A : Arr α) (a b : Nat) (s : α) : (setAt2 A a b s).c = A.c := rfl
@[simp] theorem setAt2_ok (A : Arr α) (a b : Nat) (s : α) :
    (setAt2 A a b s).ok = (A.ok && decide (a < A.r) && decide (b < A.c)) := rfl
@[simp] theorem setAt2_get (A : Arr α) (a b : Nat) (s : α) (i j : Nat) :
    (setAt2 A a b s).get i j = if i = a ∧ j = b then s else A.get i j := rfl

@[simp] theorem setCol_r (A : Arr α) (k : Nat) (R : Arr α) : (setCol A k R).r = A.r := rfl
@[simp] theorem setCol_c (A : Arr α) (k : Nat) (R : Arr α) : (setCol A k R).c = A.c := rfl
@[simp] theorem setCol_ok (A : Arr α) (k : Nat) (R : Arr α) :
    (setCol A k R).ok = (A.ok && R.ok && R.r == 1 && R.c == A.r && decide (k < A.c)) := rfl
@[simp] theorem setCol_get (A : Arr α) (k : Nat) (R : Arr α) (i j : Nat) :
    (setCol A k R).get i j = if j = k then R.get 0 i else A.get i j := rfl

@[simp] theorem dotVec_r (a b : Arr α) : (dotVec a b).r = 1 := rfl
@[simp] theorem dotVec_c (a b : Arr α) : (dotVec a b).c = 1 := rfl
@[simp] theorem dotVec_ok (a b : Arr α) : (dotVec a b).ok = (a.ok && b.ok && a.r == 1 && b.r == 1 && a.c == b.c) := rfl
@[simp] theorem dotVec_get (a b : Arr α) (i j : Nat) :
    (dotVec a b).get i j = sumTo a.c fun l => a.get 0 l * b.get 0 l := rfl

@[simp] theorem err_ok : (err : Arr α).ok = false := rfl

theorem IsMat.row {n k : Nat} {A : Arr α} {f : Fin n → Fin k → α} (h : IsMat A f) (i : Fin n) :
    IsRow (row A i.val) (f i) := by
  obtain ⟨hok, hr, hc, hget⟩ := h
  exact ⟨by simp [hok, hr], rfl, hc, fun j => hget i j⟩

@[simp] theorem vstack_r (L : List (Arr α)) : (vstack L).r = L.length := rfl
@[simp] theorem vstack_get (L : List (Arr α)) (i j : Nat) : (vstack L).get i j = (L.getD i err).get 0 j := rfl

theorem isMat_vstack {K n : Nat} (L : List (Arr α)) (f : Fin K → Fin n → α) (hK : 0 < K) (hlen : L.length = K)
    (h : ∀ j : Fin K, IsRow (L.getD j.val err) (f j)) : IsMat (vstack L) f := by
  have hhead : (L.headD err).c = n := by
    have h0 := (h ⟨0, hK⟩).c
    cases L with
    | nil => simp at hlen; omega
    | cons A L => simpa using h0
  refine ⟨?_, hlen, hhead, fun i j => ?_⟩
  · have hne : L.isEmpty = false := by
      cases L with
      | nil => simp at hlen; omega
      | cons A L => rfl
    simp only [vstack, hne, Bool.not_false, Bool.true_and, List.all_eq_true]
    intro A hA
    obtain ⟨i, hi, rfl⟩ := List.getElem_of_mem hA
    have := h ⟨i, hlen ▸ hi⟩
    rw [List.getD_eq_getElem _ _ hi] at this
    obtain ⟨h1, h2, h3, -⟩ := this
    simp only [h1, h2, h3, hhead, beq_self_eq_true, Bool.and_self]
  · exact (h i).get j

end Arr

namespace EmdR
variable {α : Type} [RealLike α]

@[simp] theorem ofEmd_value {n : Nat} (E : Model.Emd α n) : (ofEmd E).value = E.value := rfl
@[simp] theorem ofEmd_u {n : Nat} (E : Model.Emd α n) : (ofEmd E).u = Arr.ofRow E.u := rfl
@[simp] theorem ofEmd_v {n : Nat} (E : Model.Emd α n) : (ofEmd E).v = Arr.ofRow E.v := rfl
@[simp] theorem ofEmd_ok {n : Nat} (E : Model.Emd α n) : (ofEmd E).ok = true := rfl

/-- `ot.emd2(a, b, M, log=True)` on arrays described as the weight vectors `fa`, `fb` and the cost matrix `fM` is the
    solver of the model applied to them -/
theorem ofModel_eq {n : Nat} (emd : (Fin n → Fin n → α) → (Fin n → α) → (Fin n → α) → Model.Emd α n) {a b M : Arr α}
    {fa fb : Fin n → α} {fM : Fin n → Fin n → α} (ha : Arr.IsRow a fa) (hb : Arr.IsRow b fb) (hM : Arr.IsMat M fM) :
    ofModel emd a b M = ofEmd (emd fM fa fb) := by
  simp [ofModel, ofEmd, ha.rules, hb.rules, hM.rules]

/-! the two ways the source may collect the logs: `L = [None] * K; L[k] = log`, or `L = []; L.append(log)` -/

theorem setNth_length {L : List (EmdR α)} {k : Nat} (x : EmdR α) (hk : k < L.length) : (setNth L k x).length = L.length := by
  simp [setNth, hk]

theorem setNth_getD {L : List (EmdR α)} {k : Nat} (x : EmdR α) (hk : k < L.length) (j : Nat) :
    (setNth L k x).getD j none = if j = k then x else L.getD j none := by
  simp only [setNth, hk, if_true]
  by_cases hj : j = k
  · subst hj; simp [List.getD_eq_getElem?_getD, hk]
  · have hj' : k ≠ j := fun e => hj e.symm
    simp [List.getD_eq_getElem?_getD, hj, List.getElem?_set_ne hj']

theorem append_getD {L : List (EmdR α)} {k : Nat} (x : EmdR α) (hk : L.length = k) (j : Nat) (hj : j ≤ k) :
    (L ++ [x]).getD j none = if j = k then x else L.getD j none := by
  by_cases hjk : j = k
  · subst hjk; simp [List.getD_eq_getElem?_getD, ← hk]
  · have : j < L.length := hk ▸ Nat.lt_of_le_of_ne hj hjk
    simp [List.getD_eq_getElem?_getD, hjk, List.getElem?_append_left this]

end EmdR

/-- `[g(x) for x in L][j]` -/
theorem getD_map_of_getElem? {β γ : Type} (L : List β) (g : β → γ) (e : γ) {j : Nat} {x : β} (h : L[j]? = some x) :
    (L.map g).getD j e = g x := by
  simp [List.getD_eq_getElem?_getD, h]

attribute [np] Arr.row_r Arr.row_c Arr.row_ok Arr.row_get Arr.col_r Arr.col_c Arr.col_ok Arr.col_get Arr.at1_def
  Arr.inb1_def Arr.setAt1_r Arr.setAt1_c Arr.setAt1_ok Arr.setAt1_get Arr.setAt2_r Arr.setAt2_c Arr.setAt2_ok
  Arr.setAt2_get Arr.setCol_r Arr.setCol_c Arr.setCol_ok Arr.setCol_get Arr.dotVec_r Arr.dotVec_c Arr.dotVec_ok
  Arr.dotVec_get Arr.err_ok Arr.vstack_r Arr.vstack_get EmdR.ofEmd_value EmdR.ofEmd_u EmdR.ofEmd_v EmdR.ofEmd_ok

end GemVerif.Np
