/- For C01 (score = documented distance).  The code works with `P` and `π`, the specification
   with the conditionals `P[:,k] / (N π_k)`.  The f-divergences of the specification scale with their arguments, so a
   term `π_k · D(p(x|k), p(x))` is `D(P[:,k], π_k) / N` (`pi_mul_dist_ova`, `pi_mul_dist_ovo`); the MMD distances of the
   code are `Spec.MMD` of the conditionals. -/
import GemVerif.Lemmas.Gemini

namespace GemVerif
open Model Spec

variable {n K : ℕ}

theorem sum_sum_pi (P : Fin n → Fin K → ℝ) :
    ∑ a, ∑ b, Spec.pi P a * Spec.pi P b = (∑ k, Spec.pi P k) ^ 2 := by
  rw [pow_two, Finset.sum_mul_sum]

theorem sum_sum_pi_eq_one (hn : 0 < n) {P : Fin n → Fin K → ℝ} (hrow : ∀ i, ∑ k, P i k = 1) :
    ∑ a, ∑ b, Spec.pi P a * Spec.pi P b = 1 := by
  rw [sum_sum_pi, sum_pi_eq_one hn hrow, one_pow]

theorem cond_nonneg {ε : ℝ} (hε : 0 < ε) (hn : 0 < n) {P : Fin n → Fin K → ℝ} (hI : Interior ε P)
    (k : Fin K) (i : Fin n) : 0 ≤ Spec.cond P k i :=
  (cond_pos hn (P_pos hε hI) k i).le

/-- the conditional of `a` expanded by `π_b`: two conditionals get the common denominator `N π_a π_b` -/
theorem cond_eq_div_mul (P : Fin n → Fin K → ℝ) {a b : Fin K} (hb : Spec.pi P b ≠ 0) (i : Fin n) :
    Spec.cond P a i = Spec.pi P b * P i a / (n * Spec.pi P a * Spec.pi P b) := by
  rw [Spec.cond, mul_comm (Spec.pi P b), mul_div_mul_right _ _ hb]

theorem TV_div {c : ℝ} (hc : 0 < c) (p q : Fin n → ℝ) :
    Spec.TV (fun i => p i / c) (fun i => q i / c) = Spec.TV p q / c := by
  simp only [Spec.TV, ← sub_div, abs_div, abs_of_pos hc, ← Finset.sum_div, mul_div_assoc]

theorem KL_div {c : ℝ} (hc : 0 < c) (p q : Fin n → ℝ) :
    Spec.KL (fun i => p i / c) (fun i => q i / c) = Spec.KL p q / c := by
  simp only [Spec.KL, div_div_div_cancel_right₀ hc.ne', div_mul_eq_mul_div, ← Finset.sum_div]

theorem chi2_div {c : ℝ} (hc : 0 < c) (p q : Fin n → ℝ) :
    Spec.chi2 (fun i => p i / c) (fun i => q i / c) = Spec.chi2 p q / c := by
  simp only [Spec.chi2, ← sub_div, div_pow, pow_two c, ← div_div, div_div_div_cancel_right₀ hc.ne',
    div_right_comm _ c, ← Finset.sum_div]

theorem sum_sqrt_div {c : ℝ} (hc : 0 < c) (p q : Fin n → ℝ) :
    ∑ i, Real.sqrt (p i / c * (q i / c)) = (∑ i, Real.sqrt (p i * q i)) / c := by
  simp only [div_mul_div_comm, ← sq c, Real.sqrt_div' _ (sq_nonneg c), Real.sqrt_sq hc.le, ← Finset.sum_div]

/-- KL, TV, χ², the Hellinger sum `Σ √(p q)` and the MMD scale with their arguments, `D (p / c) (q / c) = D p q / c`, and
    the conditional and the uniform vector are `P[:,k]` and the constant `π_k` over the common denominator `N π_k`: so
    the one-vs-all term of cluster `k` is the distance between the column and its mean, over `N` — which is what the
    code computes. -/
theorem pi_mul_dist_ova {D : (Fin n → ℝ) → (Fin n → ℝ) → ℝ}
    (hD : ∀ c : ℝ, 0 < c → ∀ p q : Fin n → ℝ, D (fun i => p i / c) (fun i => q i / c) = D p q / c)
    (hn : 0 < n) {P : Fin n → Fin K → ℝ} {k : Fin K} (hπ : 0 < Spec.pi P k) :
    Spec.pi P k * D (Spec.cond P k) (Spec.unif n) = D (fun i => P i k) (fun _ => Spec.pi P k) / n := by
  have h2 : Spec.unif n = fun _ => Spec.pi P k / (n * Spec.pi P k) := funext fun _ => by
    rw [Spec.unif, div_mul_cancel_right₀ hπ.ne', one_div]
  rw [show Spec.cond P k = fun i => P i k / (n * Spec.pi P k) from rfl, h2,
    hD _ (mul_pos (Nat.cast_pos.2 hn) hπ), ← div_div, mul_div_cancel₀ _ hπ.ne']

/-- one-vs-one: the common denominator of the two conditionals is `N π_a π_b` -/
theorem pi_mul_dist_ovo {D : (Fin n → ℝ) → (Fin n → ℝ) → ℝ}
    (hD : ∀ c : ℝ, 0 < c → ∀ p q : Fin n → ℝ, D (fun i => p i / c) (fun i => q i / c) = D p q / c)
    (hn : 0 < n) {P : Fin n → Fin K → ℝ} {a b : Fin K} (ha : 0 < Spec.pi P a) (hb : 0 < Spec.pi P b) :
    Spec.pi P a * Spec.pi P b * D (Spec.cond P a) (Spec.cond P b)
      = D (fun i => Spec.pi P b * P i a) (fun i => Spec.pi P a * P i b) / n := by
  rw [funext (cond_eq_div_mul P (a := a) hb.ne'), funext (cond_eq_div_mul P (a := b) ha.ne'),
    mul_right_comm (n : ℝ) (Spec.pi P b), hD _ (mul_pos (mul_pos (Nat.cast_pos.2 hn) ha) hb), mul_assoc (n : ℝ),
    ← div_div, mul_div_cancel₀ _ (mul_pos ha hb).ne']

theorem sum_sum_sum_mul_div (f g : Fin K → Fin n → ℝ) :
    ∑ a, ∑ b, (∑ i, f a i * g b i) / n = (∑ i, (∑ k, f k i) * ∑ k, g k i) / n := by
  simp only [← Finset.sum_div, Finset.sum_mul_sum]
  exact congrArg (· / _) Finset.sum_comm_cycle

theorem MMD_eq_sqrt_Q (κ : Fin n → Fin n → ℝ) (p q : Fin n → ℝ) :
    Spec.MMD κ p q = Real.sqrt (Q κ (fun i => p i - q i) (fun i => p i - q i)) := rfl

theorem MMD_self (κ : Fin n → Fin n → ℝ) (p : Fin n → ℝ) : Spec.MMD κ p p = 0 := by
  simp only [Spec.MMD, sub_self, mul_zero, Finset.sum_const_zero, Real.sqrt_zero]

theorem MMD_comm (κ : Fin n → Fin n → ℝ) (p q : Fin n → ℝ) : Spec.MMD κ p q = Spec.MMD κ q p := by
  unfold Spec.MMD
  congr 1
  refine Finset.sum_congr rfl fun i _ => Finset.sum_congr rfl fun j _ => ?_
  ring

theorem MMD_div {c : ℝ} (hc : 0 < c) (κ : Fin n → Fin n → ℝ) (p q : Fin n → ℝ) :
    Spec.MMD κ (fun i => p i / c) (fun i => q i / c) = Spec.MMD κ p q / c := by
  have h : ∀ u : Fin n → ℝ, Q κ (fun i => u i / c) (fun i => u i / c) = Q κ u u / c ^ 2 := fun u => by
    unfold Q
    simp only [Finset.sum_div]
    exact Finset.sum_congr rfl fun i _ => Finset.sum_congr rfl fun j _ => by ring
  simp only [MMD_eq_sqrt_Q, ← sub_div]
  rw [h, Real.sqrt_div' _ (sq_nonneg c), Real.sqrt_sq hc.le]

/-- the conditional is `alpha / N` (`alpha = y_pred / pi` of the MMD code) -/
theorem cond_eq_div (P : Fin n → Fin K → ℝ) (k : Fin K) : Spec.cond P k = fun i => P i k / Spec.pi P k / n := by
  funext i
  rw [Spec.cond, mul_comm, div_div]

theorem mmdAlpha_eq {ε : ℝ} {P : Fin n → Fin K → ℝ} (hI : Interior ε P) (i : Fin n) (k : Fin K) :
    mmdAlpha ε P i k = P i k / Spec.pi P k := by
  rw [mmdAlpha_apply, clipP_of_interior hI, mean0_eq_pi]

theorem aN_eq_cond {ε : ℝ} {P : Fin n → Fin K → ℝ} (hI : Interior ε P) (k : Fin K) : aN ε P k = Spec.cond P k := by
  rw [cond_eq_div]
  exact funext fun i => by rw [aN, mmdAlpha_eq hI]

theorem mmdDeltaOvo_eq {ε : ℝ} {P : Fin n → Fin K → ℝ} (hI : Interior ε P) {κ : Fin n → Fin n → ℝ}
    (hκ : ∀ i j, κ i j = κ j i) (a b : Fin K) :
    mmdDeltaOvo ε P κ a b = Spec.MMD κ (Spec.cond P a) (Spec.cond P b) := by
  rw [mmdDeltaOvo_eq_Q, aN_eq_cond hI, aN_eq_cond hI, sqrt_max_zero, Spec.MMD, quad_sub hκ]
  congr 1
  push_cast
  ring

theorem mmdDeltaOva_eq {ε : ℝ} {P : Fin n → Fin K → ℝ} (hI : Interior ε P) {κ : Fin n → Fin n → ℝ}
    (hκ : ∀ i j, κ i j = κ j i) (k : Fin K) :
    mmdDeltaOva ε P κ k = Spec.MMD κ (Spec.cond P k) (Spec.unif n) := by
  rw [mmdDeltaOva_eq_Q, aN_eq_cond hI, sqrt_max_zero, Spec.MMD, quad_sub hκ, Q_comm hκ (Spec.unif n) (Spec.cond P k)]
  congr 1
  push_cast
  ring

theorem mmdScore_ova_interior {ε : ℝ} {P : Fin n → Fin K → ℝ} (hI : Interior ε P) {κ : Fin n → Fin n → ℝ}
    (hκ : ∀ i j, κ i j = κ j i) : mmdScore ε false P κ = Spec.ova (Spec.MMD κ) P := by
  simp only [mmdScore_ova, clipP_of_interior hI, mean0_eq_pi, mmdDeltaOva_eq hI hκ, Spec.ova]

theorem mmdScore_ovo_interior {ε : ℝ} {P : Fin n → Fin K → ℝ} (hI : Interior ε P) {κ : Fin n → Fin n → ℝ}
    (hκ : ∀ i j, κ i j = κ j i) :
    mmdScore ε true P κ
      = ∑ a, Spec.pi P a * ∑ b, Spec.MMD κ (Spec.cond P a) (Spec.cond P b) * Spec.pi P b := by
  simp only [mmdScore_ovo, clipP_of_interior hI, mean0_eq_pi, mmdDeltaOvo_eq hI hκ]

/-- With the identity affinity the MMD is the Euclidean distance: positive as soon as one entry differs. -/
theorem MMD_one_pos {p q : Fin n → ℝ} {i : Fin n} (h : p i ≠ q i) :
    0 < Spec.MMD (fun i j => if i = j then 1 else 0) p q := by
  unfold Spec.MMD
  simp only [mul_ite, mul_one, mul_zero, ite_mul, zero_mul, Finset.sum_ite_eq, Finset.mem_univ, if_true]
  refine Real.sqrt_pos.mpr (lt_of_lt_of_le (mul_self_pos.mpr (sub_ne_zero.mpr h)) ?_)
  exact Finset.single_le_sum (f := fun i => (p i - q i) * (p i - q i)) (fun j _ => mul_self_nonneg _)
    (Finset.mem_univ i)

end GemVerif
