/-
  Steps of the proof, in Props/C15Gen.lean, that the generated `Douglas._compute_grads` (Gen/Douglas.lean `compute_grads`)
  returns, without error, the updates of the hand model in closed form (Lemmas/DouglasGrad.lean: `lsbSpec`,
  `cutGradSpec`).  Over ℝ.  One lemma per NumPy expression of the source, each stated for arbitrary arrays described by
  `IsMat` / `IsVec` / `IsRows`.  A round of the loop is described in the three spellings of undoing the sort
  (`loop_round_spec`, the present source; `loop_round_spec_scatter`, `loop_round_spec_ranks`, respellings of DESIGN.md §21:
  see "Spellings" at the head of Props/C15Gen.lean).  `foldl_updates_true` reads that loop (state: error flag and list of
  updates so far) whatever temporaries a round binds; `foldl_flags_updates` is the same reading for a round given by an
  explicit flag, which no proof here needs.  The general fold rules are in Lemmas/Fold.lean.
-/
import GemVerif.Lemmas.Np5
import GemVerif.Lemmas.DouglasGrad

namespace GemVerif.Np
open Model.Douglas GemVerif.Douglas

/-- the list of arrays `U` is the list of updates `G`: the first one the `(L, K)` matrix stored row-major in the first list,
    the others 1-D arrays -/
def UpdatesAre (L K : ℕ) : List (Arr ℝ) → List (List ℝ) → Prop
  | u :: us, g :: gs =>
    Arr.IsMat u (fun (l : Fin L) (k : Fin K) => g.getD (l.val * K + k.val) 0) ∧ List.Forall₂ Arr.IsVec us gs
  | _, _ => False

namespace Arr

/-! `_compute_grads`: the expressions before the loop -/

/-- `y_pred * (gradient - (y_pred * gradient).sum(1, keepdims=True))` -/
theorem isMat_y_pred_grad {n K : ℕ} {yA gA : Arr ℝ} {y g : Fin n → Fin K → ℝ} (hy : IsMat yA y) (hg : IsMat gA g) :
    IsMat (mul yA (sub gA (sumAxis1 (mul yA gA)))) (Model.Nets.tauHat y g) := by
  simp only [IsMat, np, hy.rules, hg.rules, tauHat_apply, sumFin_eq_sum]

/-- `A @ B` over ℝ, the sum as a `Finset` sum -/
theorem IsMat.matmul_real {n m k : ℕ} {A B : Arr ℝ} {f : Fin n → Fin m → ℝ} {g : Fin m → Fin k → ℝ}
    (hA : IsMat A f) (hB : IsMat B g) : IsMat (Arr.matmul A B) (fun i j => ∑ l, f i l * g l j) := by
  simpa only [sumFin_eq_sum] using hA.matmul hB

theorem IsMat.transpose {n k : ℕ} {A : Arr ℝ} {f : Fin n → Fin k → ℝ} (hA : IsMat A f) :
    IsMat (Arr.transpose A) (fun j i => f i j) :=
  hA.T

end Arr

/-- `P` is, without error, the `(n, r₁, …, r_k)` array with trailing axes `rs` whose flat `(n, L)` storage is `f` -/
def IsArrN {n L : ℕ} (P : ArrN ℝ) (rs : List ℕ) (f : Fin n → Fin L → ℝ) : Prop :=
  P.ok = true ∧ P.axes = rs ∧ P.flat.r = n ∧ P.flat.c = L ∧ ∀ (r : Fin n) (l : Fin L), P.flat.get r.val l.val = f r l

theorem IsArrN.ok {n L : ℕ} {P : ArrN ℝ} {rs : List ℕ} {f : Fin n → Fin L → ℝ} (h : IsArrN P rs f) : P.ok = true := h.1

theorem digitN_eq_digit (rs : List ℕ) (i l : ℕ) : digitN rs i l = digit rs i l := rfl

/-- `A.reshape((-1, *axes))` -/
theorem isArrN_reshapeOf {n L : ℕ} {A : Arr ℝ} {f : Fin n → Fin L → ℝ} (hA : Arr.IsMat A f) {rs : List ℕ}
    (hrs : rs.prod = L) (hL : L ≠ 0) : IsArrN (ArrN.reshapeOf A rs) rs f := by
  obtain ⟨hAok, hAr, hAc, hAget⟩ := hA
  refine ⟨?_, rfl, hAr, hAc, hAget⟩
  simp [hAok, hAc, hrs, hL]

theorem IsArrN.mul {n L : ℕ} {P Q : ArrN ℝ} {rs : List ℕ} {f g : Fin n → Fin L → ℝ} (hP : IsArrN P rs f)
    (hQ : IsArrN Q rs g) : IsArrN (ArrN.mul P Q) rs (fun r l => f r l * g r l) := by
  obtain ⟨hPok, hPax, hPr, hPc, hPget⟩ := hP
  obtain ⟨hQok, hQax, hQr, hQc, hQget⟩ := hQ
  refine ⟨?_, hPax, hPr, hPc, fun r l => ?_⟩
  · simp only [np, hPok, hQok, hPax, hQax, hPr, hQr, hPc, hQc]
  · rw [ArrN.mul_flat_get, hPget, hQget]

/-- `T.sum(axes)` over all trailing axes but the `i`-th: the `weighted_grad` of slot `i` -/
theorem IsArrN.sumExcept {n L : ℕ} {P : ArrN ℝ} {cl : List (ℕ × List ℝ)} {bb : Fin n → Fin L → ℝ}
    (hP : IsArrN P (radices cl) bb) {i m : ℕ} (hi : i < (radices cl).length) (hm : (radices cl).getD i 0 = m + 1) :
    Arr.IsMat (ArrN.sumExcept P i) (wgM cl bb i m) := by
  obtain ⟨hPok, hPax, hPr, hPc, hPget⟩ := hP
  subst hPr hPc
  refine ⟨?_, rfl, ?_, fun r j => ?_⟩
  · simp only [np, hPok, hPax, hi]
  · rw [ArrN.sumExcept_c, hPax, hm]
  · simp only [ArrN.sumExcept_get, sumTo_def, sumFin_eq_sum, hPax, hPget, digitN_eq_digit, wgM]

namespace Arr

/-! the expressions of the loop body -/

/-- `weighted_grad - self._all_binnings[i] * weighted_grad.sum(1, keepdims=True)` -/
theorem isMat_bin_grad {n k : ℕ} {W B : Arr ℝ} {w b : Fin n → Fin k → ℝ} (hW : IsMat W w) (hB : IsMat B b) :
    IsMat (sub W (mul B (sumAxis1 W))) (fun r j => w r j - b r j * ∑ j', w r j') := by
  simp only [IsMat, np, hW.rules, hB.rules, sumFin_eq_sum]

/-- `bin_grad /= self.temperature` -/
theorem isMat_divs_inPlace {n k : ℕ} {G : Arr ℝ} {g : Fin n → Fin k → ℝ} (hG : IsMat G g) (T : ℝ) :
    IsMat (inPlace G (divs G T)) (fun r j => g r j / T) := by
  simp only [IsMat, np, hG.rules]

/-- `bin_grad.sum(0)[1:]` -/
theorem isVec_bias_grad {n m : ℕ} {G : Arr ℝ} {g : Fin n → Fin (m + 1) → ℝ} (hG : IsMat G g) :
    IsVec (drop1 (sumAxis0 G) 1) ((List.finRange (m + 1)).tail.map fun j => ∑ r, g r j) := by
  obtain ⟨hGok, hGr, hGc, -⟩ := id hG
  subst hGr
  have hlen : ((List.finRange (m + 1)).tail.map fun j => ∑ r, g r j).length = m := by
    rw [List.length_map, List.length_tail, List.length_finRange, Nat.add_sub_cancel]
  refine ⟨by simp only [np, hGok], rfl, by rw [hlen]; simp [hGc], fun j hj => ?_⟩
  rw [hlen] at hj
  -- entry `j` of the list is the sum of column `j + 1`
  rw [List.finRange_succ, List.tail_cons, List.map_map,
    List.getD_eq_getElem _ _ (by rw [List.length_map, List.length_finRange]; exact hj), List.getElem_map,
    List.getElem_finRange]
  simp only [drop1_get, sumAxis0_get, sumTo_def, sumFin_eq_sum]
  exact Finset.sum_congr rfl fun r _ => hG.get_nat r.isLt (Nat.succ_lt_succ hj)

/-- `-np.cumsum(bias_grad[::-1])[::-1]` -/
theorem IsVec.cumsum_grad {v : Arr ℝ} {bl : List ℝ} (hv : IsVec v bl) :
    IsVec (neg (flipCols (cumsumAxis1 (flipCols v)))) ((Model.Douglas.cumsum bl.reverse).reverse.map fun x => -x) := by
  obtain ⟨hok, hr, hc, hget⟩ := hv
  have hlen1 : (Model.Douglas.cumsum bl.reverse).length = bl.length := by
    rw [cumsum_length, List.length_reverse]
  have hlen : ((Model.Douglas.cumsum bl.reverse).reverse.map fun x => -x).length = bl.length := by simp [hlen1]
  refine ⟨by simp only [np, hok], by simp only [np, hr], by rw [hlen]; simpa using hc, fun j hj => ?_⟩
  rw [hlen] at hj
  have hpos : bl.length - 1 < bl.length := Nat.sub_lt (Nat.zero_lt_of_lt hj) Nat.one_pos
  simp only [neg_get, flipCols_get, cumsumAxis1_get, flipCols_c, cumsumAxis1_c, hc]
  rw [getD_map_of_lt _ _ 0 0 (by rw [List.length_reverse, hlen1]; exact hj),
    List.getD_reverse _ (by rw [hlen1]; exact hj), hlen1,
    douglas_cumsum_getD _ _ (by rw [List.length_reverse]; exact (Nat.sub_le _ _).trans_lt hpos)]
  congr 1
  refine cumsumTo_congr fun l hl => ?_
  rw [List.getD_reverse _ (hl.trans_lt ((Nat.sub_le _ _).trans_lt hpos)), hget _ ((Nat.sub_le _ _).trans_lt hpos)]

/-- `np.argsort(order)` of a 1-D integer array -/
theorem isVecN_argsortN {O : Arr ℕ} {σ : List ℕ} (hO : IsVecN O σ) : IsVecN (argsortN O) (argsortNat σ) := by
  obtain ⟨hOok, hOr, hOc, hOget⟩ := hO
  refine ⟨by simp only [np, hOok, hOr], rfl, by rw [argsortNat_length]; exact hOc, fun j _ => ?_⟩
  rw [argsortN_get, hOc, ← argsortBy_eq_argsortNat]
  congr 1
  exact argsortBy_congr fun a b ha hb => by rw [hOget a ha, hOget b hb]

/-- `-(cumsum_grad[ranks])` for any integer array `ranks` holding `np.argsort(order)`, in particular
    `cumsum_grad[np.argsort(self._all_orders[i])]` -/
theorem IsVec.neg_take1_of_isVecN {c : Arr ℝ} {R : Arr ℕ} {cg : List ℝ} {σ : List ℕ} (hc : IsVec c cg)
    (hR : IsVecN R (argsortNat σ)) (hσ : σ.length = cg.length) :
    IsVec (neg (take1 c R)) ((argsortNat σ).map fun p => -(cg.getD p 0)) := by
  have := isVec_neg (isVec_take1 hc hR fun j hj =>
    hσ ▸ perm_range_getD_lt (argsortNat_perm σ) (argsortNat_length σ ▸ hj))
  rwa [List.map_map] at this

/-! undoing a sort by scatter: `g = np.empty_like(v); g[order] = v` -/

/-- The scatter undoes the sort.  `g[order] = v` with `order` a permutation of all the positions `0 … m-1` of `g` and `len(v) = m`:
    whatever `g` held before (fresh memory of `np.empty_like`), entry `j` of `g` is afterwards `v[np.argsort(order)[j]]` — every
    position is written exactly once, nothing of the old content is left -/
theorem setAt_get_of_perm {β : Type} {g v : Arr β} {O : Arr ℕ} {σ : List ℕ} {m : ℕ} (hO : IsVecN O σ)
    (hσ : σ.Perm (List.range m)) {j : ℕ} (hj : j < m) :
    (Arr.setAt g O v).get 0 j = v.get 0 ((argsortNat σ).getD j 0) := by
  have hlen : σ.length = m := by simpa using hσ.length_eq
  obtain ⟨hk, hσk⟩ := argsortNat_inv hσ hj
  rw [Arr.setAt_get, hO.c, hlen]
  have hIk : O.get 0 ((argsortNat σ).getD j 0) = j := by rw [hO.get (by rw [hlen]; exact hk), hσk]
  have := scatterGet_of_injOn (O.get 0) (v.get 0) (g.get 0 j) m (fun a b ha hb hab => by
    rw [hO.get (by rw [hlen]; exact ha), hO.get (by rw [hlen]; exact hb)] at hab
    exact perm_range_getD_inj hσ ha hb hab) _ hk
  rw [hIk] at this
  exact this

theorem setAt_ok_of_perm {β : Type} {g v : Arr β} {O : Arr ℕ} {σ : List ℕ} {m : ℕ} (hO : IsVecN O σ)
    (hσ : σ.Perm (List.range m)) (hg : g.ok = true) (hgr : g.r = 1) (hgc : g.c = m) (hv : v.ok = true) (hvr : v.r = 1)
    (hvc : v.c = m) : (Arr.setAt g O v).ok = true := by
  obtain ⟨hOok, hOr, hOc, hOget⟩ := hO
  have hlen : σ.length = m := by simpa using hσ.length_eq
  rw [Arr.setAt_ok]
  simp only [hg, hOok, hv, hgr, hOr, hvr, hvc, hOc, hlen, beq_self_eq_true, Bool.and_true, Bool.true_and, List.all_eq_true,
    List.mem_range, decide_eq_true_eq, hgc]
  intro k hk
  rw [hOget k (by rw [hlen]; exact hk)]
  have hmem : σ.getD k 0 ∈ σ := by
    rw [List.getD_eq_getElem _ _ (by rw [hlen]; exact hk)]; exact List.getElem_mem _
  exact List.mem_range.mp (hσ.mem_iff.mp hmem)

/-- `cut_grad = np.empty_like(cumsum_grad); cut_grad[order] = cumsum_grad; -cut_grad` -/
theorem IsVec.neg_setAt_emptyLike {c : Arr ℝ} {O : Arr ℕ} {cg : List ℝ} {σ : List ℕ} (hc : IsVec c cg)
    (hO : IsVecN O σ) (hσ : σ.Perm (List.range cg.length)) :
    IsVec (neg (Arr.setAt (emptyLike c) O c)) ((argsortNat σ).map fun p => -(cg.getD p 0)) := by
  obtain ⟨hcok, hcr, hcc, hcget⟩ := id hc
  have hlenσ : σ.length = cg.length := by simpa using hσ.length_eq
  have hlen : ((argsortNat σ).map fun p => -(cg.getD p 0)).length = cg.length := by simp only [np, argsortNat_length, hlenσ]
  refine ⟨?_, rfl, by rw [hlen]; simpa using hcc, fun j hj => ?_⟩
  · rw [neg_ok]
    exact setAt_ok_of_perm hO hσ (by simpa using hcok) (by simpa using hcr) (by simpa using hcc) hcok hcr hcc
  · rw [hlen] at hj
    have hj2 : j < (argsortNat σ).length := by rw [argsortNat_length, hlenσ]; exact hj
    rw [neg_get, setAt_get_of_perm hO hσ hj, hcget _ (argsortNat_inv hσ hj).1, getD_map_of_lt _ _ 0 0 hj2]

/-- `ranks = np.empty_like(order); ranks[order] = np.arange(len(order))`: the ranks are `np.argsort(order)` -/
theorem isVecN_ranks {O : Arr ℕ} {σ : List ℕ} {m : ℕ} (hO : IsVecN O σ) (hσ : σ.Perm (List.range m)) :
    IsVecN (Arr.setAt (emptyLikeN O) O (arangeN O.c)) (argsortNat σ) := by
  have hlen : σ.length = m := by simpa using hσ.length_eq
  have hOc : O.c = m := by rw [hO.c, hlen]
  refine ⟨?_, rfl, by rw [argsortNat_length, Arr.setAt_c, emptyLikeN_c, hO.c], fun j hj => ?_⟩
  · exact setAt_ok_of_perm hO hσ (by simpa using hO.ok) (by simpa using hO.r) (by simpa using hOc) rfl rfl
      (by simpa using hOc)
  · rw [argsortNat_length, hlen] at hj
    rw [setAt_get_of_perm hO hσ hj, arangeN_get]

end Arr

section loop
variable (P : ArrN ℝ) (Bs : List (Arr ℝ)) (Os : List (Arr ℕ)) (T : ℝ) (i : ℕ)

/-- `weighted_grad` of round `i` -/
noncomputable def loopWg : Arr ℝ := ArrN.sumExcept P i
/-- `bin_grad` of round `i`, before the division -/
noncomputable def loopBg : Arr ℝ := Arr.sub (loopWg P i) (Arr.mul (Arr.nth Bs i) (Arr.sumAxis1 (loopWg P i)))
/-- `bin_grad` of round `i`, after `bin_grad /= self.temperature` -/
noncomputable def loopBg1 : Arr ℝ := Arr.inPlace (loopBg P Bs i) (Arr.divs (loopBg P Bs i) T)
/-- `bias_grad` of round `i` -/
noncomputable def loopBias : Arr ℝ := Arr.drop1 (Arr.sumAxis0 (loopBg1 P Bs T i)) 1
/-- `cumsum_grad` of round `i` -/
noncomputable def loopCs : Arr ℝ := Arr.neg (Arr.flipCols (Arr.cumsumAxis1 (Arr.flipCols (loopBias P Bs T i))))
/-- `cut_grad` of round `i` -/
noncomputable def loopCut : Arr ℝ := Arr.take1 (loopCs P Bs T i) (argsortN (nthN Os i))
/-- `cut_grad` of round `i`, the sort undone by scatter: `np.empty_like(cumsum_grad)`, then `cut_grad[order] = cumsum_grad` -/
noncomputable def loopCutS : Arr ℝ := Arr.setAt (Arr.emptyLike (loopCs P Bs T i)) (nthN Os i) (loopCs P Bs T i)
/-- `ranks` of round `i`: `np.empty_like(order)`, then `ranks[order] = np.arange(len(order))` -/
noncomputable def loopRanks : Arr ℕ := Arr.setAt (emptyLikeN (nthN Os i)) (nthN Os i) (arangeN (nthN Os i).c)
/-- `cut_grad` of round `i`, gathered through the ranks: `cumsum_grad[ranks]` -/
noncomputable def loopCutR : Arr ℝ := Arr.take1 (loopCs P Bs T i) (loopRanks Os i)
/-- no statement of round `i` raised -/
noncomputable def loopOk : Bool :=
  (loopWg P i).ok && (loopBg P Bs i).ok && (loopBg1 P Bs T i).ok && (loopBias P Bs T i).ok && (loopCs P Bs T i).ok &&
    (loopCut P Bs Os T i).ok

end loop

/-- round `i` of the loop up to `cumsum_grad`: nothing raises and `cumsum_grad` holds the model's list, as long as the
    retained order -/
theorem loop_round_cs {n d L : ℕ} (T : ℝ) (X : Fin n → Fin d → ℝ) (cl : List (ℕ × List ℝ)) (bb : Fin n → Fin L → ℝ)
    {P : ArrN ℝ} (hP : IsArrN P (radices cl) bb) {Bs : List (Arr ℝ)} {i : ℕ} (hi : i < cl.length)
    (hB : Arr.IsRows (Bs.getD i Arr.err)
      (fun r : Fin n => binning T (xget (X r) (feat cl i)) (cutsAt cl i)) ((cutsAt cl i).length + 1)) :
    ((((loopWg P i).ok = true ∧ (loopBg P Bs i).ok = true) ∧ (loopBg1 P Bs T i).ok = true) ∧ (loopBias P Bs T i).ok = true) ∧
    ∃ cg : List ℝ, Arr.IsVec (loopCs P Bs T i) cg ∧ (argsort cl[i].2).length = cg.length ∧
      cutGradSpec T X cl bb (cl[i], i) = (argsortNat (argsort cl[i].2)).map fun p => -(cg.getD p 0) := by
  rw [feat_eq_getElem cl hi, cutsAt_eq_getElem cl hi] at hB
  have hwg : Arr.IsMat (loopWg P i) (wgM cl bb i cl[i].2.length) :=
    hP.sumExcept (by simpa [radices] using hi) (by rw [radices_getD cl 0 hi, cutsAt_eq_getElem cl hi])
  have hbg := Arr.isMat_bin_grad hwg hB.isMat
  have hbg1 := Arr.isMat_divs_inPlace hbg T
  have hbias := Arr.isVec_bias_grad hbg1
  have hcs := hbias.cumsum_grad
  refine ⟨⟨⟨⟨hwg.ok, hbg.ok⟩, hbg1.ok⟩, hbias.ok⟩, _, hcs, ?_, rfl⟩
  rw [argsort_length, List.length_map, List.length_reverse, cumsum_length, List.length_reverse, List.length_map,
    List.length_tail, List.length_finRange, Nat.add_sub_cancel]

/-- round `i` of the loop raises nothing and appends the model's `i`-th cut update -/
theorem loop_round_spec {n d L : ℕ} (T : ℝ) (X : Fin n → Fin d → ℝ) (cl : List (ℕ × List ℝ)) (bb : Fin n → Fin L → ℝ)
    {P : ArrN ℝ} (hP : IsArrN P (radices cl) bb) {Bs : List (Arr ℝ)} {Os : List (Arr ℕ)} {i : ℕ} (hi : i < cl.length)
    (hB : Arr.IsRows (Bs.getD i Arr.err)
      (fun r : Fin n => binning T (xget (X r) (feat cl i)) (cutsAt cl i)) ((cutsAt cl i).length + 1))
    (hO : IsVecN (Os.getD i errN) (argsort (cutsAt cl i))) :
    loopOk P Bs Os T i = true ∧ Arr.IsVec (Arr.neg (loopCut P Bs Os T i)) (cutGradSpec T X cl bb (cl[i], i)) := by
  obtain ⟨⟨⟨⟨h1, h2⟩, h3⟩, h4⟩, cg, hcs, hlen, hspec⟩ := loop_round_cs T X cl bb hP hi hB
  rw [cutsAt_eq_getElem cl hi] at hO
  have hcut := hcs.neg_take1_of_isVecN (Arr.isVecN_argsortN hO) hlen
  rw [hspec]
  refine ⟨?_, hcut⟩
  simp only [loopOk, Bool.and_eq_true]
  exact ⟨⟨⟨⟨⟨h1, h2⟩, h3⟩, h4⟩, hcs.ok⟩, hcut.ok⟩

/-- the same round with the sort undone by scatter (`cut_grad = np.empty_like(cumsum_grad); cut_grad[order] = cumsum_grad`): the
    retained order is a permutation of all the positions, so every entry of the fresh array is written exactly once — nothing
    raises, nothing of the uninitialised memory survives, and `-cut_grad` is the model's `i`-th cut update -/
theorem loop_round_spec_scatter {n d L : ℕ} (T : ℝ) (X : Fin n → Fin d → ℝ) (cl : List (ℕ × List ℝ)) (bb : Fin n → Fin L → ℝ)
    {P : ArrN ℝ} (hP : IsArrN P (radices cl) bb) {Bs : List (Arr ℝ)} {Os : List (Arr ℕ)} {i : ℕ} (hi : i < cl.length)
    (hB : Arr.IsRows (Bs.getD i Arr.err)
      (fun r : Fin n => binning T (xget (X r) (feat cl i)) (cutsAt cl i)) ((cutsAt cl i).length + 1))
    (hO : IsVecN (Os.getD i errN) (argsort (cutsAt cl i))) :
    ((Arr.emptyLike (loopCs P Bs T i)).ok = true ∧ (loopCutS P Bs Os T i).ok = true) ∧
      Arr.IsVec (Arr.neg (loopCutS P Bs Os T i)) (cutGradSpec T X cl bb (cl[i], i)) := by
  obtain ⟨-, cg, hcs, hlen, hspec⟩ := loop_round_cs T X cl bb hP hi hB
  rw [cutsAt_eq_getElem cl hi] at hO
  have hperm : (argsort cl[i].2).Perm (List.range cg.length) := by rw [← hlen, argsort_length]; exact argsort_perm _
  have hcut := hcs.neg_setAt_emptyLike hO hperm
  rw [hspec]
  exact ⟨⟨by rw [Arr.emptyLike_ok]; exact hcs.ok, by have := hcut.ok; rwa [Arr.neg_ok] at this⟩, hcut⟩

/-- the same round with the inverse permutation built by scatter (`ranks = np.empty_like(order); ranks[order] = np.arange(len(order));
    cut_grad = cumsum_grad[ranks]`): `ranks` is `np.argsort(order)`, nothing raises, `-cut_grad` is the model's `i`-th cut update -/
theorem loop_round_spec_ranks {n d L : ℕ} (T : ℝ) (X : Fin n → Fin d → ℝ) (cl : List (ℕ × List ℝ)) (bb : Fin n → Fin L → ℝ)
    {P : ArrN ℝ} (hP : IsArrN P (radices cl) bb) {Bs : List (Arr ℝ)} {Os : List (Arr ℕ)} {i : ℕ} (hi : i < cl.length)
    (hB : Arr.IsRows (Bs.getD i Arr.err)
      (fun r : Fin n => binning T (xget (X r) (feat cl i)) (cutsAt cl i)) ((cutsAt cl i).length + 1))
    (hO : IsVecN (Os.getD i errN) (argsort (cutsAt cl i))) :
    (((emptyLikeN (nthN Os i)).ok = true ∧ (loopRanks Os i).ok = true) ∧ (loopCutR P Bs Os T i).ok = true) ∧
      Arr.IsVec (Arr.neg (loopCutR P Bs Os T i)) (cutGradSpec T X cl bb (cl[i], i)) := by
  obtain ⟨-, cg, hcs, hlen, hspec⟩ := loop_round_cs T X cl bb hP hi hB
  rw [cutsAt_eq_getElem cl hi] at hO
  have hR : IsVecN (loopRanks Os i) (argsortNat (argsort cl[i].2)) := Arr.isVecN_ranks hO (argsort_perm _)
  have hcut := hcs.neg_take1_of_isVecN hR hlen
  rw [hspec]
  exact ⟨⟨⟨by rw [emptyLikeN_ok]; exact hO.ok, hR.ok⟩, by have := hcut.ok; rwa [Arr.neg_ok] at this⟩, hcut⟩

/-- a loop whose state is (no statement raised so far, the list of updates so far) and whose rounds append one update -/
theorem foldl_flags_updates {σ β : Type} (step : Bool × List β → σ → Bool × List β) (okf : σ → Bool) (f : σ → β)
    (hstep : ∀ st zi, step st zi = (st.1 && okf zi, st.2 ++ [f zi])) :
    ∀ (l : List σ) (b : Bool) (init : List β), l.foldl step (b, init) = (b && l.all okf, init ++ l.map f)
  | [], b, init => by simp
  | a :: l, b, init => by
    rw [List.foldl_cons, hstep, foldl_flags_updates step okf f hstep l]
    simp [Bool.and_assoc]

/-- the same loop, read semantically: every round appends `f zi` and, as long as nothing raised before, raises nothing — whatever
    temporaries the rounds bind (their `ok` flags are whatever conjunction `step` computes) -/
theorem foldl_updates_true {σ β : Type} (step : Bool × List β → σ → Bool × List β) (f : σ → β) :
    ∀ (l : List σ) (init : List β), (∀ st zi, (step st zi).2 = st.2 ++ [f zi]) →
      (∀ st zi, zi ∈ l → st.1 = true → (step st zi).1 = true) → l.foldl step (true, init) = (true, init ++ l.map f)
  | [], init, _, _ => by simp
  | a :: l, init, h2, h1 => by
    have e : step (true, init) a = (true, init ++ [f a]) :=
      Prod.ext (h1 (true, init) a List.mem_cons_self rfl) (h2 (true, init) a)
    rw [List.foldl_cons, e, foldl_updates_true step f l _ h2 fun st zi hz => h1 st zi (List.mem_cons_of_mem _ hz)]
    simp

theorem radices_prod_ne_zero (cl : List (ℕ × List ℝ)) : (radices cl).prod ≠ 0 := by
  simp [radices, List.prod_eq_zero_iff]

end GemVerif.Np
