/-
  A curve `Pc` of prediction matrices with velocity `V` at `t = 0` (in the end the line `t ↦ P + t V` of RealCalc): it
  stays interior near `0`, and the proportions and the expressions the scores are built from are differentiable along
  it.  With the pairing lemmas this is what the derivative theorems of C02 start from (f-divergences and MMD in
  GeminiC02, Wasserstein in GeminiWass); `hasDerivAt_of_interior` is where the line comes in.
-/
import GemVerif.Lemmas.Gemini
import Mathlib.Analysis.SpecialFunctions.Log.Deriv

namespace GemVerif
open scoped Topology
open Spec Filter

variable {n K : ℕ}

section curve
variable {Pc : ℝ → Fin n → Fin K → ℝ} {V : Fin n → Fin K → ℝ}
  (hP : ∀ i k, HasDerivAt (fun t => Pc t i k) (V i k) 0)
include hP

theorem interior_eventually {ε : ℝ} (hI : Interior ε (Pc 0)) : ∀ᶠ t in 𝓝 (0 : ℝ), Interior ε (Pc t) := by
  unfold Interior
  rw [eventually_all]; intro i
  rw [eventually_all]; intro k
  exact ((hP i k).continuousAt.eventually (lt_mem_nhds (hI.lo i k))).and
    ((hP i k).continuousAt.eventually (gt_mem_nhds (hI.hi i k)))

theorem hasDerivAt_pi_curve (k : Fin K) : HasDerivAt (fun t : ℝ => Spec.pi (Pc t) k) (Spec.pi V k) 0 := by
  unfold Spec.pi
  exact (HasDerivAt.fun_sum fun i _ => hP i k).div_const _

/-- `alpha = P / π` (chi-square and MMD): `alpha' = (V - alpha π(V)) / π` -/
theorem hasDerivAt_div_pi_curve (i : Fin n) {k : Fin K} (hπ : Spec.pi (Pc 0) k ≠ 0) :
    HasDerivAt (fun t : ℝ => Pc t i k / Spec.pi (Pc t) k)
      ((V i k - Pc 0 i k / Spec.pi (Pc 0) k * Spec.pi V k) / Spec.pi (Pc 0) k) 0 := by
  refine ((hP i k).fun_div (hasDerivAt_pi_curve hP k) hπ).congr_deriv ?_
  field_simp

/-- `P alpha` (chi-square), at rates `2 alpha` in `P` and `-alpha²` in `π` -/
theorem hasDerivAt_mul_div_pi_curve (i : Fin n) {k : Fin K} (hπ : Spec.pi (Pc 0) k ≠ 0) :
    HasDerivAt (fun t : ℝ => Pc t i k * (Pc t i k / Spec.pi (Pc t) k))
      (2 * (Pc 0 i k / Spec.pi (Pc 0) k) * V i k
        + -(Pc 0 i k / Spec.pi (Pc 0) k * (Pc 0 i k / Spec.pi (Pc 0) k)) * Spec.pi V k) 0 :=
  ((hP i k).fun_mul (hasDerivAt_div_pi_curve hP i hπ)).congr_deriv (by ring)

/-- `π / alpha` (chi-square one-vs-one), at rates `-1 / alpha²` in `P` and `2 / alpha` in `π` -/
theorem hasDerivAt_pi_div_div_pi_curve {i : Fin n} {k : Fin K} (hπ : Spec.pi (Pc 0) k ≠ 0) (h0 : Pc 0 i k ≠ 0) :
    HasDerivAt (fun t : ℝ => Spec.pi (Pc t) k / (Pc t i k / Spec.pi (Pc t) k))
      (-(1 / (Pc 0 i k / Spec.pi (Pc 0) k) / (Pc 0 i k / Spec.pi (Pc 0) k)) * V i k
        + 2 / (Pc 0 i k / Spec.pi (Pc 0) k) * Spec.pi V k) 0 := by
  refine ((hasDerivAt_pi_curve hP k).fun_div (hasDerivAt_div_pi_curve hP i hπ) (div_ne_zero h0 hπ)).congr_deriv ?_
  field_simp
  ring

/-- `sqrt (P π)` (Hellinger) -/
theorem hasDerivAt_sqrt_curve {i : Fin n} {k : Fin K} (h : 0 < Pc 0 i k * Spec.pi (Pc 0) k) :
    HasDerivAt (fun t : ℝ => Real.sqrt (Pc t i k * Spec.pi (Pc t) k))
      (Spec.pi (Pc 0) k / (2 * Real.sqrt (Pc 0 i k * Spec.pi (Pc 0) k)) * V i k
        + Pc 0 i k / (2 * Real.sqrt (Pc 0 i k * Spec.pi (Pc 0) k)) * Spec.pi V k) 0 :=
  (((hP i k).fun_mul (hasDerivAt_pi_curve hP k)).sqrt h.ne').congr_deriv (by ring)

end curve

/-- `f log f` (both entropies of the KL score) -/
theorem hasDerivAt_mul_log {f : ℝ → ℝ} {f' x : ℝ} (hf : HasDerivAt f f' x) (h0 : f x ≠ 0) :
    HasDerivAt (fun t => f t * Real.log (f t)) ((Real.log (f x) + 1) * f') x := by
  refine (hf.fun_mul (hf.log h0)).congr_deriv ?_
  rw [mul_div_cancel₀ _ h0]
  ring

theorem sum_pi_term (B : Fin K → ℝ) (V : Fin n → Fin K → ℝ) :
    ∑ i, ∑ k, B k / n * V i k = ∑ k, B k * Spec.pi V k := by
  rw [Finset.sum_comm]
  refine Finset.sum_congr rfl fun k _ => ?_
  unfold Spec.pi
  rw [Finset.sum_div, Finset.mul_sum]
  refine Finset.sum_congr rfl fun i _ => ?_
  ring

/-- centring is self-adjoint: a centred column `P[:,k] - π_k` moves at `V[:,k] - π(V)_k`, and its pairing with `m` is the
    pairing of `V[:,k]` with the centred `m` (the `sg - sg.mean(0)`, `mm - mm.mean(0)` of the TV and MMD one-vs-all
    gradient code) -/
theorem sum_sub_pi_mul (V : Fin n → Fin K → ℝ) (k : Fin K) (m : Fin n → ℝ) :
    ∑ i, (V i k - Spec.pi V k) * m i = ∑ i, (m i - (∑ j, m j) / n) * V i k := by
  simp only [Spec.pi, sub_mul, Finset.sum_sub_distrib, div_mul_eq_mul_div, ← Finset.sum_div, ← Finset.mul_sum]
  rw [mul_comm (∑ j, V j k), Finset.sum_congr rfl fun i _ => mul_comm (V i k) (m i)]

/-- pairing with `alpha' = (v - alpha w) / π` (`hasDerivAt_div_pi_curve`) -/
theorem sum_mul_alpha_deriv (Y α v : Fin n → ℝ) (π w : ℝ) :
    ∑ i, (v i - α i * w) / π * Y i = (∑ i, Y i * v i) / π - (∑ i, α i * Y i) / π * w := by
  rw [Finset.sum_div, Finset.sum_div, Finset.sum_mul, ← Finset.sum_sub_distrib]
  exact Finset.sum_congr rfl fun i _ => by ring

theorem grad_sum_split (G A : Fin n → Fin K → ℝ) (B : Fin K → ℝ) (V : Fin n → Fin K → ℝ)
    (h : ∀ i k, G i k = A i k + B k / n) :
    ∑ i, ∑ k, G i k * V i k = ∑ k, (∑ i, A i k * V i k + B k * Spec.pi V k) := by
  simp only [h, add_mul, Finset.sum_add_distrib, sum_pi_term]
  rw [Finset.sum_comm]

/-- `d(πᵀ W π)` for a symmetric `W`: the two terms in which `π` moves coincide (both one-vs-one scores with a distance
    matrix, MMD and Wasserstein, are of this form; `ω = π'`, `Z = W'`) -/
theorem sym_quad_deriv (π ω : Fin K → ℝ) {w : Fin K → Fin K → ℝ} (hw : ∀ a b, w a b = w b a)
    (Z : Fin K → Fin K → ℝ) :
    ∑ a, (ω a * ∑ b, w a b * π b + π a * ∑ b, (Z a b * π b + w a b * ω b))
      = ∑ a, ∑ b, π a * π b * Z a b + ∑ k, 2 * (∑ b, w k b * π b) * ω k := by
  have h : ∑ a, π a * ∑ b, w a b * ω b = ∑ k, (∑ b, w k b * π b) * ω k := by
    simp only [Finset.mul_sum, Finset.sum_mul]
    rw [Finset.sum_comm]
    exact Finset.sum_congr rfl fun k _ => Finset.sum_congr rfl fun b _ => by rw [hw b k]; ring
  simp only [Finset.sum_add_distrib, mul_add, h]
  rw [add_comm, add_assoc, ← Finset.sum_add_distrib]
  congr 1
  · exact Finset.sum_congr rfl fun a _ => by
      rw [Finset.mul_sum]
      exact Finset.sum_congr rfl fun b _ => by ring
  · exact Finset.sum_congr rfl fun k _ => by ring

/-- a one-vs-one score `πᵀ W π` along a curve, for a moving distance matrix `W` that is symmetric at `0` (MMD and
    Wasserstein) -/
theorem hasDerivAt_ovo {Pc : ℝ → Fin n → Fin K → ℝ} {V : Fin n → Fin K → ℝ}
    (hP : ∀ i k, HasDerivAt (fun t => Pc t i k) (V i k) 0) {W : ℝ → Fin K → Fin K → ℝ} {Z : Fin K → Fin K → ℝ}
    (hW : ∀ a b, HasDerivAt (fun t => W t a b) (Z a b) 0) (hs : ∀ a b, W 0 a b = W 0 b a) :
    HasDerivAt (fun t => ∑ a, Spec.pi (Pc t) a * ∑ b, W t a b * Spec.pi (Pc t) b)
      (∑ a, ∑ b, Spec.pi (Pc 0) a * Spec.pi (Pc 0) b * Z a b
        + ∑ k, 2 * (∑ b, W 0 k b * Spec.pi (Pc 0) b) * Spec.pi V k) 0 :=
  (HasDerivAt.fun_sum fun a _ => (hasDerivAt_pi_curve hP a).fun_mul
    (HasDerivAt.fun_sum fun b _ => (hW a b).fun_mul (hasDerivAt_pi_curve hP b))).congr_deriv
    (sym_quad_deriv _ _ hs Z)

/-- bookkeeping of the one-vs-one derivative (first sum of `hasDerivAt_ovo`): a distance `W[a,b]` moves through both its
    clusters, `dW[a,b] = X[a,b] + X[b,a]` off the diagonal with `X[a,b]` the part in which column `a` moves; regrouped
    column by column (MMD and Wasserstein) -/
theorem ovo_regroup (π : Fin K → ℝ) (X : Fin K → Fin K → ℝ) :
    ∑ a, ∑ b, π a * π b * (if a = b then 0 else X a b + X b a)
      = ∑ k, ∑ o, if o = k then 0 else 2 * π o * (π k * X k o) := by
  -- `X a b` and `X b a` are collected at `(k, o) = (a, b)` and `(b, a)`
  have h : ∀ a b, π a * π b * (if a = b then 0 else X a b + X b a)
      = (if b = a then 0 else π b * (π a * X a b)) + if a = b then 0 else π a * (π b * X b a) := fun a b => by
    by_cases e : a = b
    · rw [if_pos e, if_pos e.symm, if_pos e, mul_zero, add_zero]
    · rw [if_neg e, if_neg (Ne.symm e), if_neg e]
      ring
  simp only [h, Finset.sum_add_distrib]
  rw [Finset.sum_comm (f := fun a b => if a = b then 0 else π a * (π b * X b a)), ← Finset.sum_add_distrib]
  refine Finset.sum_congr rfl fun k _ => ?_
  rw [← Finset.sum_add_distrib]
  refine Finset.sum_congr rfl fun o _ => ?_
  split_ifs
  · ring
  · ring

/-- The scores are given by real formulas `F` on interior points only, and interior is an open condition: it is enough
    to differentiate the formula along an arbitrary curve through `P` with velocity `V` (the proofs then never see the
    line, only `Pc 0`). -/
theorem hasDerivAt_of_interior {ε : ℝ} {S F : (Fin n → Fin K → ℝ) → ℝ}
    (hSF : ∀ {Q : Fin n → Fin K → ℝ}, Interior ε Q → S Q = F Q) {P : Fin n → Fin K → ℝ} (hI : Interior ε P)
    (V : Fin n → Fin K → ℝ) {d : ℝ}
    (h : ∀ Pc : ℝ → Fin n → Fin K → ℝ, Pc 0 = P → (∀ i k, HasDerivAt (fun t => Pc t i k) (V i k) 0) →
      HasDerivAt (fun t => F (Pc t)) d 0) :
    HasDerivAt (fun t : ℝ => S (fun i k => P i k + t * V i k)) d 0 :=
  (h (line P V) (line_zero P V) (hasDerivAt_line P V)).congr_of_eventuallyEq
    ((interior_eventually (hasDerivAt_line P V) (by rwa [line_zero])).mono fun _ ht => hSF ht)

/-- Each entry `(i, k)` moves with `P i k` at rate `A i k` and with the proportion `π k` at rate `B i k`: paired with
    the direction, entry `(i, k)` of the gradient is `A i k + mean_j B j k`. -/
theorem sum_rates (A B V : Fin n → Fin K → ℝ) :
    ∑ i, ∑ k, (A i k * V i k + B i k * Spec.pi V k) = ∑ i, ∑ k, (A i k + (∑ j, B j k) / n) * V i k := by
  simp only [add_mul, Finset.sum_add_distrib, sum_pi_term]
  congr 1
  rw [Finset.sum_comm]
  exact Finset.sum_congr rfl fun k _ => (Finset.sum_mul _ _ _).symm

theorem hasDerivAt_sum_entries {f : Fin n → Fin K → ℝ → ℝ} {a b V : Fin n → Fin K → ℝ}
    (h : ∀ i k, HasDerivAt (f i k) (a i k * V i k + b i k * Spec.pi V k) 0) :
    HasDerivAt (fun t => ∑ i, ∑ k, f i k t) (∑ i, ∑ k, (a i k + (∑ j, b j k) / n) * V i k) 0 :=
  (HasDerivAt.fun_sum fun i _ => HasDerivAt.fun_sum fun k _ => h i k).congr_deriv (sum_rates a b V)

/-- A sum over rows of a product of two row sums (the one-vs-one f-divergences): with `F i`, `G i` the row sums at `0`,
    the product rule gives entry `(i, k)` the rates `a G + F c` in `P i k` and `b G + F d` in `π k`. -/
theorem hasDerivAt_sum_rows {f g : Fin n → Fin K → ℝ → ℝ} {a b c d V : Fin n → Fin K → ℝ}
    (hf : ∀ i k, HasDerivAt (f i k) (a i k * V i k + b i k * Spec.pi V k) 0)
    (hg : ∀ i k, HasDerivAt (g i k) (c i k * V i k + d i k * Spec.pi V k) 0) :
    HasDerivAt (fun t => ∑ i, (∑ k, f i k t) * (∑ k, g i k t))
      (∑ i, ∑ k, (a i k * (∑ l, g i l 0) + (∑ l, f i l 0) * c i k
        + (∑ j, (b j k * (∑ l, g j l 0) + (∑ l, f j l 0) * d j k)) / n) * V i k) 0 := by
  refine (HasDerivAt.fun_sum fun i _ => (HasDerivAt.fun_sum fun k _ => hf i k).fun_mul
    (HasDerivAt.fun_sum fun k _ => hg i k)).congr_deriv ?_
  rw [← sum_rates]
  refine Finset.sum_congr rfl fun i _ => ?_
  rw [Finset.sum_mul, Finset.mul_sum, ← Finset.sum_add_distrib]
  exact Finset.sum_congr rfl fun k _ => by ring

/-- a point of the simplex (rows sum to 1) at which the examples of `Props/` show hypotheses satisfiable -/
noncomputable def exP : Fin 2 → Fin 2 → ℝ := ![![7 / 10, 3 / 10], ![2 / 10, 8 / 10]]

theorem exP_interior : Interior (1 / 10) exP := by
  simp only [Interior, Fin.forall_fin_two, exP, Matrix.cons_val_zero, Matrix.cons_val_one]
  norm_num

theorem exP_pi : Spec.pi exP 0 = 9 / 20 ∧ Spec.pi exP 1 = 11 / 20 := by
  simp only [Spec.pi, Fin.sum_univ_two, exP, Matrix.cons_val_zero, Matrix.cons_val_one]
  norm_num

end GemVerif
