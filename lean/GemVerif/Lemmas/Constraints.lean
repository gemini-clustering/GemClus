/-
  C16 — the documented hyperparameter domains (`Spec.Constraints`: hand-written from the docstrings of /repo, not from
  the code; here and not in `Props/C16.lean` so that the line-protocol driver can export the table to the Python
  oracle without depending on the proofs), the Boolean comparison of any translated table with it (`tableAgrees`,
  `keysIncluded`), and `check_groups` through the Python primitives of `Model/Constraints.lean`.  No Mathlib.
-/
import GemVerif.Model.Constraints
import GemVerif.Lemmas.Fold

namespace GemVerif.Spec.Constraints
open GemVerif.Model.Constraints

/-- Is a value inside the documented domain of a parameter?
    `unspecified` = the docstring does not settle it (see the readings below); such values are excluded from both
    directions of the table theorems, and the run-time oracle only demands a clean outcome for them (either a
    completed fit or a ValueError/TypeError-family rejection that leaves no fitted model). -/
inductive Verdict | inDom | outDom | unspecified
  deriving DecidableEq, Repr

/-- A documented domain, in the vocabulary of the docstrings.

    Readings (recorded once, used everywhere):
    * "int" is a Python/numpy integer.  Python `bool` is a subclass of `int`; the docstrings do not say whether
      `True`/`False` count as 1/0 for an "int" or "float" parameter ⇒ `unspecified`.
    * "float" is a finite real number, integers included (numeric tower; every example in the docs passes ints).
      `inf`, `-inf` and `nan` are not hyperparameter values ⇒ outside.
    * "bool" is Python `bool`; whether `numpy.bool_` counts is not stated ⇒ `unspecified`.
    * a "callable" is a function with the signature the parameter needs; an arbitrary object that merely defines
      `__call__` (e.g. a GEMINI instance passed as a kernel) ⇒ `unspecified`.
    * "int" seeds (`random_state`) are numpy seeds: 0 … 2³²−1 (docstrings silent on the range). -/
inductive Dom
  /-- "int" with the documented or obviously intended bounds -/
  | int (lo : Int) (hi : Option Int)
  /-- "float" in `(lo, hi)` / `[lo, hi)`; `strict` says whether `lo` itself is excluded; `hi` is always excluded -/
  | real (lo : Rat) (strict : Bool) (hi : Option Rat)
  /-- one of the listed strings -/
  | oneOf (opts : List String)
  | bool
  | none
  | dict
  | list
  | ndarray
  /-- "array" / "list of arrays" / "ndarray of shape …": a list, tuple or ndarray -/
  | array
  | callable
  /-- an integer seed -/
  | seed
  /-- a `RandomState` instance -/
  | randomState
  /-- a GEMINI instance -/
  | geminiInst
  /-- an instance of one of the listed estimator classes -/
  | instanceOfAny (classes : List String)
  /-- a single value about which the docstring is silent -/
  | silent (v : Value)
  deriving Repr

def inIntRange (lo : Int) (hi : Option Int) (n : Int) : Bool :=
  decide (lo ≤ n) && (match hi with | some h => decide (n ≤ h) | Option.none => true)

def inRealRange (lo : Rat) (strict : Bool) (hi : Option Rat) (q : Rat) : Bool :=
  (if strict then decide (lo < q) else decide (lo ≤ q)) && (match hi with | some h => decide (q < h) | Option.none => true)

def Dom.verdict : Dom → Value → Verdict
  | .int lo hi, .int n => if inIntRange lo hi n then .inDom else .outDom
  | .int _ _, .bool _ => .unspecified
  | .real lo strict hi, .int n => if inRealRange lo strict hi (n : Rat) then .inDom else .outDom
  | .real lo strict hi, .float q => if inRealRange lo strict hi q then .inDom else .outDom
  | .real _ _ _, .bool _ => .unspecified
  | .oneOf opts, .str s => if opts.contains s then .inDom else .outDom
  | .bool, .bool _ => .inDom
  | .bool, .npBool _ => .unspecified
  | .none, .none => .inDom
  | .dict, .dict => .inDom
  | .list, .list => .inDom
  | .ndarray, .ndarray => .inDom
  | .array, .list => .inDom
  | .array, .tuple => .inDom
  | .array, .ndarray => .inDom
  | .callable, .func => .inDom
  | .callable, .gemini _ => .unspecified
  | .seed, .int n => if inIntRange 0 (some 4294967295) n then .inDom else .outDom
  | .seed, .bool _ => .unspecified
  | .randomState, .randomState => .inDom
  | .geminiInst, .gemini _ => .inDom
  | .instanceOfAny cs, .estimator c => if cs.contains c then .inDom else .outDom
  | .silent w, v => if v = w then .unspecified else .outDom
  | _, _ => .outDom

/-- a parameter's documented domain is a union -/
def verdictOf (ds : List Dom) (v : Value) : Verdict :=
  if ds.any (fun d => d.verdict v = .inDom) then .inDom
  else if ds.any (fun d => d.verdict v = .unspecified) then .unspecified
  else .outDom

/-! #### Shared paragraphs of the docstrings -/

/-- `gemclus.gemini.AVAILABLE_GEMINIS` as listed in the user guide -/
def geminiNames : List String :=
  ["mmd_ova", "mmd_ovo", "wasserstein_ova", "wasserstein_ovo", "kl_ova", "kl_ovo", "mi", "tv_ova", "tv_ovo",
   "hellinger_ova", "hellinger_ovo", "chi2_ova", "chi2_ovo"]

/-- `kernel: {'additive_chi2', 'chi2', 'cosine','linear','poly','polynomial','rbf','laplacian','sigmoid', 'precomputed'}` -/
def kernelNames : List String :=
  ["additive_chi2", "chi2", "cosine", "linear", "poly", "polynomial", "rbf", "laplacian", "sigmoid", "precomputed"]

/-- KernelRIM `base_kernel`: the same list without 'precomputed' -/
def baseKernelNames : List String :=
  ["additive_chi2", "chi2", "cosine", "linear", "poly", "polynomial", "rbf", "laplacian", "sigmoid"]

/-- `metric: {'cosine', 'euclidean', 'l2','l1','manhattan','cityblock', 'precomputed'}` -/
def metricNames : List String := ["cosine", "euclidean", "l2", "l1", "manhattan", "cityblock", "precomputed"]

/-- "MLP___, Linear___ or Categorical___ — a GemClus model that involves gemini maximisation with gradient descent" -/
def gradientModels : List String :=
  ["LinearModel", "LinearMMD", "LinearWasserstein", "RIM", "KernelRIM", "MLPModel", "MLPMMD", "MLPWasserstein",
   "SparseLinearModel", "SparseLinearMMD", "SparseLinearMI", "SparseMLPModel", "SparseMLPMMD",
   "CategoricalModel", "CategoricalMMD", "CategoricalWasserstein", "Douglas"]

-- "n_clusters : int, default=3 — the maximum number of clusters to form" (silent on the range: at least one cluster)
def dNClusters : List Dom := [.int 1 Option.none]
-- "gemini: str, GEMINI instance or None"
def dGemini : List Dom := [.oneOf geminiNames, .geminiInst, .none]
-- "max_iter: int — maximum number of epochs" (silent: at least one epoch; whether 0 epochs is allowed is not said)
def dMaxIter : List Dom := [.int 1 Option.none, .silent (.int 0)]
-- "learning_rate: float — controls the step-size" (silent: a step size is positive)
def dPositive : List Dom := [.real 0 true Option.none]
-- "solver: {'sgd','adam'}"
def dSolver : List Dom := [.oneOf ["sgd", "adam"]]
-- "batch_size: int, default=None — if set to None, the whole data will be considered" (a batch holds ≥ 1 sample)
def dBatch : List Dom := [.int 1 Option.none, .none]
-- "verbose: bool" / "ovo: bool" / "dynamic: bool"
def dBool : List Dom := [.bool]
-- "random_state: int, RandomState instance, default=None"
def dRandomState : List Dom := [.seed, .randomState, .none]
-- MMD estimators: the docstring lists the ten names only; MMDGEMINI's docstring ("ignored if the kernel is callable")
-- and every `kernel` table show that a callable X ↦ kernel matrix is the obviously intended extension.
def dKernel : List Dom := [.oneOf kernelNames, .callable]
-- "kernel_params: dict, default=None" / "metric_params: dict, default=None"
def dParams : List Dom := [.dict, .none]
-- Wasserstein estimators: the seven names; callables are not documented for the estimators
def dMetric : List Dom := [.oneOf metricNames]
-- "reg: float — regularisation hyperparameter for the ℓ2 weight penalty" (silent: a penalty weight is ≥ 0)
def dNonneg : List Dom := [.real 0 false Option.none]
-- "groups: list of arrays of various shapes, default=None" (the content of the list is `check_groups`' business)
def dGroups : List Dom := [.list, .none]
-- "n_hidden_dim: int — the number of neurons in the hidden layer" (at least one neuron)
def dHidden : List Dom := [.int 1 Option.none]
-- "M: float, default=10 — the hierarchy coefficient" (silent: positive; whether 0 is allowed is not said)
def dM : List Dom := [.real 0 true Option.none, .silent (.int 0), .silent (.float 0)]
-- "alpha: float — the weight of the group-lasso penalty" (a penalty weight is ≥ 0)
def dAlpha : List Dom := [.real 0 false Option.none]

def baseParams : List (String × List Dom) := [
  ("n_clusters", dNClusters), ("max_iter", dMaxIter), ("learning_rate", dPositive), ("solver", dSolver),
  ("batch_size", dBatch), ("verbose", dBool), ("random_state", dRandomState)]

/-- The documented domains, class by class and function by function. -/
def documented : List (String × List (String × List Dom)) := [
  -- gemclus/linear/_linear_geminis.py
  ("LinearModel", baseParams ++ [("gemini", dGemini)]),
  ("LinearMMD", baseParams ++ [("kernel", dKernel), ("ovo", dBool), ("kernel_params", dParams)]),
  ("LinearWasserstein", baseParams ++ [("metric", dMetric), ("ovo", dBool), ("metric_params", dParams)]),
  ("RIM", baseParams ++ [("reg", dNonneg)]),
  -- "base_kernel: {...nine names}, or callable"
  ("KernelRIM", baseParams ++ [("reg", dNonneg), ("base_kernel", [.oneOf baseKernelNames, .callable]),
                               ("base_kernel_params", dParams)]),
  -- gemclus/mlp/_mlp_geminis.py
  ("MLPModel", baseParams ++ [("gemini", dGemini), ("n_hidden_dim", dHidden)]),
  ("MLPMMD", baseParams ++ [("n_hidden_dim", dHidden), ("kernel", dKernel), ("ovo", dBool), ("kernel_params", dParams)]),
  ("MLPWasserstein", baseParams ++ [("n_hidden_dim", dHidden), ("metric", dMetric), ("ovo", dBool),
                                    ("metric_params", dParams)]),
  -- gemclus/sparse/_linear_sparse.py
  ("SparseLinearModel", baseParams ++ [("gemini", dGemini), ("groups", dGroups), ("alpha", dAlpha), ("dynamic", dBool)]),
  ("SparseLinearMMD", baseParams ++ [("groups", dGroups), ("kernel", dKernel), ("ovo", dBool), ("alpha", dAlpha),
                                     ("dynamic", dBool), ("kernel_params", dParams)]),
  ("SparseLinearMI", baseParams ++ [("groups", dGroups), ("alpha", dAlpha)]),
  -- gemclus/sparse/_mlp_sparse.py
  ("SparseMLPModel", baseParams ++ [("gemini", dGemini), ("groups", dGroups), ("n_hidden_dim", dHidden), ("M", dM),
                                    ("alpha", dAlpha), ("dynamic", dBool)]),
  ("SparseMLPMMD", baseParams ++ [("groups", dGroups), ("n_hidden_dim", dHidden), ("kernel", dKernel), ("M", dM),
                                  ("alpha", dAlpha), ("ovo", dBool), ("dynamic", dBool), ("kernel_params", dParams)]),
  -- gemclus/nonparametric/_categorical_models.py  (no batch_size: "does not support batching")
  ("CategoricalModel", [("n_clusters", dNClusters), ("gemini", dGemini), ("max_iter", dMaxIter),
                        ("learning_rate", dPositive), ("solver", dSolver), ("verbose", dBool),
                        ("random_state", dRandomState)]),
  ("CategoricalMMD", [("n_clusters", dNClusters), ("max_iter", dMaxIter), ("learning_rate", dPositive),
                      ("solver", dSolver), ("kernel", dKernel), ("ovo", dBool), ("verbose", dBool),
                      ("random_state", dRandomState), ("kernel_params", dParams)]),
  ("CategoricalWasserstein", [("n_clusters", dNClusters), ("max_iter", dMaxIter), ("learning_rate", dPositive),
                              ("metric", dMetric), ("ovo", dBool), ("solver", dSolver), ("verbose", dBool),
                              ("random_state", dRandomState), ("metric_params", dParams)]),
  -- gemclus/tree/douglas.py
  --   "n_cuts: int, default=1 — the number of cuts to consider per feature" (at least one cut; None is not documented)
  --   "feature_mask: array of boolean [shape d], default None"  (its length is the mask-length test's business)
  --   "temperature: float" (a softmax temperature is positive)
  ("Douglas", baseParams ++ [("gemini", dGemini), ("n_cuts", [.int 1 Option.none]),
                             ("feature_mask", [.ndarray, .none]), ("temperature", dPositive)]),
  -- gemclus/tree/kauri.py
  --   "max_clusters: int", "max_depth: int, default=None", "min_samples_split: int, default=2" (a split needs two
  --   samples), "min_samples_leaf: int, default=1", "max_features: int, default=None", "max_leaves: int,
  --   default=None" (silent: a clustering tree has at least two leaves; whether 1 is allowed is not said),
  --   "kernel: {ten names}" (+ callable, as for the MMD estimators), "random_state: int, RandomState instance"
  ("Kauri", [("max_clusters", [.int 1 Option.none]), ("max_depth", [.int 1 Option.none, .none]),
             ("min_samples_split", [.int 2 Option.none]), ("min_samples_leaf", [.int 1 Option.none]),
             ("max_features", [.int 1 Option.none, .none]),
             ("max_leaves", [.int 2 Option.none, .none, .silent (.int 1)]),
             ("kernel", dKernel), ("verbose", dBool), ("random_state", dRandomState)]),
  -- gemclus/gemini/_fdivergences.py: "ovo: bool", "epsilon: float — the precision for clipping the prediction
  -- values" (clipping to [ε, 1−ε] needs 0 < ε < 1; ε ≥ 1/2 would be absurd but nothing says so)
  ("KLGEMINI", [("ovo", dBool), ("epsilon", [.real 0 true (some 1)])]),
  ("MI", [("epsilon", [.real 0 true (some 1)])]),
  ("TVGEMINI", [("ovo", dBool), ("epsilon", [.real 0 true (some 1)])]),
  ("HellingerGEMINI", [("ovo", dBool), ("epsilon", [.real 0 true (some 1)])]),
  ("ChiSquareGEMINI", [("ovo", dBool), ("epsilon", [.real 0 true (some 1)])]),
  -- gemclus/gemini/_geomdistances.py
  --   MMDGEMINI "kernel: {ten names}", "kernel_params: … ignored if the kernel is callable or precomputed"
  ("MMDGEMINI", [("ovo", dBool), ("kernel", dKernel), ("kernel_params", dParams), ("epsilon", [.real 0 true (some 1)])]),
  --   WassersteinGEMINI "metric: {seven names}" (its docstring mentions callable metrics in passing, its
  --   constructor has never accepted them: the list of names is taken as the domain)
  ("WassersteinGEMINI", [("ovo", dBool), ("metric", dMetric), ("metric_params", dParams),
                         ("epsilon", [.real 0 true (some 1)])]),
  -- gemclus/mlcl.py: "gemini_model: MLP___, Linear___ or Categorical___", "must_link: ndarray of shape
  -- (n_constraints, 2) or None … described by a list of pairs", "factor: float — a weighting hyperparameter" (positive)
  ("add_mlcl_constraint", [("gemini_model", [.instanceOfAny gradientModels]), ("must_link", [.array, .none]),
                           ("cannot_link", [.array, .none]), ("factor", dPositive)]),
  -- gemclus/tree/kauri.py: "kauri_tree: Kauri — a Kauri instance that was trained",
  -- "feature_names: array of shape (n_features,) or None"
  ("print_kauri_tree", [("kauri_tree", [.instanceOfAny ["Kauri"]]), ("feature_names", [.array, .none])]),
  -- gemclus/data/synthetic_data.py
  --   draw_gmm "n: int — the number of samples", "loc: list of K ndarray", "scale: list of K ndarray",
  --   "pvals: ndarray of shape (K,)", "random_state: int, RandomState instance or None"
  ("draw_gmm", [("n", [.int 1 Option.none]), ("loc", [.array]), ("scale", [.array]), ("pvals", [.array]),
                ("random_state", dRandomState)]),
  --   multivariate_student_t "df: int, default=10 — degrees of freedom": gstm documents the same quantity as
  --   "df: float, default=1" and forwards it here, so the intended domain is a positive real (doc slip, reported)
  ("multivariate_student_t", [("n", [.int 1 Option.none]), ("loc", [.array]), ("scale", [.array]),
                              ("df", dPositive), ("random_state", dRandomState)]),
  --   gstm "n: int, default=500" (four components: at least one sample each; smaller positive n not settled),
  --   "alpha: float — how close the means are" (a positive scale), "df: float"
  ("gstm", [("n", [.int 4 Option.none, .silent (.int 1), .silent (.int 2), .silent (.int 3)]), ("alpha", dPositive),
            ("df", dPositive), ("random_state", dRandomState)]),
  --   celeux_one "n: int", "p: int — the number of excessive noisy variables" (whether p = 0 is allowed is not
  --   said), "mu: float — controls how the means are close to each other by scaling" (a positive scale)
  ("celeux_one", [("n", [.int 1 Option.none]), ("p", [.int 1 Option.none, .silent (.int 0)]), ("mu", dPositive),
                  ("random_state", dRandomState)]),
  ("celeux_two", [("n", [.int 1 Option.none]), ("random_state", dRandomState)])]

/-- verdict of the documentation on `owner(param = v)`; `none` when the parameter is not documented at all -/
def docVerdict (owner param : String) (v : Value) : Option Verdict :=
  ((documented.lookup owner).bind fun rows => rows.lookup param).map fun ds => verdictOf ds v

/-- every (owner, parameter) the documentation describes -/
def documentedKeys : List (String × String) :=
  documented.flatMap fun (o, rows) => rows.map fun (p, _) => (o, p)

/-! #### The representative values the table theorems range over -/

def tiny : Rat := 1 / 1099511627776          -- 2⁻⁴⁰ (a float)

/-- hand-written part: every type, every documented option, boundary neighbours of every documented bound -/
def baseUniverse : List Value :=
  [.int (-1), .int 0, .int 1, .int 2, .int 3, .int 4, .int 5, .int 4294967295, .int 4294967296,
   .float (-1), .float (-tiny), .float 0, .float tiny, .float (1 / 2), .float (1 - tiny), .float 1, .float (1 + tiny),
   .float (5 / 2), .float 2, .posInf, .negInf, .nan,
   .bool true, .bool false, .npBool true, .npBool false,
   .none, .func, .dict, .list, .tuple, .ndarray, .randomState,
   .gemini "MMDGEMINI", .gemini "WassersteinGEMINI", .gemini "MI",
   .estimator "LinearModel", .estimator "SparseMLPMMD", .estimator "Douglas", .estimator "Kauri", .object,
   .str "", .str "bogus", .str "ADAM", .str "Linear", .str "mmd", .str "none", .str "None"]
  ++ (geminiNames ++ kernelNames ++ metricNames ++ ["sgd", "adam"]).map Value.str

/-- boundary neighbours of a bound that occurs in an extracted interval -/
def boundValues : Bound → List Value
  | .fin q =>
    (if q.den = 1 then [Value.int (q.num - 1), .int q.num, .int (q.num + 1)] else []) ++
    [.float (q - tiny), .float q, .float (q + tiny)]
  | _ => []

/-- every interval bound that occurs in a translated table (each once) -/
def tableBounds (table : List (String × List (String × Option (List Constraint)))) : List Bound :=
  (table.flatMap fun (_, rows) => rows.flatMap fun (_, row) => (row.getD []).flatMap fun c =>
    match c with
    | .interval _ lo hi _ => [lo, hi]
    | _ => []).eraseDups

/-- every option string that occurs in a translated table (each once) -/
def tableStrings (env : Env) (table : List (String × List (String × Option (List Constraint)))) : List String :=
  (table.flatMap fun (_, rows) => rows.flatMap fun (_, row) => (row.getD []).flatMap fun c =>
    match c with
    | .strOptions sets lits => sets.flatMap env.members ++ lits
    | _ => []).eraseDups

/-- all representative values: the hand-written ones, the neighbours of every extracted bound, every extracted option -/
def repValues (env : Env) (table : List (String × List (String × Option (List Constraint)))) : List Value :=
  (baseUniverse ++ (tableBounds table).flatMap boundValues ++ (tableStrings env table).map Value.str).eraseDups

/-! #### Explicit exception lists of the table theorems (each entry is re-confirmed on the real code by every run) -/

/-- Values that pass the table although they are outside the documented domain, and are rejected later inside
    `fit` / the call by a ValueError/TypeError-family error.
    (Until /repo commits a3b5130, 42cc36b and 121f1b6 the list also held `Douglas(n_cuts=None)`, the seeds ≥ 2³² of the
    DiscriminativeModel subclasses and the extra metric names / callables of the three *Wasserstein estimators.) -/
def lateRejected : List (String × String × Value) :=
  -- scikit-learn's "array-like" test (`_is_arraylike_not_scalar`) lets a dict through (it has `__len__`);
  -- `check_array` / the body then rejects it
  [("draw_gmm", "loc", Value.dict), ("draw_gmm", "scale", .dict), ("draw_gmm", "pvals", .dict),
   ("multivariate_student_t", "loc", .dict), ("multivariate_student_t", "scale", .dict),
   ("add_mlcl_constraint", "must_link", .dict), ("add_mlcl_constraint", "cannot_link", .dict),
   ("print_kauri_tree", "feature_names", .dict)]

/-- Documented values that the extracted table rejects.  Empty since /repo commit 42cc36b
    (`"random_state": ["random_state"]` on DiscriminativeModel; before it, `random_state=RandomState(…)` — documented
    "int, RandomState instance" — was rejected by every DiscriminativeModel subclass, DESIGN §8 row 12). -/
def knownDeviations : List (String × String × Value) := []

/-- Parameters the tables do not validate at all (no entry, or an entry under a key that names no parameter): every
    out-of-domain value would reach the body of `fit` / the function.  Empty since /repo commits 12ea5d8
    (`"groups": [list, None]` added to SparseMLPModel) and 37cb7b8 (`must-link`/`cannot-link` keys of
    add_mlcl_constraint renamed to the parameter names). -/
def unvalidated : List (String × String) := []

end GemVerif.Spec.Constraints

namespace GemVerif.Lemmas.Constraints
open GemVerif.Model.Constraints

section tables
open GemVerif.Spec.Constraints

abbrev Table := List (String × List (String × Option (List Constraint)))

/-- `repValues` before duplicates are removed: ranging over it proves the same and spares the removal -/
def repCandidates (env : Env) (table : Table) : List Value :=
  baseUniverse ++ (tableBounds table).flatMap boundValues ++ (tableStrings env table).map Value.str

theorem mem_repValues {env : Env} {table : Table} {v : Value} : v ∈ repValues env table ↔ v ∈ repCandidates env table :=
  List.mem_eraseDups

/-- Both directions for the value `v` of parameter `p` of `o` with table entry `c`: inside the documented domain ⇒
    accepted, accepted ⇒ not outside it, each up to its list of exceptions. -/
def Agree (env : Env) (o p : String) (c : Option (List Constraint)) (v : Value) : Prop :=
  (docVerdict o p v = some .inDom → accepts env c v = true ∨ (o, p, v) ∈ knownDeviations) ∧
  (accepts env c v = true →
    docVerdict o p v ≠ some .outDom ∨ (o, p, v) ∈ lateRejected ∨ (o, p) ∈ unvalidated)

/-- The values on which a documented domain and a table entry disagree: documented but rejected (`true`), or outside
    the documentation but accepted (`false`).  It mentions neither owner nor parameter, so that the kernel evaluates
    it once for all the parameters that share a domain and an entry. -/
def disagreements (env : Env) (vals : List Value) (ds : List Dom) (c : Option (List Constraint)) : List (Value × Bool) :=
  vals.filterMap fun v =>
    match verdictOf ds v, accepts env c v with
    | .inDom, false => some (v, true)
    | .outDom, true => some (v, false)
    | _, _ => none

/-- every disagreement of a parameter is a listed exception -/
def paramAgrees (env : Env) (vals : List Value) (o p : String) (c : Option (List Constraint)) : Bool :=
  match (documented.lookup o).bind (·.lookup p) with
  | none => true
  | some ds => (disagreements env vals ds c).all fun (v, rejected) =>
      if rejected then decide ((o, p, v) ∈ knownDeviations)
      else decide ((o, p, v) ∈ lateRejected) || decide ((o, p) ∈ unvalidated)

def tableAgrees (env : Env) (vals : List Value) (t : Table) : Bool :=
  t.all fun (o, ps) => ps.all fun (p, c) => paramAgrees env vals o p c

theorem of_paramAgrees {env : Env} {vals : List Value} {o p : String} {c : Option (List Constraint)}
    (h : paramAgrees env vals o p c = true) : ∀ v ∈ vals, Agree env o p c v := by
  intro v hv
  unfold Agree docVerdict
  unfold paramAgrees at h
  cases hd : (documented.lookup o).bind (·.lookup p) with
  | none => simp
  | some ds =>
    rw [hd] at h
    -- `key b`: if `(v, b)` is a disagreement, it is excused
    have key := fun b hb => List.all_eq_true.1 h (v, b) (List.mem_filterMap.2 ⟨v, hv, hb⟩)
    simp only [Option.map_some, Option.some.injEq]
    -- of the (verdict, accepted) cases only `(inDom, false)` and `(outDom, true)` leave a goal: exactly the two
    -- that `disagreements` records, so `key` excuses them
    cases hver : verdictOf ds v <;> cases hacc : accepts env c v <;> simp
    · simpa using key true (by simp [hver, hacc])
    · simpa using key false (by simp [hver, hacc])

theorem of_tableAgrees {env : Env} {vals : List Value} {t : Table} (h : tableAgrees env vals t = true) :
    ∀ op ∈ t, ∀ pc ∈ op.2, ∀ v ∈ vals, Agree env op.1 pc.1 pc.2 v :=
  fun op hop pc hpc => of_paramAgrees (List.all_eq_true.1 (List.all_eq_true.1 h op hop) pc hpc)

/-- the entry of parameter `p` of `o` in a translated table -/
def entryOf (t : Table) (o p : String) : Option (Option (List Constraint)) := (t.lookup o).bind (·.lookup p)

theorem mem_of_lookup {β : Type} {l : List (String × β)} {k : String} {b : β} (h : l.lookup k = some b) : (k, b) ∈ l := by
  obtain ⟨l₁, l₂, rfl, -⟩ := List.lookup_eq_some_iff.1 h
  exact List.mem_append_right _ List.mem_cons_self

theorem mem_of_entryOf {t : Table} {o p : String} {c : Option (List Constraint)} (h : entryOf t o p = some c) :
    ∃ ps, (o, ps) ∈ t ∧ (p, c) ∈ ps := by
  obtain ⟨ps, hps, hc⟩ := Option.bind_eq_some_iff.1 h
  exact ⟨ps, mem_of_lookup hps, mem_of_lookup hc⟩

def keysOf {β : Type} (t : List (String × List (String × β))) : List (String × String) :=
  t.flatMap fun (o, ps) => ps.map fun (p, _) => (o, p)

/-- owner by owner: every parameter `t` lists under an owner, `t'` lists under the same owner -/
def keysIncluded {β γ : Type} (t : List (String × List (String × β))) (t' : List (String × List (String × γ))) : Bool :=
  t.all fun (o, ps) => t'.any fun (o', qs) => o' == o && ps.all fun (p, _) => qs.any fun (q, _) => q == p

theorem of_keysIncluded {β γ : Type} {t : List (String × List (String × β))} {t' : List (String × List (String × γ))}
    (h : keysIncluded t t' = true) : ∀ k ∈ keysOf t, k ∈ keysOf t' := by
  intro k hk
  simp only [keysOf, List.mem_flatMap, List.mem_map] at hk ⊢
  obtain ⟨⟨o, ps⟩, hop, ⟨p, b⟩, hp, rfl⟩ := hk
  simp only [keysIncluded, List.all_eq_true, List.any_eq_true, Bool.and_eq_true, beq_iff_eq] at h
  obtain ⟨⟨o', qs⟩, hoq, rfl, hq⟩ := h _ hop
  obtain ⟨⟨q, c⟩, hqc, rfl⟩ := hq _ hp
  exact ⟨_, hoq, _, hqc, rfl⟩

end tables

theorem pyDistinct_cons (a : Int) (xs : List Int) :
    pyDistinct (a :: xs) = if a ∈ xs then pyDistinct xs else a :: pyDistinct xs := by
  simp [pyDistinct]

theorem mem_pyDistinct (xs : List Int) (x : Int) : x ∈ pyDistinct xs ↔ x ∈ xs := by
  induction xs with
  | nil => simp [pyDistinct]
  | cons a xs ih =>
    rw [pyDistinct_cons]
    by_cases h : a ∈ xs
    · simp only [h, if_true, ih, List.mem_cons, iff_or_self]
      rintro rfl
      exact h
    · simp [h, ih]

theorem nodup_pyDistinct (xs : List Int) : (pyDistinct xs).Nodup := by
  induction xs with
  | nil => simp [pyDistinct]
  | cons a xs ih =>
    rw [pyDistinct_cons]
    by_cases h : a ∈ xs <;> simp [h, ih, mem_pyDistinct]

theorem length_pyDistinct_le (xs : List Int) : (pyDistinct xs).length ≤ xs.length := by
  induction xs with
  | nil => simp [pyDistinct]
  | cons a xs ih =>
    rw [pyDistinct_cons]
    by_cases h : a ∈ xs <;> simp [h] <;> omega

theorem length_pyDistinct_eq_iff (xs : List Int) : (pyDistinct xs).length = xs.length ↔ xs.Nodup := by
  induction xs with
  | nil => simp [pyDistinct]
  | cons a xs ih =>
    have hle := length_pyDistinct_le xs
    rw [pyDistinct_cons]
    by_cases h : a ∈ xs
    · simp [h]
      omega
    · simp [h, ih]

theorem mem_pyRange (d : Nat) (i : Int) : i ∈ pyRange d ↔ 0 ≤ i ∧ i < d := by
  unfold pyRange
  simp only [List.mem_map, List.mem_range]
  constructor
  · rintro ⟨n, hn, rfl⟩
    exact ⟨Int.natCast_nonneg n, by show (n : Int) < d; omega⟩
  · rintro ⟨h0, h1⟩
    refine ⟨i.toNat, ?_, ?_⟩
    · omega
    · simp [Int.toNat_of_nonneg h0]

theorem nodup_pyRange (d : Nat) : (pyRange d).Nodup := by
  unfold pyRange
  exact List.Pairwise.map _ (fun a b h => by intro h'; exact h (Int.ofNat.inj h')) List.nodup_range

theorem length_pyRange (d : Nat) : (pyRange d).length = d := by simp [pyRange]

def InRange (d : Nat) (xs : List Int) : Prop := ∀ i ∈ xs, 0 ≤ i ∧ i < d

instance (d : Nat) (xs : List Int) : Decidable (InRange d xs) := by unfold InRange; infer_instance

theorem not_inRange_cons (d : Nat) (x : Int) (t : List Int) :
    ¬ InRange d (x :: t) ↔ t.foldl min x < 0 ∨ (d : Int) ≤ t.foldl max x := by
  rw [foldl_or_iff (P := (· < 0)) (fun a b => by omega), foldl_or_iff (P := ((d : Int) ≤ ·)) (fun a b => by omega)]
  simp only [InRange, List.forall_mem_cons, Classical.not_and_iff_not_or_not, Classical.not_forall, Int.not_le,
    Int.not_lt, exists_prop, and_or_left, exists_or, or_or_or_comm]

/-- the first guard of `check_groups`: `len(all) > 0 and (min(all) < 0 or max(all) >= d)` -/
theorem rangeGuard_eq (d : Nat) (xs : List Int) :
    (pyAnd (pyCmp .gt (pure (pyLen xs)) (pure (0 : Int))) fun _ =>
      (pyOr (pyCmp .lt (pyMin xs) (pure (0 : Int))) fun _ => (pyCmp .ge (pyMax xs) (pure (d : Int)))))
      = .ok (decide (¬ InRange d xs)) := by
  cases xs with
  | nil =>
    -- `len([]) > 0` is false, so `pyAnd` never evaluates `min([])`; `InRange d []` holds vacuously
    simp [pyAnd, pyCmp, pyLen, Cmp.eval, InRange, bind, Except.bind, pure, Except.pure]
  | cons x t =>
    have hlen : decide ((pyLen (x :: t)) > 0) = true := by simp [pyLen]
    simp only [pyAnd, pyOr, pyCmp, pyMin, pyMax, Cmp.eval, bind, Except.bind, pure, Except.pure, hlen, if_true,
      not_inRange_cons]
    -- `pyOr` short-circuits on `min < 0`: either way the value is `decide (min < 0 ∨ d ≤ max)`
    by_cases hmin : t.foldl min x < 0 <;> simp [hmin]

/-- `all_indices`: the concatenation of the user's groups -/
def flat (groups : Groups) : List Int := groups.foldl (fun acc g => acc ++ g) []

theorem flat_eq_flatten (groups : Groups) : flat groups = groups.flatten := by
  simpa [flat] using List.foldl_append_eq_append (l := groups) (f := id) (l' := [])

/-- the user's groups followed by one singleton per feature they do not mention, in increasing order -/
def completion (groups : Groups) (d : Nat) : Groups :=
  groups ++ (((pyRange d).filter fun i => !(pyIn i (flat groups))).map fun i => [i])

/-- the documented precondition: every index is a feature index and no index occurs twice -/
def Legal (groups : Groups) (d : Nat) : Prop := InRange d (flat groups) ∧ (flat groups).Nodup

instance (groups : Groups) (d : Nat) : Decidable (Legal groups d) := by unfold Legal; infer_instance

theorem legal_iff (groups : Groups) (d : Nat) : Legal groups d ↔ InRange d groups.flatten ∧ groups.flatten.Nodup := by
  rw [Legal, flat_eq_flatten]

theorem pySetEq_range_iff (xs : List Int) (d : Nat) :
    pySetEq xs (pyRange d) = true ↔ InRange d xs ∧ ∀ y ∈ pyRange d, y ∈ xs := by
  simp only [pySetEq, Bool.and_eq_true, List.all_eq_true, List.contains_iff_mem, InRange, mem_pyRange]

theorem covers_of_legal_length (xs : List Int) (d : Nat) (hr : InRange d xs) (hn : xs.Nodup) (hl : xs.length = d) :
    ∀ y ∈ pyRange d, y ∈ xs := by
  intro y hy
  refine Classical.byContradiction fun hyx => ?_
  -- pigeonhole: `y :: xs` would be `d + 1` distinct elements of `pyRange d`
  have := (List.nodup_cons.2 ⟨hyx, hn⟩).length_le_of_subset
    (List.cons_subset.2 ⟨hy, fun x hx => (mem_pyRange d x).mpr (hr x hx)⟩)
  rw [List.length_cons, length_pyRange] at this
  omega

theorem nodup_of_covers_length (xs : List Int) (d : Nat) (hc : ∀ y ∈ pyRange d, y ∈ xs) (hl : xs.length = d) :
    xs.Nodup := by
  have h1 : (pyRange d).length ≤ (pyDistinct xs).length :=
    (nodup_pyRange d).length_le_of_subset fun y hy => (mem_pyDistinct xs y).mpr (hc y hy)
  have h2 := length_pyDistinct_le xs
  rw [length_pyRange] at h1
  exact (length_pyDistinct_eq_iff xs).mp (by omega)

theorem checkGroups_unfold (groups : Groups) (d : Nat) :
    checkGroups (some groups) d =
      if decide (¬ InRange d (flat groups)) then .error "ValueError:Indices passed to"
      else if decide (pyLen (flat groups) = (d : Int)) then
        (if !(pySetEq (flat groups) (pyRange d)) then .error "ValueError:Groups must form" else .ok (some groups))
      else if decide (pySetLen (flat groups) ≠ pyLen (flat groups)) then .error "ValueError:There cannot be"
      else .ok (some (completion groups d)) := by
  simp only [checkGroups]
  rw [rangeGuard_eq]
  -- the other `pyIf` / `pyCmp` are applied to `pure` values and compute
  rfl

theorem pySetEq_range_iff_nodup {xs : List Int} {d : Nat} (hr : InRange d xs) (hl : xs.length = d) :
    pySetEq xs (pyRange d) = true ↔ xs.Nodup :=
  (pySetEq_range_iff xs d).trans
    ⟨fun h => nodup_of_covers_length xs d h.2 hl, fun hn => ⟨hr, covers_of_legal_length xs d hr hn hl⟩⟩

theorem pySetLen_eq_iff (xs : List Int) : pySetLen xs = pyLen xs ↔ xs.Nodup := by
  simp only [pySetLen, pyLen, Int.natCast_inj]
  exact length_pyDistinct_eq_iff xs

theorem checkGroups_eq (groups : Groups) (d : Nat) :
    checkGroups (some groups) d =
      if Legal groups d then .ok (some (completion groups d))
      else .error (if ¬ InRange d (flat groups) then "ValueError:Indices passed to"
        else if (flat groups).length = d then "ValueError:Groups must form" else "ValueError:There cannot be") := by
  rw [checkGroups_unfold]
  -- Cases on `InRange`, `length = d`, `Nodup`: in each, every `if` on either side has a known condition and `simp`
  -- only selects the branches.  `pySetEq … (pyRange d)` is decided by `pySetEq_range_iff_nodup`, `pySetLen = pyLen`
  -- by `pySetLen_eq_iff`; in the legal full-length case the completion appends nothing (`hf`).
  by_cases hr : ¬ InRange d (flat groups)
  · simp [hr, Legal]
  rw [Classical.not_not] at hr
  have hlen : pyLen (flat groups) = (d : Int) ↔ (flat groups).length = d := Int.natCast_inj
  by_cases hl : (flat groups).length = d
  · by_cases hn : (flat groups).Nodup
    · have hf : ((pyRange d).filter fun i => !(pyIn i (flat groups))) = [] :=
        List.filter_eq_nil_iff.2 fun a ha => by simp [pyIn, covers_of_legal_length _ d hr hn hl a ha]
      simp [hr, hlen, hl, hn, Legal, (pySetEq_range_iff_nodup hr hl).2 hn, completion, hf]
    · simp [hr, hlen, hl, hn, Legal, Bool.eq_false_iff.2 (mt (pySetEq_range_iff_nodup hr hl).1 hn)]
  · by_cases hn : (flat groups).Nodup <;> simp [hr, hlen, hl, hn, Legal, pySetLen_eq_iff]

theorem completion_partition (groups : Groups) (d : Nat) (h : Legal groups d) :
    (completion groups d).flatten.Perm (pyRange d) := by
  obtain ⟨hr, hn⟩ := h
  rw [completion, List.flatten_append, ← List.flatMap_def, List.flatMap_singleton', ← flat_eq_flatten]
  have hperm := List.filter_append_perm (fun i => pyIn i (flat groups)) (pyRange d)
  refine List.Perm.trans (List.Perm.append_right _ ?_) hperm
  -- the mentioned indices, in the user's order, are a permutation of the mentioned features in increasing order
  rw [List.perm_iff_count]
  intro a
  have hn2 : ((pyRange d).filter fun i => pyIn i (flat groups)).Nodup :=
    List.Nodup.sublist List.filter_sublist (nodup_pyRange d)
  rw [hn.count, hn2.count]
  have : a ∈ (pyRange d).filter (fun i => pyIn i (flat groups)) ↔ a ∈ flat groups := by
    simp only [List.mem_filter, pyIn, List.contains_iff_mem, mem_pyRange]
    exact ⟨fun h => h.2, fun h => ⟨hr a h, h⟩⟩
  simp [this]

end GemVerif.Lemmas.Constraints
