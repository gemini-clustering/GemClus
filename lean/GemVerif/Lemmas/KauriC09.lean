/-
  The loop of `Kauri.fit` as a state machine: the post-condition `SplitOK` of `find_best_split` (a hypothesis here,
  `FindBestSplitSpec`; `Lemmas/KauriSpec.lean` proves it of the model's search), the invariants `Inv`, `InvSamples`,
  `InvRoute`, `TreeWF` of the fit state, and their preservation by `applySplit`.  No Mathlib.
-/
import GemVerif.Lemmas.KauriTree
import GemVerif.Lemmas.Fold

namespace GemVerif.KauriC09
open RealLike Model.Kauri

variable {α : Type} [RealLike α]

def members (s : FitState α) (b : Split α) : List Nat := s.asg.samplesOfLeaf b.leaf.toNat

/-- the test `X[i, feature] <= threshold` of `Kauri.fit` (and of `Tree.predict`) -/
def goesLeft (X : Nat → Nat → α) (b : Split α) (i : Nat) : Bool := le (X i b.feature.toNat) b.threshold

/-- `left_indices` of `Kauri.fit` -/
def leftIdx (X : Nat → Nat → α) (s : FitState α) (b : Split α) : List Nat :=
  (members s b).filter fun i => goesLeft X b i

/-- `right_indices` of `Kauri.fit` -/
def rightIdx (X : Nat → Nat → α) (s : FitState α) (b : Split α) : List Nat :=
  (members s b).filter fun i => !(goesLeft X b i)

theorem leftCount_eq (X : Nat → Nat → α) (s : FitState α) (b : Split α) :
    (members s b).length - (rightIdx X s b).length = (leftIdx X s b).length := by
  have := List.length_eq_countP_add_countP (fun i => goesLeft X b i) (l := members s b)
  simp only [List.countP_eq_length_filter, Bool.not_eq_true, Bool.decide_eq_false] at this
  unfold rightIdx leftIdx
  omega

/-- The post-condition that `find_best_split` guarantees for the split it reports with a positive gain, in the
    state `s` in which it was called. -/
structure SplitOK (X : Nat → Nat → α) (p : Params) (s : FitState α) (b : Split α) : Prop where
  /-- `leaf` is a leaf id (`Split.init` has `-1`; every setter writes `c.leaf_id`, a `Nat`) … -/
  leaf_nonneg : 0 ≤ b.leaf
  /-- … taken from `leaves_to_explore` (the outer loop of `find_best_split` ranges over it) -/
  leaf_mem : b.leaf.toNat ∈ s.toExplore
  /-- the feature is a column index (every setter writes `c.feature_id`, a `Nat`); that it is one of the drawn features
      is not recorded -/
  feature_nonneg : 0 ≤ b.feature
  /-- the targets are cluster ids -/
  left_nonneg : 0 ≤ b.left
  right_nonneg : 0 ≤ b.right
  /-- the two children go to different clusters (every branch of `compute_all_splits` writes two different ids;
      not needed by the invariants below, kept for faithfulness) -/
  targets_ne : b.left ≠ b.right
  /-- the four kinds of split of `compute_all_splits`, `k` being the cluster of the leaf:
      double star `(n_clusters, n_clusters+1)`, guarded by `n_clusters + 1 < K_max`;
      left star `(n_clusters, k)` and right star `(k, n_clusters)`, guarded by `n_clusters < K_max`;
      switch `(k', k)`, `(k, k')` and reallocation `(k_l, k_r)` with existing clusters only. -/
  targets :
    (b.left = s.nClusters ∧ b.right = s.nClusters + 1 ∧ s.nClusters + 2 ≤ p.maxClusters) ∨
    (b.left = s.nClusters ∧ b.right = s.asg.clusterOf[b.leaf.toNat]! ∧ s.nClusters + 1 ≤ p.maxClusters) ∨
    (b.left = s.asg.clusterOf[b.leaf.toNat]! ∧ b.right = s.nClusters ∧ s.nClusters + 1 ≤ p.maxClusters) ∨
    (b.left < s.nClusters ∧ b.right < s.nClusters)
  /-- the cluster `k` of the leaf is not emptied: one child stays in `k` (star, switch), or `k` has a sample outside
      the leaf (double star and reallocation are guarded by `n_leaf != cluster_sizes[k]`) -/
  keeps_cluster :
    b.left = s.asg.clusterOf[b.leaf.toNat]! ∨ b.right = s.asg.clusterOf[b.leaf.toNat]! ∨
    ∃ i, i < s.asg.n ∧ s.asg.leafOf[i]! ≠ b.leaf.toNat ∧ s.asg.clusterOfSample i = s.asg.clusterOf[b.leaf.toNat]!
  /-- the scan only evaluates cut positions `l` with `l + 1 ≥ min_samples_leaf` samples on the left … -/
  left_size : p.minLeaf ≤ (leftIdx X s b).length
  /-- … and `n_leaf - l - 1 ≥ min_samples_leaf` on the right -/
  right_size : p.minLeaf ≤ (rightIdx X s b).length
  /-- `l` ranges over `0 .. n_leaf-2`, so the left side holds the sample `nu[l]` … -/
  left_nonempty : leftIdx X s b ≠ []
  /-- … and the right side holds `nu[l+1]`, whose feature value differs (the equal-value skip) -/
  right_nonempty : rightIdx X s b ≠ []
  /-- the threshold is `X[nu[l], feature]`, the feature value of a sample of the leaf -/
  threshold_obs : ∃ i, i ∈ members s b ∧ b.threshold = X i b.feature.toNat

/-- Structural invariant of the fit loop (everything that does not mention the data). -/
structure Inv (p : Params) (s : FitState α) : Prop where
  nLeaves_pos : 1 ≤ s.nLeaves
  nNodes_eq : s.tree.nNodes = 2 * s.nLeaves - 1
  size_left : s.tree.left.size = s.tree.nNodes
  size_right : s.tree.right.size = s.tree.nNodes
  size_target : s.tree.target.size = s.tree.nNodes
  size_thr : s.tree.thr.size = s.tree.nNodes
  size_feat : s.tree.feat.size = s.tree.nNodes
  size_gains : s.tree.gains.size = s.tree.nNodes
  size_depths : s.tree.depths.size = s.tree.nNodes
  size_leafOf : s.asg.leafOf.size = s.asg.n
  size_clusterOf : s.asg.clusterOf.size = p.maxLeaves
  size_l2n : s.leaf2node.size = p.maxLeaves
  /-- at most `max_leaves` leaves (a tree always has its root leaf) -/
  nLeaves_le : s.nLeaves ≤ max p.maxLeaves 1
  /-- depth at most `max_depth` (the root is always explored, so depth 1 is reachable when `max_depth = 0`) -/
  depth_le : ∀ k, k < s.tree.nNodes → s.tree.depths[k]! ≤ max p.maxDepth 1
  depth_lt_leaves : ∀ k, k < s.tree.nNodes → s.tree.depths[k]! + 1 ≤ s.nLeaves
  explore_depth : ∀ l, l ∈ s.toExplore → s.tree.depths[s.leaf2node[l]!]! < max p.maxDepth 1
  nClusters_pos : 1 ≤ s.nClusters
  nClusters_le : s.nClusters ≤ max p.maxClusters 1
  explore_lt : ∀ l, l ∈ s.toExplore → l < s.nLeaves
  explore_nodup : s.toExplore.Nodup
  l2n_lt : ∀ l, l < s.nLeaves → s.leaf2node[l]! < s.tree.nNodes
  l2n_leaf : ∀ l, l < s.nLeaves → s.tree.left[s.leaf2node[l]!]! = -1
  l2n_inj : ∀ l l', l < s.nLeaves → l' < s.nLeaves → s.leaf2node[l]! = s.leaf2node[l']! → l = l'
  l2n_surj : ∀ k, k < s.tree.nNodes → s.tree.left[k]! = -1 → ∃ l, l < s.nLeaves ∧ s.leaf2node[l]! = k
  leafOf_lt : ∀ i, i < s.asg.n → s.asg.leafOf[i]! < s.nLeaves
  clusterOf_lt : ∀ l, l < s.nLeaves → s.asg.clusterOf[l]! < s.nClusters
  /-- clusters are numbered contiguously from 0: every id below `n_clusters` owns a leaf -/
  cluster_owns_leaf : ∀ c, c < s.nClusters → ∃ l, l < s.nLeaves ∧ s.asg.clusterOf[l]! = c
  target_eq : ∀ l, l < s.nLeaves → s.tree.target[s.leaf2node[l]!]! = (s.asg.clusterOf[l]! : Int)

omit [RealLike α] in
theorem Inv.sized {p : Params} {s : FitState α} (h : Inv p s) : Sized s.tree :=
  ⟨h.size_left, h.size_right, h.size_target, h.size_thr, h.size_feat, h.size_depths⟩

/-- `leaves_to_explore` after a split (`remove`, then the two guarded `append`s) -/
def newExplore (p : Params) (e : List Nat) (leaf nL pd lc rc : Nat) : List Nat :=
  let expl := e.erase leaf
  if pd + 1 < p.maxDepth then
    let e1 := if lc ≥ p.minSplit then expl ++ [leaf] else expl
    if rc ≥ p.minSplit then e1 ++ [nL] else e1
  else expl

/-- `n_clusters` after a split -/
def newNClusters (nC : Nat) (b : Split α) : Nat :=
  let nc : Int := nC
  if b.left ≥ nc && b.right ≥ nc then nC + 2
  else if b.left ≥ nc || b.right ≥ nc then nC + 1 else nC

section proj
variable (X : Nat → Nat → α) (p : Params) (s : FitState α) (b : Split α)

/-- the argument `father` of `Tree._add_child`: the tree node of the leaf that is split -/
abbrev father (s : FitState α) (b : Split α) : Nat := s.leaf2node[b.leaf.toNat]!

theorem applySplit_nLeaves : (applySplit X p s b).nLeaves = s.nLeaves + 1 := rfl
theorem applySplit_n : (applySplit X p s b).asg.n = s.asg.n := rfl
theorem applySplit_tree : (applySplit X p s b).tree = s.tree.addChild (father s b) b := rfl
theorem applySplit_leafOf : (applySplit X p s b).asg.leafOf =
    (rightIdx X s b).foldl (fun (acc : Array Nat) i => acc.set! i s.nLeaves) s.asg.leafOf := rfl
theorem applySplit_clusterOf : (applySplit X p s b).asg.clusterOf =
    (s.asg.clusterOf.set! b.leaf.toNat b.left.toNat).set! s.nLeaves b.right.toNat := by
  simp only [applySplit]
theorem applySplit_l2n : (applySplit X p s b).leaf2node =
    (s.leaf2node.set! b.leaf.toNat (2 * s.nLeaves - 1)).set! s.nLeaves (2 * s.nLeaves) := by
  simp only [applySplit]
theorem applySplit_nClusters : (applySplit X p s b).nClusters = newNClusters s.nClusters b := rfl
theorem applySplit_toExplore : (applySplit X p s b).toExplore =
    newExplore p s.toExplore b.leaf.toNat s.nLeaves ((s.tree.addChild (father s b) b).depths[father s b]!)
      ((members s b).length - (rightIdx X s b).length) (rightIdx X s b).length := rfl
theorem applySplit_lastGainPos : (applySplit X p s b).lastGainPos = s.lastGainPos := rfl

end proj

theorem newExplore_eq (p : Params) (e : List Nat) (leaf nL pd lc rc : Nat) :
    newExplore p e leaf nL pd lc rc =
      e.erase leaf ++ (if pd + 1 < p.maxDepth ∧ p.minSplit ≤ lc then [leaf] else []) ++
        (if pd + 1 < p.maxDepth ∧ p.minSplit ≤ rc then [nL] else []) := by
  unfold newExplore
  by_cases h1 : pd + 1 < p.maxDepth <;> by_cases h2 : p.minSplit ≤ lc <;> by_cases h3 : p.minSplit ≤ rc <;>
    simp [h1, h2, h3]

theorem nodup_newExplore {p : Params} {e : List Nat} {leaf nL pd lc rc : Nat} (hn : e.Nodup)
    (hlt : ∀ l, l ∈ e → l < nL) (hleaf : leaf < nL) : (newExplore p e leaf nL pd lc rc).Nodup := by
  have sub : ∀ (q : Prop) [Decidable q] (x : Nat), (if q then [x] else []).Sublist [x] := fun q _ x => by
    split <;> simp
  -- a sublist of `e` without `leaf`, followed by `leaf` and the new leaf
  rw [newExplore_eq, List.append_assoc]
  refine List.Nodup.sublist ((List.Sublist.refl _).append ((sub _ leaf).append (sub _ nL))) ?_
  refine List.perm_append_comm.nodup (List.nodup_cons.2 ⟨fun h => ?_, List.nodup_cons.2 ⟨fun h => ?_, hn.erase _⟩⟩)
  · rcases List.mem_cons.1 h with h | h
    · exact Nat.ne_of_lt hleaf h
    · exact (hn.mem_erase_iff.1 h).1 rfl
  · exact Nat.lt_irrefl _ (hlt _ (List.mem_of_mem_erase h))

theorem mem_toExplore_init {n : Nat} {p : Params} {l : Nat} :
    l ∈ (FitState.init n p : FitState α).toExplore ↔ l = 0 ∧ p.minSplit ≤ n := by
  show l ∈ (if n ≥ p.minSplit then [0] else []) ↔ _
  split <;> simp [*]

theorem inv_init (n : Nat) (p : Params) : Inv p (FitState.init n p : FitState α) := by
  have hl2n : ∀ l, (FitState.init n p : FitState α).leaf2node[l]! = 0 := fun l => get_replicate_zero _ _
  have hcl : ∀ l, (FitState.init n p : FitState α).asg.clusterOf[l]! = 0 := fun l => get_replicate_zero _ _
  have hlo : ∀ i, (FitState.init n p : FitState α).asg.leafOf[i]! = 0 := fun l => get_replicate_zero _ _
  have one : ∀ {k : Nat}, k < 1 → k = 0 := Nat.lt_one_iff.1
  exact
    { nLeaves_pos := Nat.le_refl _, nNodes_eq := rfl, size_left := rfl, size_right := rfl, size_target := rfl,
      size_thr := rfl, size_feat := rfl, size_gains := rfl, size_depths := rfl,
      size_leafOf := Array.size_replicate, size_clusterOf := Array.size_replicate,
      size_l2n := Array.size_replicate, nLeaves_le := Nat.le_max_right _ _, nClusters_pos := Nat.le_refl _,
      nClusters_le := Nat.le_max_right _ _
      depth_le := fun k hk => by rw [one hk]; exact Nat.zero_le _
      depth_lt_leaves := fun k hk => by rw [one hk]; exact Nat.le_refl _
      explore_depth := fun l _ => by rw [hl2n]; exact Nat.lt_of_lt_of_le Nat.zero_lt_one (Nat.le_max_right _ _)
      explore_lt := fun l hl => by rw [(mem_toExplore_init.1 hl).1]; exact Nat.zero_lt_one
      explore_nodup := by simp only [FitState.init]; split <;> simp
      l2n_lt := fun l _ => by rw [hl2n]; exact Nat.zero_lt_one
      l2n_leaf := fun l _ => by rw [hl2n]; rfl
      l2n_inj := fun l l' h h' _ => by rw [one h, one h']
      l2n_surj := fun k hk _ => ⟨0, Nat.zero_lt_one, by rw [hl2n, one hk]⟩
      leafOf_lt := fun i _ => by rw [hlo]; exact Nat.zero_lt_one
      clusterOf_lt := fun l _ => by rw [hcl]; exact Nat.zero_lt_one
      cluster_owns_leaf := fun c hc => ⟨0, Nat.zero_lt_one, by rw [hcl, one hc]⟩
      target_eq := fun l _ => by rw [hl2n, hcl]; rfl }

omit [RealLike α] in
theorem continues_lt {p : Params} {s : FitState α} (hc : s.continues p = true) : s.nLeaves < p.maxLeaves := by
  simp only [FitState.continues, Bool.and_eq_true, decide_eq_true_eq] at hc
  exact hc.1.2

/-- the hypotheses of the preservation theorems, bundled -/
structure Ctx (X : Nat → Nat → α) (p : Params) (s : FitState α) (b : Split α) : Prop where
  inv : Inv p s
  ok : SplitOK X p s b
  lt : s.nLeaves < p.maxLeaves

omit [RealLike α] in
theorem newNClusters_natCast (nC L R : Nat) (b : Split α) (hL : b.left = L) (hR : b.right = R) :
    newNClusters nC b = if nC ≤ L ∧ nC ≤ R then nC + 2 else if nC ≤ L ∨ nC ≤ R then nC + 1 else nC := by
  simp only [newNClusters, hL, hR, ge_iff_le, Int.ofNat_le, Bool.and_eq_true, Bool.or_eq_true, decide_eq_true_eq]

namespace Ctx
variable {X : Nat → Nat → α} {p : Params} {s : FitState α} {b : Split α} (c : Ctx X p s b)
include c

theorem leaf_lt : b.leaf.toNat < s.nLeaves := c.inv.explore_lt _ c.ok.leaf_mem

theorem F_lt : father s b < s.tree.nNodes := c.inv.l2n_lt _ c.leaf_lt

theorem N_eq : s.tree.nNodes + 1 = 2 * s.nLeaves := by
  have := c.inv.nNodes_eq; have := c.inv.nLeaves_pos; omega

theorem l2n_get (l : Nat) (hl : l ≤ s.nLeaves) : (applySplit X p s b).leaf2node[l]! =
    if s.nLeaves = l then s.tree.nNodes + 1 else if b.leaf.toNat = l then s.tree.nNodes else s.leaf2node[l]! := by
  have hlt : l < s.leaf2node.size := c.inv.size_l2n ▸ Nat.lt_of_le_of_lt hl c.lt
  rw [applySplit_l2n, get_set _ _ _ _ ((size_set ..).symm ▸ hlt), get_set _ _ _ _ hlt, ← c.N_eq, Nat.add_sub_cancel]

theorem l2n_new : (applySplit X p s b).leaf2node[s.nLeaves]! = s.tree.nNodes + 1 := by
  rw [c.l2n_get _ (Nat.le_refl _), if_pos rfl]

theorem l2n_leaf : (applySplit X p s b).leaf2node[b.leaf.toNat]! = s.tree.nNodes := by
  rw [c.l2n_get _ (Nat.le_of_lt c.leaf_lt), if_neg (Nat.ne_of_gt c.leaf_lt), if_pos rfl]

theorem l2n_other {l : Nat} (hl : l < s.nLeaves) (hne : l ≠ b.leaf.toNat) :
    (applySplit X p s b).leaf2node[l]! = s.leaf2node[l]! := by
  rw [c.l2n_get _ (Nat.le_of_lt hl), if_neg (Nat.ne_of_gt hl), if_neg (Ne.symm hne)]

theorem l2n_other_lt {l : Nat} (hl : l < s.nLeaves) (hne : l ≠ b.leaf.toNat) :
    s.leaf2node[l]! < s.tree.nNodes ∧ father s b ≠ s.leaf2node[l]! :=
  ⟨c.inv.l2n_lt l hl, fun h => hne (c.inv.l2n_inj _ _ hl c.leaf_lt h.symm)⟩

theorem clusterOf_get (l : Nat) (hl : l ≤ s.nLeaves) : (applySplit X p s b).asg.clusterOf[l]! =
    if s.nLeaves = l then b.right.toNat else if b.leaf.toNat = l then b.left.toNat else s.asg.clusterOf[l]! := by
  have hlt : l < s.asg.clusterOf.size := c.inv.size_clusterOf ▸ Nat.lt_of_le_of_lt hl c.lt
  rw [applySplit_clusterOf, get_set _ _ _ _ ((size_set ..).symm ▸ hlt), get_set _ _ _ _ hlt]

theorem clusterOf_new : (applySplit X p s b).asg.clusterOf[s.nLeaves]! = b.right.toNat := by
  rw [c.clusterOf_get _ (Nat.le_refl _), if_pos rfl]

theorem clusterOf_leaf : (applySplit X p s b).asg.clusterOf[b.leaf.toNat]! = b.left.toNat := by
  rw [c.clusterOf_get _ (Nat.le_of_lt c.leaf_lt), if_neg (Nat.ne_of_gt c.leaf_lt), if_pos rfl]

theorem clusterOf_other {l : Nat} (hl : l < s.nLeaves) (hne : l ≠ b.leaf.toNat) :
    (applySplit X p s b).asg.clusterOf[l]! = s.asg.clusterOf[l]! := by
  rw [c.clusterOf_get _ (Nat.le_of_lt hl), if_neg (Nat.ne_of_gt hl), if_neg (Ne.symm hne)]

theorem leafOf_get (i : Nat) (hi : i < s.asg.n) : (applySplit X p s b).asg.leafOf[i]! =
    if i ∈ rightIdx X s b then s.nLeaves else s.asg.leafOf[i]! := by
  rw [applySplit_leafOf, get_foldl_set _ _ _ _ (by rw [c.inv.size_leafOf]; exact hi)]

theorem depths_old {k : Nat} (hk : k < s.tree.nNodes) :
    (applySplit X p s b).tree.depths[k]! = s.tree.depths[k]! :=
  addChild_depths_lt _ _ _ c.inv.size_depths hk

theorem depths_new {k : Nat} (h1 : s.tree.nNodes ≤ k) (h2 : k < s.tree.nNodes + 2) :
    (applySplit X p s b).tree.depths[k]! = s.tree.depths[father s b]! + 1 :=
  addChild_depths_new c.inv.size_depths _ b h1 h2

/-- the three kinds of leaf after the split: the new right leaf, the split leaf (now the left child), the others -/
theorem l2n_cases (l : Nat) (hl : l < s.nLeaves + 1) :
    (l = s.nLeaves ∧ (applySplit X p s b).leaf2node[l]! = s.tree.nNodes + 1) ∨
    (l = b.leaf.toNat ∧ (applySplit X p s b).leaf2node[l]! = s.tree.nNodes) ∨
    (l < s.nLeaves ∧ l ≠ b.leaf.toNat ∧ (applySplit X p s b).leaf2node[l]! = s.leaf2node[l]! ∧
      s.leaf2node[l]! < s.tree.nNodes ∧ s.leaf2node[l]! ≠ father s b) := by
  by_cases h1 : l = s.nLeaves
  · exact .inl ⟨h1, h1 ▸ c.l2n_new⟩
  · by_cases h2 : l = b.leaf.toNat
    · exact .inr (.inl ⟨h2, h2 ▸ c.l2n_leaf⟩)
    · have hl' : l < s.nLeaves := Nat.lt_of_le_of_ne (Nat.le_of_lt_succ hl) h1
      have h := c.l2n_other_lt hl' h2
      exact .inr (.inr ⟨hl', h2, c.l2n_other hl' h2, h.1, Ne.symm h.2⟩)

omit c in
theorem forall_leaves {P : Nat → Prop} (hnew : P s.nLeaves) (hleaf : P b.leaf.toNat)
    (hother : ∀ l, l < s.nLeaves → l ≠ b.leaf.toNat → P l) : ∀ l, l < (applySplit X p s b).nLeaves → P l := by
  intro l hl
  by_cases h1 : l = s.nLeaves
  · exact h1 ▸ hnew
  · by_cases h2 : l = b.leaf.toNat
    · exact h2 ▸ hleaf
    · exact hother l (Nat.lt_of_le_of_ne (Nat.le_of_lt_succ hl) h1) h2

theorem nClusters_summary :
    s.nClusters ≤ newNClusters s.nClusters b ∧ newNClusters s.nClusters b ≤ max p.maxClusters 1 ∧
    b.left.toNat < newNClusters s.nClusters b ∧ b.right.toNat < newNClusters s.nClusters b ∧
    ∀ k, s.nClusters ≤ k → k < newNClusters s.nClusters b → k = b.left.toNat ∨ k = b.right.toNat := by
  have hk := c.inv.clusterOf_lt _ c.leaf_lt
  have hL := Int.toNat_of_nonneg c.ok.left_nonneg
  have hR := Int.toNat_of_nonneg c.ok.right_nonneg
  have ht := c.ok.targets
  rw [← hL, ← hR] at ht
  simp only [Int.natCast_inj, Int.ofNat_lt] at ht
  rw [newNClusters_natCast _ _ _ b hL.symm hR.symm]
  generalize b.left.toNat = L at *
  generalize b.right.toNat = R at *
  clear hL hR
  -- double star, left star, right star, switch or reallocation
  rcases ht with ⟨rfl, hr, hm⟩ | ⟨rfl, rfl, hm⟩ | ⟨rfl, rfl, hm⟩ | ⟨hl, hr⟩
  · obtain rfl : R = s.nClusters + 1 := by omega
    rw [if_pos ⟨Nat.le_refl _, Nat.le_succ _⟩]
    exact ⟨Nat.le_add_right _ 2, Nat.le_trans hm (Nat.le_max_left _ _), Nat.lt_add_of_pos_right Nat.two_pos,
      Nat.lt_succ_self _, fun k _ _ => by omega⟩
  · rw [if_neg fun h => Nat.not_le_of_lt hk h.2, if_pos (.inl (Nat.le_refl _))]
    exact ⟨Nat.le_succ _, Nat.le_trans hm (Nat.le_max_left _ _), Nat.lt_succ_self _, Nat.lt_succ_of_lt hk,
      fun k h1 h2 => .inl (Nat.le_antisymm (Nat.le_of_lt_succ h2) h1)⟩
  · rw [if_neg fun h => Nat.not_le_of_lt hk h.1, if_pos (.inr (Nat.le_refl _))]
    exact ⟨Nat.le_succ _, Nat.le_trans hm (Nat.le_max_left _ _), Nat.lt_succ_of_lt hk, Nat.lt_succ_self _,
      fun k h1 h2 => .inr (Nat.le_antisymm (Nat.le_of_lt_succ h2) h1)⟩
  · rw [if_neg fun h => Nat.not_le_of_lt hl h.1, if_neg fun h => h.elim (Nat.not_le_of_lt hl) (Nat.not_le_of_lt hr)]
    exact ⟨Nat.le_refl _, c.inv.nClusters_le, hl, hr, fun k h1 h2 => absurd h2 (Nat.not_lt_of_le h1)⟩

theorem mem_explore (l : Nat) (hl : l ∈ (applySplit X p s b).toExplore) :
    (l ∈ s.toExplore ∧ l ≠ b.leaf.toNat) ∨
    (l = b.leaf.toNat ∧ s.tree.depths[father s b]! + 1 < p.maxDepth ∧ p.minSplit ≤ (leftIdx X s b).length) ∨
    (l = s.nLeaves ∧ s.tree.depths[father s b]! + 1 < p.maxDepth ∧ p.minSplit ≤ (rightIdx X s b).length) := by
  rw [applySplit_toExplore, leftCount_eq, addChild_depths_lt _ _ _ c.inv.size_depths c.F_lt, newExplore_eq,
    List.mem_append, List.mem_append, c.inv.explore_nodup.mem_erase_iff] at hl
  rcases hl with (h | h) | h
  · exact .inl ⟨h.2, h.1⟩
  · split at h
    · exact .inr (.inl ⟨List.mem_singleton.1 h, ‹_›⟩)
    · cases h
  · split at h
    · exact .inr (.inr ⟨List.mem_singleton.1 h, ‹_›⟩)
    · cases h

theorem preserves : Inv p (applySplit X p s b) := by
  have hI := c.inv
  have hs := hI.sized
  have hs' : Sized (applySplit X p s b).tree := hs.addChild _ b
  have hleaf := c.leaf_lt
  have hF := c.F_lt
  have hdF : s.tree.depths[father s b]! < max p.maxDepth 1 := hI.explore_depth _ c.ok.leaf_mem
  obtain ⟨hnc1, hnc2, hnc3, hnc4, hnc5⟩ := c.nClusters_summary
  have new : s.nLeaves < s.nLeaves + 1 := Nat.lt_succ_self _
  have old : ∀ {l}, l < s.nLeaves → l < s.nLeaves + 1 := Nat.lt_succ_of_lt
  constructor
  case nLeaves_pos => exact Nat.le_add_left _ _
  case nNodes_eq =>
    show s.tree.nNodes + 2 = 2 * (s.nLeaves + 1) - 1
    have := c.N_eq; omega
  case size_left => exact hs'.left
  case size_right => exact hs'.right
  case size_target => exact hs'.target
  case size_thr => exact hs'.thr
  case size_feat => exact hs'.feat
  case size_gains => rw [applySplit_tree, addChild_size_gains, hI.size_gains]; rfl
  case size_depths => exact hs'.depths
  case size_leafOf => rw [applySplit_leafOf, size_foldl_set]; exact hI.size_leafOf
  case size_clusterOf => rw [applySplit_clusterOf, size_set, size_set]; exact hI.size_clusterOf
  case size_l2n => rw [applySplit_l2n, size_set, size_set]; exact hI.size_l2n
  case nLeaves_le => exact Nat.le_trans (Nat.succ_le_of_lt c.lt) (Nat.le_max_left _ _)
  case depth_le =>
    intro k hk
    by_cases h : k < s.tree.nNodes
    · rw [c.depths_old h]; exact hI.depth_le k h
    · rw [c.depths_new (Nat.le_of_not_lt h) hk]; exact hdF
  case depth_lt_leaves =>
    intro k hk
    by_cases h : k < s.tree.nNodes
    · rw [c.depths_old h]; exact Nat.le_succ_of_le (hI.depth_lt_leaves k h)
    · rw [c.depths_new (Nat.le_of_not_lt h) hk]; exact Nat.succ_le_succ (hI.depth_lt_leaves _ hF)
  case explore_depth =>
    intro l hl
    rcases c.mem_explore l hl with ⟨h1, h2⟩ | ⟨rfl, h2, _⟩ | ⟨rfl, h2, _⟩
    · have hl' := hI.explore_lt l h1
      rw [c.l2n_other hl' h2, c.depths_old (hI.l2n_lt l hl')]
      exact hI.explore_depth l h1
    · rw [c.l2n_leaf, c.depths_new (Nat.le_refl _) (Nat.lt_add_of_pos_right Nat.two_pos)]
      exact Nat.lt_of_lt_of_le h2 (Nat.le_max_left _ _)
    · rw [c.l2n_new, c.depths_new (Nat.le_succ _) (Nat.lt_succ_self _)]
      exact Nat.lt_of_lt_of_le h2 (Nat.le_max_left _ _)
  case nClusters_pos => rw [applySplit_nClusters]; exact Nat.le_trans hI.nClusters_pos hnc1
  case nClusters_le => exact hnc2
  case explore_lt =>
    intro l hl
    rcases c.mem_explore l hl with ⟨h1, _⟩ | ⟨rfl, _⟩ | ⟨rfl, _⟩
    · exact old (hI.explore_lt l h1)
    · exact old hleaf
    · exact new
  case explore_nodup =>
    rw [applySplit_toExplore]
    exact nodup_newExplore hI.explore_nodup hI.explore_lt hleaf
  case l2n_lt =>
    show ∀ l, _ → _ < s.tree.nNodes + 2
    refine forall_leaves ?_ ?_ fun l hl hne => ?_
    · rw [c.l2n_new]; exact Nat.lt_succ_self _
    · rw [c.l2n_leaf]; exact Nat.lt_add_of_pos_right Nat.two_pos
    · rw [c.l2n_other hl hne]; exact Nat.lt_add_right 2 (hI.l2n_lt l hl)
  case l2n_leaf =>
    rw [applySplit_tree]
    refine forall_leaves ?_ ?_ fun l hl hne => ?_
    · rw [c.l2n_new]; exact (addChild_new hs _ b (Nat.le_succ _) (Nat.lt_succ_self _)).left
    · rw [c.l2n_leaf]; exact (addChild_new hs _ b (Nat.le_refl _) (Nat.lt_add_of_pos_right Nat.two_pos)).left
    · obtain ⟨h1, h2⟩ := c.l2n_other_lt hl hne
      rw [c.l2n_other hl hne, (addChild_old hs _ b h1 h2).left]
      exact hI.l2n_leaf l hl
  case l2n_inj =>
    -- with `N` the old `nNodes`: the new leaf sits at node `N + 1`, the split leaf at `N`, the others below `N`
    intro l l' hl hl' h
    rcases c.l2n_cases l hl with ⟨a, e⟩ | ⟨a, e⟩ | ⟨a, a', e, e', _⟩ <;>
      rcases c.l2n_cases l' hl' with ⟨d, f⟩ | ⟨d, f⟩ | ⟨d, d', f, f', _⟩
    all_goals rw [e, f] at h
    · exact a.trans d.symm
    · exact absurd h (Nat.succ_ne_self _)
    · rw [← h] at f'; exact absurd f' Nat.not_succ_lt_self
    · exact absurd h.symm (Nat.succ_ne_self _)
    · exact a.trans d.symm
    · rw [← h] at f'; exact absurd f' (Nat.lt_irrefl _)
    · rw [h] at e'; exact absurd e' Nat.not_succ_lt_self
    · rw [h] at e'; exact absurd e' (Nat.lt_irrefl _)
    · exact hI.l2n_inj l l' a d h
  case l2n_surj =>
    intro k hk hk'
    rw [applySplit_nLeaves]
    rw [applySplit_tree] at hk'
    rcases addChild_cases hs (father s b) b hk with ⟨h1, h2, e⟩ | ⟨_, rfl, e⟩ | ⟨h1, _⟩
    · rw [e.left] at hk'
      obtain ⟨l, hl, e⟩ := hI.l2n_surj k h1 hk'
      have hne : l ≠ b.leaf.toNat := fun a => h2 (by rw [← e, a])
      exact ⟨l, old hl, by rw [c.l2n_other hl hne, e]⟩
    · rw [e.left] at hk'
      exact absurd hk' (natCast_ne_neg_one _)
    · by_cases h2 : k = s.tree.nNodes
      · exact ⟨b.leaf.toNat, old hleaf, by rw [c.l2n_leaf, h2]⟩
      · have hk : k < s.tree.nNodes + 2 := hk
        exact ⟨s.nLeaves, new, by rw [c.l2n_new]; omega⟩
  case leafOf_lt =>
    intro i hi
    rw [c.leafOf_get i hi]
    split
    · exact new
    · exact old (hI.leafOf_lt i hi)
  case clusterOf_lt =>
    rw [applySplit_nClusters]
    refine forall_leaves ?_ ?_ fun l hl hne => ?_
    · rw [c.clusterOf_new]; exact hnc4
    · rw [c.clusterOf_leaf]; exact hnc3
    · rw [c.clusterOf_other hl hne]; exact Nat.lt_of_lt_of_le (hI.clusterOf_lt l hl) hnc1
  case cluster_owns_leaf =>
    intro k hk
    rw [applySplit_nClusters] at hk
    rw [applySplit_nLeaves]
    by_cases a1 : k < s.nClusters
    · obtain ⟨l, hl, e⟩ := hI.cluster_owns_leaf k a1
      by_cases a2 : l = b.leaf.toNat
      · -- `k` is the cluster of the split leaf: it keeps a child, or a sample in another leaf
        subst a2
        rcases c.ok.keeps_cluster with h | h | ⟨i, hi, hne, hcl⟩
        · exact ⟨b.leaf.toNat, old hleaf, by rw [c.clusterOf_leaf, h, Int.toNat_natCast]; exact e⟩
        · exact ⟨s.nLeaves, new, by rw [c.clusterOf_new, h, Int.toNat_natCast]; exact e⟩
        · exact ⟨s.asg.leafOf[i]!, old (hI.leafOf_lt i hi), by
            rw [c.clusterOf_other (hI.leafOf_lt i hi) hne, ← e]; exact hcl⟩
      · exact ⟨l, old hl, by rw [c.clusterOf_other hl a2]; exact e⟩
    · rcases hnc5 k (Nat.le_of_not_lt a1) hk with h | h
      · exact ⟨b.leaf.toNat, old hleaf, by rw [c.clusterOf_leaf]; exact h.symm⟩
      · exact ⟨s.nLeaves, new, by rw [c.clusterOf_new]; exact h.symm⟩
  case target_eq =>
    rw [applySplit_tree]
    refine forall_leaves ?_ ?_ fun l hl hne => ?_
    · rw [c.l2n_new, c.clusterOf_new, addChild_target_n1 _ _ _ hI.size_target,
        Int.toNat_of_nonneg c.ok.right_nonneg]
    · rw [c.l2n_leaf, c.clusterOf_leaf, addChild_target_n _ _ _ hI.size_target,
        Int.toNat_of_nonneg c.ok.left_nonneg]
    · rw [c.l2n_other hl hne, c.clusterOf_other hl hne, addChild_target_lt _ _ _ hI.size_target (hI.l2n_lt l hl)]
      exact hI.target_eq l hl

end Ctx

omit [RealLike α] in
theorem mem_samplesOfLeaf (a : Assign) (l i : Nat) : i ∈ a.samplesOfLeaf l ↔ i < a.n ∧ a.leafOf[i]! = l := by
  simp [Assign.samplesOfLeaf]

omit [RealLike α] in
theorem mem_samplesOfCluster {a : Assign} {nLeaves c i : Nat} :
    i ∈ a.samplesOfCluster nLeaves c ↔ i < a.n ∧ a.leafOf[i]! < nLeaves ∧ a.clusterOfSample i = c := by
  simp [Assign.samplesOfCluster]

omit [RealLike α] in
theorem clusterOfSample_of_leaf {a : Assign} {i l : Nat} (h : a.leafOf[i]! = l) :
    a.clusterOfSample i = a.clusterOf[l]! := by
  unfold Assign.clusterOfSample
  rw [h]

theorem mem_rightIdx (X : Nat → Nat → α) (s : FitState α) (b : Split α) (i : Nat) :
    i ∈ rightIdx X s b ↔ i < s.asg.n ∧ s.asg.leafOf[i]! = b.leaf.toNat ∧ goesLeft X b i = false := by
  unfold rightIdx members
  rw [List.mem_filter, mem_samplesOfLeaf, and_assoc, Bool.not_eq_true']

theorem mem_leftIdx (X : Nat → Nat → α) (s : FitState α) (b : Split α) (i : Nat) :
    i ∈ leftIdx X s b ↔ i < s.asg.n ∧ s.asg.leafOf[i]! = b.leaf.toNat ∧ goesLeft X b i = true := by
  unfold leftIdx members
  rw [List.mem_filter, mem_samplesOfLeaf, and_assoc]

namespace Ctx
variable {X : Nat → Nat → α} {p : Params} {s : FitState α} {b : Split α} (c : Ctx X p s b)
include c

theorem sample_cases {i : Nat} (hi : i < s.asg.n) :
    (s.asg.leafOf[i]! = b.leaf.toNat ∧ goesLeft X b i = false ∧ (applySplit X p s b).asg.leafOf[i]! = s.nLeaves) ∨
    (s.asg.leafOf[i]! = b.leaf.toNat ∧ goesLeft X b i = true ∧ (applySplit X p s b).asg.leafOf[i]! = b.leaf.toNat) ∨
    (s.asg.leafOf[i]! ≠ b.leaf.toNat ∧ (applySplit X p s b).asg.leafOf[i]! = s.asg.leafOf[i]!) := by
  rw [c.leafOf_get i hi]
  by_cases h : s.asg.leafOf[i]! = b.leaf.toNat
  · cases hg : goesLeft X b i
    · exact .inl ⟨h, rfl, if_pos ((mem_rightIdx X s b i).2 ⟨hi, h, hg⟩)⟩
    · refine .inr (.inl ⟨h, rfl, ?_⟩)
      rw [if_neg (fun hm => by have := ((mem_rightIdx X s b i).1 hm).2.2; rw [hg] at this; cases this), h]
  · exact .inr (.inr ⟨h, if_neg fun hm => h ((mem_rightIdx X s b i).1 hm).2.1⟩)

omit c in
theorem samplesOfLeaf_after (l : Nat) (q : Nat → Bool)
    (hq : ∀ i, i < s.asg.n → ((applySplit X p s b).asg.leafOf[i]! == l) = q i) :
    (applySplit X p s b).asg.samplesOfLeaf l = (List.range s.asg.n).filter q :=
  List.filter_congr fun i hi => hq i (List.mem_range.1 hi)

theorem samples_new : (applySplit X p s b).asg.samplesOfLeaf s.nLeaves = rightIdx X s b := by
  unfold rightIdx members Assign.samplesOfLeaf
  rw [List.filter_filter]
  refine samplesOfLeaf_after _ _ fun i hi => ?_
  have hlt := c.inv.leafOf_lt i hi
  rcases c.sample_cases hi with ⟨h1, h2, e⟩ | ⟨h1, h2, e⟩ | ⟨h1, e⟩
  · rw [e, h1, h2]; simp
  · rw [e, h1, h2, beq_false_of_ne (Nat.ne_of_lt c.leaf_lt)]; rfl
  · rw [e, beq_false_of_ne (Nat.ne_of_lt hlt), beq_false_of_ne h1, Bool.and_false]

theorem samples_leaf : (applySplit X p s b).asg.samplesOfLeaf b.leaf.toNat = leftIdx X s b := by
  unfold leftIdx members Assign.samplesOfLeaf
  rw [List.filter_filter]
  refine samplesOfLeaf_after _ _ fun i hi => ?_
  rcases c.sample_cases hi with ⟨h1, h2, e⟩ | ⟨h1, h2, e⟩ | ⟨h1, e⟩
  · rw [e, h1, h2, beq_false_of_ne (Nat.ne_of_gt c.leaf_lt)]; simp
  · rw [e, h1, h2]; simp
  · rw [e, beq_false_of_ne h1, Bool.and_false]

theorem samples_other {l : Nat} (hl : l < s.nLeaves) (hne : l ≠ b.leaf.toNat) :
    (applySplit X p s b).asg.samplesOfLeaf l = s.asg.samplesOfLeaf l := by
  refine samplesOfLeaf_after _ _ fun i hi => ?_
  rcases c.sample_cases hi with ⟨h1, _, e⟩ | ⟨h1, _, e⟩ | ⟨_, e⟩
  · rw [e, h1, beq_false_of_ne (Nat.ne_of_gt hl), beq_false_of_ne (Ne.symm hne)]
  · rw [e, h1]
  · rw [e]

end Ctx

/-- Invariant about the sample counts of the leaves. -/
structure InvSamples (p : Params) (s : FitState α) : Prop where
  leaf_size : ∀ l, l < s.nLeaves → p.minLeaf ≤ (s.asg.samplesOfLeaf l).length
  leaf_nonempty : ∀ l, l < s.nLeaves → s.asg.samplesOfLeaf l ≠ []
  explore_size : ∀ l, l ∈ s.toExplore → p.minSplit ≤ (s.asg.samplesOfLeaf l).length

theorem samplesOfLeaf_init (n : Nat) (p : Params) :
    (FitState.init n p : FitState α).asg.samplesOfLeaf 0 = List.range n := by
  show List.filter _ (List.range n) = List.range n
  rw [List.filter_eq_self]
  intro i _
  show ((Array.replicate n 0)[i]! == 0) = true
  rw [get_replicate_zero]; rfl

/-- `validate_data(ensure_min_samples=min_samples_leaf)` with `min_samples_leaf ≥ 1` gives both hypotheses -/
theorem invSamples_init (n : Nat) (p : Params) (hn : 1 ≤ n) (hmin : p.minLeaf ≤ n) :
    InvSamples p (FitState.init n p : FitState α) := by
  have one : ∀ {l : Nat}, l < 1 → l = 0 := Nat.lt_one_iff.1
  refine ⟨?_, ?_, ?_⟩
  · intro l hl
    rw [one hl, samplesOfLeaf_init, List.length_range]; exact hmin
  · intro l hl
    rw [one hl, samplesOfLeaf_init, Ne, List.range_eq_nil]
    exact Nat.ne_of_gt hn
  · intro l hl
    obtain ⟨rfl, h⟩ := mem_toExplore_init.1 hl
    rw [samplesOfLeaf_init, List.length_range]; exact h

theorem Ctx.preserves_samples {X : Nat → Nat → α} {p : Params} {s : FitState α} {b : Split α} (c : Ctx X p s b)
    (hS : InvSamples p s) : InvSamples p (applySplit X p s b) := by
  have hI := c.inv
  have hb := c.ok
  refine ⟨Ctx.forall_leaves ?_ ?_ fun l hl hne => ?_, Ctx.forall_leaves ?_ ?_ fun l hl hne => ?_, ?_⟩
  · rw [c.samples_new]; exact hb.right_size
  · rw [c.samples_leaf]; exact hb.left_size
  · rw [c.samples_other hl hne]; exact hS.leaf_size l hl
  · rw [c.samples_new]; exact hb.right_nonempty
  · rw [c.samples_leaf]; exact hb.left_nonempty
  · rw [c.samples_other hl hne]; exact hS.leaf_nonempty l hl
  · intro l hl
    rcases c.mem_explore l hl with ⟨h1, h2⟩ | ⟨rfl, _, h3⟩ | ⟨rfl, _, h3⟩
    · rw [c.samples_other (hI.explore_lt l h1) h2]; exact hS.explore_size l h1
    · rw [c.samples_leaf]; exact h3
    · rw [c.samples_new]; exact h3

/-- `Reaches t x k d`: `Tree.predict` on the row `x`, started at the root, arrives at node `k` after `d` tests.  The row
    satisfies `x[feature] <= threshold` exactly on the left branches of its path. -/
inductive Reaches (t : Tree α) (x : Nat → α) : Nat → Nat → Prop
  | root : Reaches t x 0 0
  | left {k d : Nat} {th : α} : Reaches t x k d → k < t.nNodes → t.left[k]! ≠ -1 → t.thr[k]! = some th →
      le (x ((t.feat[k]!).getD 0).toNat) th = true → Reaches t x (t.left[k]!).toNat (d + 1)
  | right {k d : Nat} {th : α} : Reaches t x k d → k < t.nNodes → t.left[k]! ≠ -1 → t.thr[k]! = some th →
      le (x ((t.feat[k]!).getD 0).toNat) th = false → Reaches t x (t.right[k]!).toNat (d + 1)

theorem Reaches.route_eq {t : Tree α} {x : Nat → α} {k d : Nat} (h : Reaches t x k d) :
    ∀ fuel, t.route x (d + fuel) 0 = t.route x fuel k := by
  induction h with
  | root => intro fuel; rw [Nat.zero_add]
  | left _ _ h1 h2 h3 ih =>
    intro fuel
    rw [Nat.add_assoc, Nat.add_comm 1 fuel, ih (fuel + 1), route_node x fuel h1 h2, if_pos h3]
  | right _ _ h1 h2 h3 ih =>
    intro fuel
    rw [Nat.add_assoc, Nat.add_comm 1 fuel, ih (fuel + 1), route_node x fuel h1 h2, h3, if_neg Bool.false_ne_true]

/-- paths of the old tree are paths of the new tree: the split node was a leaf, so no old path tests it -/
theorem Reaches.addChild {t : Tree α} {x : Nat → α} {k d : Nat} (F : Nat) (b : Split α) (h : Reaches t x k d)
    (hl : t.left.size = t.nNodes) (hr : t.right.size = t.nNodes) (ht : t.thr.size = t.nNodes)
    (hf : t.feat.size = t.nNodes) (hF : t.left[F]! = -1) : Reaches (t.addChild F b) x k d := by
  have keep : ∀ {k}, k < t.nNodes → t.left[k]! ≠ -1 →
      NodeIs (t.addChild F b) k t.left[k]! t.right[k]! t.thr[k]! t.feat[k]! :=
    fun hk h1 => addChild_old_of_size hl hr ht hf F b hk fun e => h1 (e ▸ hF)
  induction h with
  | root => exact Reaches.root
  | @left k d th _ hk h1 h2 h3 ih =>
    have e := keep hk h1
    rw [← e.left] at h1 ⊢
    rw [← e.thr] at h2
    rw [← e.feat] at h3
    exact Reaches.left ih (Nat.lt_add_right 2 hk) h1 h2 h3
  | @right k d th _ hk h1 h2 h3 ih =>
    have e := keep hk h1
    rw [← e.left] at h1
    rw [← e.right]
    rw [← e.thr] at h2
    rw [← e.feat] at h3
    exact Reaches.right ih (Nat.lt_add_right 2 hk) h1 h2 h3

/-- Invariant that ties the tree to the data `X`. -/
structure InvRoute (X : Nat → Nat → α) (s : FitState α) : Prop where
  /-- `predict` sends every training sample to the tree node of its leaf, in `depth` tests -/
  reach : ∀ i, i < s.asg.n →
    Reaches s.tree (X i) (s.leaf2node[s.asg.leafOf[i]!]!) (s.tree.depths[s.leaf2node[s.asg.leafOf[i]!]!]!)
  /-- every internal node tests a feature index against the feature value of a training sample -/
  thr_obs : ∀ k, k < s.tree.nNodes → s.tree.left[k]! ≠ -1 →
    ∃ f : Int, 0 ≤ f ∧ s.tree.feat[k]! = some f ∧ ∃ i, i < s.asg.n ∧ s.tree.thr[k]! = some (X i f.toNat)

theorem invRoute_init (X : Nat → Nat → α) (n : Nat) (p : Params) : InvRoute X (FitState.init n p : FitState α) := by
  refine ⟨?_, ?_⟩
  · intro i _
    have h1 : (FitState.init n p : FitState α).leaf2node[(FitState.init n p : FitState α).asg.leafOf[i]!]! = 0 :=
      get_replicate_zero _ _
    rw [h1]
    exact Reaches.root
  · intro k hk h
    have : k = 0 := Nat.lt_one_iff.1 hk
    subst this
    exact absurd rfl h

theorem Ctx.preserves_route {X : Nat → Nat → α} {p : Params} {s : FitState α} {b : Split α} (c : Ctx X p s b)
    (hR : InvRoute X s) : InvRoute X (applySplit X p s b) := by
  have hI := c.inv
  have hb := c.ok
  have hs := hI.sized
  have hF := c.F_lt
  have lift : ∀ {x k d}, Reaches s.tree x k d → Reaches (s.tree.addChild (father s b) b) x k d := fun h =>
    h.addChild _ b hI.size_left hI.size_right hI.size_thr hI.size_feat (hI.l2n_leaf _ c.leaf_lt)
  have fa := addChild_father hs b hF
  have hFlt : father s b < (s.tree.addChild (father s b) b).nNodes := Nat.lt_add_right 2 hF
  have hne : (s.tree.addChild (father s b) b).left[father s b]! ≠ -1 := by
    rw [fa.left]
    exact natCast_ne_neg_one _
  refine ⟨?_, ?_⟩
  · intro i hi
    have hi : i < s.asg.n := hi
    have hold := lift (hR.reach i hi)
    rcases c.sample_cases hi with ⟨h1, h2, e⟩ | ⟨h1, h2, e⟩ | ⟨h1, e⟩ <;> rw [e]
    · -- one more test at the father, answered "right"
      rw [h1] at hold
      have step := Reaches.right hold hFlt hne fa.thr (by rw [fa.feat]; exact h2)
      rw [fa.right, Int.toNat_natCast] at step
      rw [c.l2n_new, c.depths_new (Nat.le_succ _) (Nat.lt_succ_self _)]; exact step
    · rw [h1] at hold
      have step := Reaches.left hold hFlt hne fa.thr (by rw [fa.feat]; exact h2)
      rw [fa.left, Int.toNat_natCast] at step
      rw [c.l2n_leaf, c.depths_new (Nat.le_refl _) (Nat.lt_add_of_pos_right Nat.two_pos)]; exact step
    · have hl := hI.leafOf_lt i hi
      rw [c.l2n_other hl h1, c.depths_old (hI.l2n_lt _ hl)]; exact hold
  · intro k hk h
    show ∃ f : Int, 0 ≤ f ∧ _ ∧ ∃ i, i < s.asg.n ∧ _
    rw [applySplit_tree] at h ⊢
    rcases addChild_cases hs (father s b) b hk with ⟨h1, _, e⟩ | ⟨_, rfl, _⟩ | ⟨_, e⟩
    · rw [e.left] at h
      rw [e.thr, e.feat]
      exact hR.thr_obs k h1 h
    · obtain ⟨i, hi, e⟩ := hb.threshold_obs
      exact ⟨b.feature, hb.feature_nonneg, fa.feat, i, ((mem_samplesOfLeaf _ _ _).1 hi).1, by rw [fa.thr, e]⟩
    · exact absurd e.left h

/-- Routing a training sample through the tree gives the cluster of its leaf, for every `fuel` (recursion budget of
    the model's `Tree.route`) that covers the depth of a tree with `n_leaves` leaves. -/
theorem route_train {X : Nat → Nat → α} {p : Params} {s : FitState α} (hI : Inv p s) (hR : InvRoute X s)
    (i : Nat) (hi : i < s.asg.n) (fuel : Nat) (hfuel : s.nLeaves ≤ fuel + 1) :
    s.tree.route (X i) fuel 0 = (s.asg.clusterOfSample i : Int) := by
  have hl := hI.leafOf_lt i hi
  have hd := hI.depth_lt_leaves _ (hI.l2n_lt _ hl)
  have h := (hR.reach i hi).route_eq (fuel - s.tree.depths[s.leaf2node[s.asg.leafOf[i]!]!]!)
  rw [Nat.add_sub_cancel' (by omega)] at h
  rw [h, route_leaf _ _ _ _ (hI.l2n_leaf _ hl), hI.target_eq _ hl]
  rfl

/-- the leaf nodes of the tree (`children_left == -1`) -/
def leafNodes (t : Tree α) : List Nat := (List.range t.nNodes).filter fun k => t.left[k]! == -1

/-- Well-formedness of the array-encoded binary tree. -/
structure TreeWF (t : Tree α) : Prop where
  size_left : t.left.size = t.nNodes
  size_right : t.right.size = t.nNodes
  size_target : t.target.size = t.nNodes
  size_thr : t.thr.size = t.nNodes
  size_feat : t.feat.size = t.nNodes
  size_gains : t.gains.size = t.nNodes
  size_depths : t.depths.size = t.nNodes
  root_depth : t.depths[0]! = 0
  leaf : ∀ k, k < t.nNodes → t.left[k]! = -1 → t.right[k]! = -1 ∧ t.thr[k]! = none ∧ t.feat[k]! = none
  /-- an internal node has two consecutive children further down the arrays, one level deeper, a threshold and a
      feature -/
  internal : ∀ k, k < t.nNodes → t.left[k]! ≠ -1 →
    ∃ c : Nat, k < c ∧ c + 1 < t.nNodes ∧ t.left[k]! = (c : Int) ∧ t.right[k]! = ((c + 1 : Nat) : Int) ∧
      t.depths[c]! = t.depths[k]! + 1 ∧ t.depths[c + 1]! = t.depths[k]! + 1 ∧
      (t.thr[k]!).isSome = true ∧ (t.feat[k]!).isSome = true
  count : t.nNodes + 1 = 2 * (leafNodes t).length

/-- what `TreeWF.internal` says of an internal node `k` whose left child is `c`, by name -/
structure ChildrenAt (t : Tree α) (k c : Nat) : Prop where
  gt : k < c
  lt : c + 1 < t.nNodes
  left : t.left[k]! = (c : Int)
  right : t.right[k]! = ((c + 1 : Nat) : Int)
  depth_left : t.depths[c]! = t.depths[k]! + 1
  depth_right : t.depths[c + 1]! = t.depths[k]! + 1
  thr_some : (t.thr[k]!).isSome = true
  feat_some : (t.feat[k]!).isSome = true

omit [RealLike α] in
theorem TreeWF.children {t : Tree α} (h : TreeWF t) {k : Nat} (hk : k < t.nNodes) (hl : t.left[k]! ≠ -1) :
    ∃ c, ChildrenAt t k c := by
  obtain ⟨c, h1, h2, h3, h4, h5, h6, h7, h8⟩ := h.internal k hk hl
  exact ⟨c, h1, h2, h3, h4, h5, h6, h7, h8⟩

omit [RealLike α] in
theorem count_flip (q q' : Nat → Bool) (N F : Nat) (hF : F < N) (hq : q F = true) (hq' : q' F = false)
    (h : ∀ k, k < N → k ≠ F → q' k = q k) :
    ((List.range N).filter q').length + 1 = ((List.range N).filter q).length := by
  -- take `F` out of the range: the two tests agree on the rest
  have hp := List.perm_cons_erase (List.mem_range.2 hF)
  rw [← List.countP_eq_length_filter, ← List.countP_eq_length_filter, hp.countP_eq, hp.countP_eq,
    List.countP_cons_of_pos hq, List.countP_cons_of_neg (by rw [hq']; exact Bool.false_ne_true)]
  refine congrArg (· + 1) (List.countP_congr fun k hk => ?_)
  obtain ⟨hne, hk⟩ := List.nodup_range.mem_erase_iff.1 hk
  rw [h k (List.mem_range.1 hk) hne]

theorem treeWF_init : TreeWF (Tree.init : Tree α) := by
  refine ⟨rfl, rfl, rfl, rfl, rfl, rfl, rfl, rfl, ?_, ?_, rfl⟩
  · intro k hk _
    have : k = 0 := Nat.lt_one_iff.1 hk
    subst this; exact ⟨rfl, rfl, rfl⟩
  · intro k hk h
    have : k = 0 := Nat.lt_one_iff.1 hk
    subst this; exact absurd rfl h

omit [RealLike α] in
theorem TreeWF.sized {t : Tree α} (h : TreeWF t) : Sized t :=
  ⟨h.size_left, h.size_right, h.size_target, h.size_thr, h.size_feat, h.size_depths⟩

theorem TreeWF.addChild {t : Tree α} (h : TreeWF t) (F : Nat) (b : Split α) (hF : F < t.nNodes)
    (hleaf : t.left[F]! = -1) : TreeWF (t.addChild F b) := by
  have hs := h.sized
  have hs' := hs.addChild F b
  have hd : ∀ {k}, k < t.nNodes → (t.addChild F b).depths[k]! = t.depths[k]! :=
    fun hk => addChild_depths_lt _ _ _ hs.depths hk
  have fa := addChild_father hs b hF
  have new := fun k => addChild_new hs F b (k := k)
  refine ⟨hs'.left, hs'.right, hs'.target, hs'.thr, hs'.feat, ?_, hs'.depths, ?_, ?_, ?_, ?_⟩
  · rw [addChild_size_gains, h.size_gains]; rfl
  · rw [hd (Nat.lt_of_le_of_lt (Nat.zero_le _) hF)]; exact h.root_depth
  · intro k hk hk'
    rcases addChild_cases hs F b hk with ⟨h1, _, e⟩ | ⟨_, rfl, e⟩ | ⟨_, e⟩
    · rw [e.left] at hk'
      rw [e.right, e.thr, e.feat]
      exact h.leaf k h1 hk'
    · rw [e.left] at hk'
      exact absurd hk' (natCast_ne_neg_one _)
    · exact ⟨e.right, e.thr, e.feat⟩
  · intro k hk hk'
    rcases addChild_cases hs F b hk with ⟨h1, _, e⟩ | ⟨_, rfl, _⟩ | ⟨_, e⟩
    · rw [e.left] at hk'
      obtain ⟨c, hc⟩ := h.children h1 hk'
      rw [e.left, e.right, e.thr, e.feat, hd h1]
      exact ⟨c, hc.gt, Nat.lt_add_right 2 hc.lt, hc.left, hc.right,
        by rw [hd (Nat.lt_of_succ_lt hc.lt)]; exact hc.depth_left, by rw [hd hc.lt]; exact hc.depth_right,
        hc.thr_some, hc.feat_some⟩
    · exact ⟨t.nNodes, hF, Nat.lt_succ_self _, fa.left, fa.right,
        by rw [addChild_depths_new hs.depths F b (Nat.le_refl _) (Nat.lt_add_of_pos_right Nat.two_pos), hd hF],
        by rw [addChild_depths_new hs.depths F b (Nat.le_succ _) (Nat.lt_succ_self _), hd hF], by rw [fa.thr]; rfl,
        by rw [fa.feat]; rfl⟩
    · exact absurd e.left hk'
  · -- the father stops being a leaf, the two new nodes are leaves: one more leaf for two more nodes
    have hc := h.count
    unfold leafNodes at hc ⊢
    show t.nNodes + 2 + 1 = 2 * ((List.range (t.nNodes + 2)).filter _).length
    rw [List.range_succ, List.range_succ, List.filter_append, List.filter_append, List.length_append,
      List.length_append]
    have e1 := (new t.nNodes (Nat.le_refl _) (Nat.lt_add_of_pos_right Nat.two_pos)).left
    have e2 := (new (t.nNodes + 1) (Nat.le_succ _) (Nat.lt_succ_self _)).left
    have hflip := count_flip (fun k => t.left[k]! == -1) (fun k => (t.addChild F b).left[k]! == -1) t.nNodes F hF
      (by simp [hleaf]) (by simp only [fa.left]; simp)
      (fun k hk hne => by rw [(addChild_old hs F b hk (fun e => hne e.symm)).left])
    simp only [List.filter_cons, List.filter_nil, e1, e2, beq_self_eq_true, if_true, List.length_cons, List.length_nil]
    omega

omit [RealLike α] in
theorem leafNodes_length {p : Params} {s : FitState α} (hI : Inv p s) (hT : TreeWF s.tree) :
    (leafNodes s.tree).length = s.nLeaves := by
  have := hT.count; have := hI.nNodes_eq; have := hI.nLeaves_pos; omega

structure FullInv (X : Nat → Nat → α) (p : Params) (s : FitState α) : Prop where
  inv : Inv p s
  samples : InvSamples p s
  route : InvRoute X s
  tree : TreeWF s.tree

omit [RealLike α] in
theorem Inv.bookkeeping {p : Params} {s : FitState α} (h : Inv p s) (g : Bool) (k : Nat) :
    Inv p { s with lastGainPos := g, steps := k } := by
  cases h; constructor <;> assumption

omit [RealLike α] in
theorem InvSamples.bookkeeping {p : Params} {s : FitState α} (h : InvSamples p s) (g : Bool) (k : Nat) :
    InvSamples p { s with lastGainPos := g, steps := k } := by
  cases h; constructor <;> assumption

theorem InvRoute.bookkeeping {X : Nat → Nat → α} {s : FitState α} (h : InvRoute X s) (g : Bool) (k : Nat) :
    InvRoute X { s with lastGainPos := g, steps := k } := by
  cases h; constructor <;> assumption

theorem SplitOK.bookkeeping {X : Nat → Nat → α} {p : Params} {s : FitState α} {b : Split α} (h : SplitOK X p s b)
    (g : Bool) (k : Nat) : SplitOK X p { s with lastGainPos := g, steps := k } b := by
  cases h; constructor <;> assumption

theorem FullInv.bookkeeping {X : Nat → Nat → α} {p : Params} {s : FitState α} (h : FullInv X p s) (g : Bool) (k : Nat) :
    FullInv X p { s with lastGainPos := g, steps := k } :=
  ⟨h.inv.bookkeeping g k, h.samples.bookkeeping g k, h.route.bookkeeping g k, h.tree⟩

/-- `fitStep` with the answer of `find_best_split` passed in -/
def stepWith (X : Nat → Nat → α) (p : Params) (s : FitState α) (b : Split α) : FitState α :=
  if !s.continues p then s else
  let s := { s with steps := s.steps + 1 }
  if lt 0 b.gain then { applySplit X p s b with lastGainPos := true }
  else { s with lastGainPos := false }

theorem stepWith_applied {X : Nat → Nat → α} {p : Params} {s : FitState α} {b : Split α}
    (hc : s.continues p = true) (hg : lt 0 b.gain = true) :
    stepWith X p s b = { applySplit X p { s with steps := s.steps + 1 } b with lastGainPos := true } := by
  unfold stepWith
  rw [hc, hg]
  rfl

theorem stepWith_not_applied {X : Nat → Nat → α} {p : Params} {s : FitState α} {b : Split α}
    (h : ¬ (s.continues p = true ∧ lt 0 b.gain = true)) :
    ∃ g k, stepWith X p s b = { s with lastGainPos := g, steps := k } := by
  unfold stepWith
  split
  · exact ⟨_, _, rfl⟩
  · rename_i hc
    rw [if_neg fun hg => h ⟨by simpa using hc, hg⟩]
    exact ⟨_, _, rfl⟩

theorem fitStep_eq_stepWith (κ : Nat → Nat → α) (X : Nat → Nat → α) (p : Params) (s : FitState α) (features : List Nat) :
    fitStep κ X p s features =
      stepWith X p s (findBestSplit κ X s.toExplore s.asg s.nClusters p.maxClusters s.nLeaves p.minLeaf features) := rfl

/-- the loop run on a given list of answers of `find_best_split` -/
def fitWith (X : Nat → Nat → α) (n : Nat) (p : Params) (bs : List (Split α)) : FitState α :=
  bs.foldl (stepWith X p) (FitState.init n p)

/-- every answer in the list meets the post-condition in the state in which it is used (only asked when the loop
    guard holds and the gain is positive: otherwise the answer is not applied) -/
def SplitsOK (X : Nat → Nat → α) (p : Params) : FitState α → List (Split α) → Prop
  | _, [] => True
  | s, b :: bs => (s.continues p = true → lt 0 b.gain = true → SplitOK X p s b) ∧ SplitsOK X p (stepWith X p s b) bs

theorem stepWith_preserves {X : Nat → Nat → α} {p : Params} {s : FitState α} {b : Split α} (h : FullInv X p s)
    (hb : s.continues p = true → lt 0 b.gain = true → SplitOK X p s b) : FullInv X p (stepWith X p s b) := by
  by_cases ha : s.continues p = true ∧ lt 0 b.gain = true
  · rw [stepWith_applied ha.1 ha.2]
    have h' := h.bookkeeping s.lastGainPos (s.steps + 1)
    have c : Ctx X p _ b := ⟨h'.inv, (hb ha.1 ha.2).bookkeeping s.lastGainPos (s.steps + 1), continues_lt ha.1⟩
    exact FullInv.bookkeeping
      ⟨c.preserves, c.preserves_samples h'.samples, c.preserves_route h'.route,
        h'.tree.addChild _ b c.F_lt (c.inv.l2n_leaf _ c.leaf_lt)⟩ true _
  · obtain ⟨g, k, e⟩ := stepWith_not_applied (X := X) ha
    rw [e]
    exact h.bookkeeping g k

theorem foldl_stepWith_inv {X : Nat → Nat → α} {p : Params} (bs : List (Split α)) :
    ∀ s : FitState α, FullInv X p s → SplitsOK X p s bs → FullInv X p (bs.foldl (stepWith X p) s) := by
  induction bs with
  | nil => intro s h _; exact h
  | cons b bs ih =>
    intro s h hok
    rw [List.foldl_cons]
    exact ih _ (stepWith_preserves h hok.1) hok.2

theorem fullInv_init (X : Nat → Nat → α) (n : Nat) (p : Params) (hn : 1 ≤ n) (hmin : p.minLeaf ≤ n) :
    FullInv X p (FitState.init n p : FitState α) :=
  ⟨inv_init n p, invSamples_init n p hn hmin, invRoute_init X n p, treeWF_init⟩

theorem fitWith_inv {X : Nat → Nat → α} {n : Nat} {p : Params} (hn : 1 ≤ n) (hmin : p.minLeaf ≤ n)
    (bs : List (Split α)) (hok : SplitsOK X p (FitState.init n p) bs) : FullInv X p (fitWith X n p bs) :=
  foldl_stepWith_inv bs _ (fullInv_init X n p hn hmin) hok

/-- The post-condition of `find_best_split` as a hypothesis on the scan: whenever it is called from a state that
    satisfies the invariants and whose loop guard holds, and reports a positive gain, the reported split is `SplitOK`. -/
def FindBestSplitSpec (κ : Nat → Nat → α) (X : Nat → Nat → α) (p : Params) : Prop :=
  ∀ (s : FitState α) (features : List Nat), FullInv X p s → s.continues p = true →
    lt 0 (findBestSplit κ X s.toExplore s.asg s.nClusters p.maxClusters s.nLeaves p.minLeaf features).gain = true →
    SplitOK X p s (findBestSplit κ X s.toExplore s.asg s.nClusters p.maxClusters s.nLeaves p.minLeaf features)

theorem fit_inv {κ : Nat → Nat → α} {X : Nat → Nat → α} {n : Nat} {p : Params} (hn : 1 ≤ n) (hmin : p.minLeaf ≤ n)
    (hspec : FindBestSplitSpec κ X p) (draws : List (List Nat)) : FullInv X p (fit κ X n p draws) :=
  foldl_induction _ (FullInv X p) draws (fun s d _ h => stepWith_preserves h (hspec s d h)) _
    (fullInv_init X n p hn hmin)

omit [RealLike α] in
theorem mem_labels (s : FitState α) (c : Nat) : c ∈ s.labels ↔ ∃ i, i < s.asg.n ∧ s.asg.clusterOfSample i = c := by
  simp [FitState.labels]

omit [RealLike α] in
theorem cluster_has_sample {p : Params} {s : FitState α} (hI : Inv p s) (hS : InvSamples p s) {c : Nat}
    (hc : c < s.nClusters) : ∃ i, i < s.asg.n ∧ s.asg.clusterOfSample i = c := by
  obtain ⟨l, hl, e⟩ := hI.cluster_owns_leaf c hc
  obtain ⟨i, hi⟩ := List.exists_mem_of_ne_nil _ (hS.leaf_nonempty l hl)
  obtain ⟨hi1, hi2⟩ := (mem_samplesOfLeaf _ _ _).1 hi
  exact ⟨i, hi1, (clusterOfSample_of_leaf hi2).trans e⟩

omit [RealLike α] in
theorem labels_range {p : Params} {s : FitState α} (hI : Inv p s) (hS : InvSamples p s) (c : Nat) :
    c ∈ s.labels ↔ c < s.nClusters := by
  rw [mem_labels]
  constructor
  · rintro ⟨i, hi, e⟩
    rw [← e]
    exact hI.clusterOf_lt _ (hI.leafOf_lt i hi)
  · exact cluster_has_sample hI hS

/-! A concrete run, used by the satisfiability examples in `Props/C09.lean` and `Props/C18.lean`. -/

namespace Example
/-- three samples, one feature, `X[i, 0] = i` -/
def X : Nat → Nat → Rat := fun i _ => (i : Rat)
def p : Params := { maxClusters := 2, maxDepth := 2, minSplit := 2, minLeaf := 1, maxLeaves := 3 }
/-- right star on the root: `{0} | {1, 2}`, threshold `X[0,0]`, targets `(0, 1)` -/
def b1 : Split Rat := ⟨1, 0, 0, 1, 0, 0⟩
/-- switch on leaf 1: `{1} | {2}`, threshold `X[1,0]`, targets `(0, 1)` -/
def b2 : Split Rat := ⟨1, 1, 0, 1, 0, 1⟩

theorem splitsOK : SplitsOK X p (FitState.init 3 p) [b1, b2] :=
  ⟨fun _ _ => ⟨by decide, by decide, by decide, by decide, by decide, by decide, by decide, by decide, by decide,
      by decide, by decide, by decide, ⟨0, by decide, by decide⟩⟩,
   fun _ _ => ⟨by decide, by decide, by decide, by decide, by decide, by decide, by decide, by decide, by decide,
      by decide, by decide, by decide, ⟨1, by decide, by decide⟩⟩, trivial⟩
end Example

end GemVerif.KauriC09

