/-
  Reading rules of GemVerif/Np5.lean (by unfolding); the descriptions `IsVec` / `IsVecN` / `IsRows` of 1-D arrays and of
  arrays given row by row, with the negation and the gather `v[I]` of a described 1-D array; and, for every number type:
  the stable position sort `argsortBy` is a permutation of the positions, reads the comparison only inside the range, and
  is the `argsort` / `argsortNat` of Model/Douglas.lean (insertion sort of (value, position) pairs); `cumsumTo` performs
  the additions of the model's `cumsum`.
  The rules of `Arr.setAt`, `emptyLike`, `emptyLikeN`, `arangeN`, `arangeFrom` serve respellings of the source (un-sorting
  by a scatter into `np.empty_like`, `np.arange` for `np.linspace`: harmless/h07.diff, harmless/batch2/h07.diff; DESIGN.md
  §21) that the text generated from the present source does not use.
-/
import GemVerif.Lemmas.Np4
import GemVerif.Np5
import GemVerif.Lemmas.DouglasSort

set_option linter.unusedSectionVars false

namespace GemVerif.Np
open RealLike

@[simp] theorem errN_ok : errN.ok = false := rfl
@[simp] theorem checkedN_r (f : Bool) (I : Arr Nat) : (checkedN f I).r = I.r := rfl
@[simp] theorem checkedN_c (f : Bool) (I : Arr Nat) : (checkedN f I).c = I.c := rfl
@[simp] theorem checkedN_ok (f : Bool) (I : Arr Nat) : (checkedN f I).ok = (I.ok && f) := rfl
@[simp] theorem checkedN_get (f : Bool) (I : Arr Nat) (i j : Nat) : (checkedN f I).get i j = I.get i j := rfl

/-- a method that raised nothing returns its arrays as they are -/
theorem checkedN_true (I : Arr Nat) : checkedN true I = I := by
  cases I; simp [checkedN]

@[simp] theorem argsortN_r (I : Arr Nat) : (argsortN I).r = 1 := rfl
@[simp] theorem argsortN_c (I : Arr Nat) : (argsortN I).c = I.c := rfl
@[simp] theorem argsortN_ok (I : Arr Nat) : (argsortN I).ok = (I.ok && I.r == 1) := rfl
@[simp] theorem argsortN_get (I : Arr Nat) (i j : Nat) :
    (argsortN I).get i j = (argsortBy (fun a b => decide (I.get 0 a ≤ I.get 0 b)) I.c).getD j 0 := rfl

@[simp] theorem emptyLikeN_r (I : Arr Nat) : (emptyLikeN I).r = I.r := rfl
@[simp] theorem emptyLikeN_c (I : Arr Nat) : (emptyLikeN I).c = I.c := rfl
@[simp] theorem emptyLikeN_ok (I : Arr Nat) : (emptyLikeN I).ok = I.ok := rfl

@[simp] theorem arangeN_r (n : Nat) : (arangeN n).r = 1 := rfl
@[simp] theorem arangeN_c (n : Nat) : (arangeN n).c = n := rfl
@[simp] theorem arangeN_ok (n : Nat) : (arangeN n).ok = true := rfl
@[simp] theorem arangeN_get (n i j : Nat) : (arangeN n).get i j = j := rfl

@[simp] theorem Arr.setAt_r {β : Type} (g : Arr β) (I : Arr Nat) (v : Arr β) : (Arr.setAt g I v).r = 1 := rfl
@[simp] theorem Arr.setAt_c {β : Type} (g : Arr β) (I : Arr Nat) (v : Arr β) : (Arr.setAt g I v).c = g.c := rfl
theorem Arr.setAt_ok {β : Type} (g : Arr β) (I : Arr Nat) (v : Arr β) :
    (Arr.setAt g I v).ok = (g.ok && I.ok && v.ok && g.r == 1 && I.r == 1 && v.r == 1 && v.c == I.c &&
      (List.range I.c).all fun k => decide (I.get 0 k < g.c)) := rfl
theorem Arr.setAt_get {β : Type} (g : Arr β) (I : Arr Nat) (v : Arr β) (i j : Nat) :
    (Arr.setAt g I v).get i j = scatterGet (I.get 0) (v.get 0) (g.get 0 j) j I.c := rfl

theorem scatterGet_of_injOn {β : Type} (I : Nat → Nat) (v : Nat → β) (old : β) :
    ∀ (m : Nat), (∀ a b, a < m → b < m → I a = I b → a = b) → ∀ k, k < m → scatterGet I v old (I k) m = v k := by
  intro m
  induction m with
  | zero => intro _ k hk; exact absurd hk (Nat.not_lt_zero k)
  | succ m ih =>
    intro hinj k hk
    unfold scatterGet
    by_cases h : I m = I k
    · rw [if_pos h, hinj m k (Nat.lt_succ_self m) hk h]
    · rw [if_neg h]
      have hkm : k ≠ m := fun e => h (by rw [e])
      exact ih (fun a b ha hb => hinj a b (Nat.lt_succ_of_lt ha) (Nat.lt_succ_of_lt hb)) k
        (Nat.lt_of_le_of_ne (Nat.le_of_lt_succ hk) hkm)

@[simp] theorem nthN_cons_zero (A : Arr Nat) (L : List (Arr Nat)) : nthN (A :: L) 0 = A := rfl
@[simp] theorem nthN_cons_succ (A : Arr Nat) (L : List (Arr Nat)) (i : Nat) : nthN (A :: L) (i + 1) = nthN L i := rfl

namespace Arr
variable {α : Type} [RealLike α]

@[simp] theorem ofList_r (l : List α) : (ofList l).r = 1 := rfl
@[simp] theorem ofList_c (l : List α) : (ofList l).c = l.length := rfl
@[simp] theorem ofList_ok (l : List α) : (ofList l).ok = true := rfl
@[simp] theorem ofList_get (l : List α) (i j : Nat) : (ofList l).get i j = l.getD j 0 := rfl

@[simp] theorem linspace_r (a b : α) (num : Nat) : (linspace a b num).r = 1 := rfl
@[simp] theorem linspace_c (a b : α) (num : Nat) : (linspace a b num).c = num := rfl
@[simp] theorem linspace_ok (a b : α) (num : Nat) : (linspace a b num).ok = true := rfl
theorem linspace_get (a b : α) (num i j : Nat) :
    (linspace a b num).get i j =
      if num = 1 then nat j * (b - a) + a else if j + 1 = num then b else nat j * ((b - a) / nat (num - 1)) + a := rfl

@[simp] theorem arangeFrom_r (a b : Nat) : (arangeFrom a b : Arr α).r = 1 := rfl
@[simp] theorem arangeFrom_c (a b : Nat) : (arangeFrom a b : Arr α).c = b - a := rfl
@[simp] theorem arangeFrom_ok (a b : Nat) : (arangeFrom a b : Arr α).ok = true := rfl
theorem arangeFrom_get (a b i j : Nat) :
    (arangeFrom a b : Arr α).get i j =
      if j = 0 then nat a else if j = 1 then nat (a + 1) else nat a + nat j * (nat (a + 1) - nat a) := rfl

@[simp] theorem emptyLike_r (v : Arr α) : (emptyLike v).r = v.r := rfl
@[simp] theorem emptyLike_c (v : Arr α) : (emptyLike v).c = v.c := rfl
@[simp] theorem emptyLike_ok (v : Arr α) : (emptyLike v).ok = v.ok := rfl

@[simp] theorem argsort1_r (v : Arr α) : (argsort1 v).r = 1 := rfl
@[simp] theorem argsort1_c (v : Arr α) : (argsort1 v).c = v.c := rfl
@[simp] theorem argsort1_ok (v : Arr α) : (argsort1 v).ok = (v.ok && v.r == 1) := rfl
@[simp] theorem argsort1_get (v : Arr α) (i j : Nat) :
    (argsort1 v).get i j = (argsortBy (fun a b => le (v.get 0 a) (v.get 0 b)) v.c).getD j 0 := rfl

@[simp] theorem take1_r (v : Arr α) (I : Arr Nat) : (take1 v I).r = 1 := rfl
@[simp] theorem take1_c (v : Arr α) (I : Arr Nat) : (take1 v I).c = I.c := rfl
theorem take1_ok (v : Arr α) (I : Arr Nat) :
    (take1 v I).ok = (v.ok && I.ok && v.r == 1 && I.r == 1 && (List.range I.c).all fun j => decide (I.get 0 j < v.c)) := rfl
@[simp] theorem take1_get (v : Arr α) (I : Arr Nat) (i j : Nat) : (take1 v I).get i j = v.get 0 (I.get 0 j) := rfl

@[simp] theorem drop1_r (v : Arr α) (k : Nat) : (drop1 v k).r = 1 := rfl
@[simp] theorem drop1_c (v : Arr α) (k : Nat) : (drop1 v k).c = v.c - k := rfl
@[simp] theorem drop1_ok (v : Arr α) (k : Nat) : (drop1 v k).ok = (v.ok && v.r == 1) := rfl
@[simp] theorem drop1_get (v : Arr α) (k i j : Nat) : (drop1 v k).get i j = v.get 0 (j + k) := rfl

@[simp] theorem dropLast1_r (v : Arr α) (k : Nat) : (dropLast1 v k).r = 1 := rfl
@[simp] theorem dropLast1_c (v : Arr α) (k : Nat) : (dropLast1 v k).c = v.c - k := rfl
@[simp] theorem dropLast1_ok (v : Arr α) (k : Nat) : (dropLast1 v k).ok = (v.ok && v.r == 1) := rfl
@[simp] theorem dropLast1_get (v : Arr α) (k i j : Nat) : (dropLast1 v k).get i j = v.get 0 j := rfl

@[simp] theorem colSlice_r (A : Arr α) (a b : Nat) : (colSlice A a b).r = A.r := rfl
@[simp] theorem colSlice_c (A : Arr α) (a b : Nat) : (colSlice A a b).c = Nat.min b A.c - Nat.min a A.c := rfl
@[simp] theorem colSlice_ok (A : Arr α) (a b : Nat) : (colSlice A a b).ok = A.ok := rfl
@[simp] theorem colSlice_get (A : Arr α) (a b i j : Nat) : (colSlice A a b).get i j = A.get i (a + j) := rfl

@[simp] theorem reduce1_nil (f : Arr α → Arr α → Arr α) : reduce1 f [] = err := rfl
@[simp] theorem reduce1_cons (f : Arr α → Arr α → Arr α) (a : Arr α) (l : List (Arr α)) :
    reduce1 f (a :: l) = l.foldl f a := rfl

end Arr

namespace Arr3
variable {α : Type} [RealLike α]

@[simp] theorem einsumIjIk_d0 (A B : Arr α) : (einsumIjIk A B).d0 = bdim A.r B.r := rfl
@[simp] theorem einsumIjIk_d1 (A B : Arr α) : (einsumIjIk A B).d1 = A.c := rfl
@[simp] theorem einsumIjIk_d2 (A B : Arr α) : (einsumIjIk A B).d2 = B.c := rfl
@[simp] theorem einsumIjIk_ok (A B : Arr α) : (einsumIjIk A B).ok = (A.ok && B.ok && bok A.r B.r) := rfl
@[simp] theorem einsumIjIk_get (A B : Arr α) (i j k : Nat) :
    (einsumIjIk A B).get i j k = A.get (bidx A.r i) j * B.get (bidx B.r i) k := rfl

@[simp] theorem flattenTail_r (T : Arr3 α) : (flattenTail T).r = T.d0 := rfl
@[simp] theorem flattenTail_c (T : Arr3 α) : (flattenTail T).c = T.d1 * T.d2 := rfl
@[simp] theorem flattenTail_ok (T : Arr3 α) : (flattenTail T).ok = (T.ok && T.d1 * T.d2 != 0) := rfl
@[simp] theorem flattenTail_get (T : Arr3 α) (i p : Nat) : (flattenTail T).get i p = T.get i (p / T.d2) (p % T.d2) := rfl

end Arr3

namespace ArrN
variable {α : Type} [RealLike α]

@[simp] theorem reshapeOf_flat (A : Arr α) (axes : List Nat) : (reshapeOf A axes).flat = A := rfl
@[simp] theorem reshapeOf_axes (A : Arr α) (axes : List Nat) : (reshapeOf A axes).axes = axes := rfl
@[simp] theorem reshapeOf_ok (A : Arr α) (axes : List Nat) :
    (reshapeOf A axes).ok = (A.ok && axes.prod == A.c && A.c != 0) := rfl

@[simp] theorem mul_flat_r (S T : ArrN α) : (mul S T).flat.r = S.flat.r := rfl
@[simp] theorem mul_flat_c (S T : ArrN α) : (mul S T).flat.c = S.flat.c := rfl
@[simp] theorem mul_flat_get (S T : ArrN α) (i l : Nat) : (mul S T).flat.get i l = S.flat.get i l * T.flat.get i l := rfl
@[simp] theorem mul_axes (S T : ArrN α) : (mul S T).axes = S.axes := rfl
@[simp] theorem mul_ok (S T : ArrN α) :
    (mul S T).ok = (S.ok && T.ok && S.axes == T.axes && S.flat.r == T.flat.r && S.flat.c == T.flat.c) := rfl

@[simp] theorem sumExcept_r (T : ArrN α) (i : Nat) : (sumExcept T i).r = T.flat.r := rfl
@[simp] theorem sumExcept_c (T : ArrN α) (i : Nat) : (sumExcept T i).c = T.axes.getD i 0 := rfl
@[simp] theorem sumExcept_ok (T : ArrN α) (i : Nat) : (sumExcept T i).ok = (T.ok && decide (i < T.axes.length)) := rfl
@[simp] theorem sumExcept_get (T : ArrN α) (i r j : Nat) :
    (sumExcept T i).get r j = sumTo T.flat.c fun l => if digitN T.axes i l = j then T.flat.get r l else 0 := rfl

end ArrN

def IsVecN (I : Arr Nat) (l : List Nat) : Prop :=
  I.ok = true ∧ I.r = 1 ∧ I.c = l.length ∧ ∀ j, j < l.length → I.get 0 j = l.getD j 0

theorem IsVecN.ok {I : Arr Nat} {l : List Nat} (h : IsVecN I l) : I.ok = true := h.1
theorem IsVecN.r {I : Arr Nat} {l : List Nat} (h : IsVecN I l) : I.r = 1 := h.2.1
theorem IsVecN.c {I : Arr Nat} {l : List Nat} (h : IsVecN I l) : I.c = l.length := h.2.2.1
theorem IsVecN.get {I : Arr Nat} {l : List Nat} (h : IsVecN I l) {j : Nat} (hj : j < l.length) :
    I.get 0 j = l.getD j 0 := h.2.2.2 j hj

namespace Arr
variable {α : Type} [RealLike α]

def IsVec (v : Arr α) (l : List α) : Prop :=
  v.ok = true ∧ v.r = 1 ∧ v.c = l.length ∧ ∀ j, j < l.length → v.get 0 j = l.getD j 0

def IsRows {n : Nat} (A : Arr α) (rows : Fin n → List α) (len : Nat) : Prop :=
  A.ok = true ∧ A.r = n ∧ A.c = len ∧ (∀ i, (rows i).length = len) ∧
    ∀ (i : Fin n) (j : Nat), j < len → A.get i.val j = (rows i).getD j 0

section projections
variable {v A : Arr α} {l : List α} {n len : Nat} {rows : Fin n → List α}

theorem IsVec.ok (h : IsVec v l) : v.ok = true := h.1
theorem IsVec.r (h : IsVec v l) : v.r = 1 := h.2.1
theorem IsVec.c (h : IsVec v l) : v.c = l.length := h.2.2.1
theorem IsVec.get (h : IsVec v l) {j : Nat} (hj : j < l.length) : v.get 0 j = l.getD j 0 := h.2.2.2 j hj

theorem IsRows.ok (h : IsRows A rows len) : A.ok = true := h.1
theorem IsRows.r (h : IsRows A rows len) : A.r = n := h.2.1
theorem IsRows.c (h : IsRows A rows len) : A.c = len := h.2.2.1
theorem IsRows.length (h : IsRows A rows len) (i : Fin n) : (rows i).length = len := h.2.2.2.1 i
theorem IsRows.get (h : IsRows A rows len) (i : Fin n) {j : Nat} (hj : j < len) :
    A.get i.val j = (rows i).getD j 0 := h.2.2.2.2 i j hj

end projections

theorem isVec_ofList (l : List α) : IsVec (ofList l) l := ⟨rfl, rfl, rfl, fun _ _ => rfl⟩

theorem isVec_neg {v : Arr α} {l : List α} (hv : IsVec v l) : IsVec (neg v) (l.map fun x => -x) :=
  ⟨hv.ok, hv.r, by rw [List.length_map]; exact hv.c, fun j hj => by
    rw [List.length_map] at hj
    rw [neg_get, hv.get hj, getD_map_of_lt _ _ 0 0 hj]⟩

/-- `v[I]` for an integer array holding positions of `v`: nothing raises -/
theorem isVec_take1 {v : Arr α} {I : Arr Nat} {l : List α} {σ : List Nat} (hv : IsVec v l) (hI : IsVecN I σ)
    (hσ : ∀ j, j < σ.length → σ.getD j 0 < l.length) : IsVec (take1 v I) (σ.map fun p => l.getD p 0) := by
  refine ⟨?_, rfl, by rw [List.length_map]; exact hI.c, fun j hj => ?_⟩
  · rw [take1_ok]
    simp only [hv.ok, hI.ok, hv.r, hI.r, beq_self_eq_true, Bool.and_true, Bool.true_and, List.all_eq_true, List.mem_range,
      decide_eq_true_eq]
    intro j hj
    rw [hI.c] at hj
    rw [hI.get hj, hv.c]
    exact hσ j hj
  · rw [List.length_map] at hj
    rw [take1_get, hI.get hj, hv.get (hσ j hj), getD_map_of_lt _ _ 0 0 hj]

theorem IsRows.isMat {n len : Nat} {A : Arr α} {rows : Fin n → List α} (h : IsRows A rows len) :
    IsMat A (fun i (j : Fin len) => (rows i).getD j.val 0) :=
  ⟨h.ok, h.r, h.c, fun i j => h.get i j.isLt⟩

theorem IsMat.isRows {n len : Nat} {A : Arr α} {f : Fin n → Fin len → α} (h : IsMat A f) :
    IsRows A (fun i => List.ofFn (f i)) len := by
  refine ⟨h.ok, h.r, h.c, fun i => by simp, fun i j hj => ?_⟩
  rw [h.get i ⟨j, hj⟩, List.getD_eq_getElem _ _ (by simpa using hj)]
  simp

end Arr

theorem insertIdxBy_eq (le : Nat → Nat → Bool) (i : Nat) (l : List Nat) :
    insertIdxBy le i l = l.orderedInsert (fun a b => le a b = true) i := by
  induction l with
  | nil => rfl
  | cons j js ih => simp only [insertIdxBy, List.orderedInsert_cons, ih]

theorem argsortBy_eq (le : Nat → Nat → Bool) (n : Nat) :
    argsortBy le n = (List.range n).insertionSort fun a b => le a b = true := by
  unfold argsortBy
  induction List.range n with
  | nil => rfl
  | cons a l ih => simp only [List.foldr_cons, List.insertionSort_cons, ih, insertIdxBy_eq]

theorem argsortBy_congr {le le' : Nat → Nat → Bool} {n : Nat} (h : ∀ a b, a < n → b < n → le a b = le' a b) :
    argsortBy le n = argsortBy le' n := by
  have := List.map_insertionSort (fun a b => le a b = true) (fun a b => le' a b = true) id (List.range n)
    fun a ha b hb => by rw [h a b (List.mem_range.mp ha) (List.mem_range.mp hb)]; rfl
  rwa [List.map_id, List.map_id, ← argsortBy_eq, ← argsortBy_eq] at this

section pairs
open Model.Douglas
variable {β : Type}

theorem zipIdx_fst_eq_getD (d : β) (l : List β) {p : β × Nat} (hp : p ∈ l.zipIdx) : p.1 = l.getD p.2 d := by
  obtain ⟨x, i⟩ := p
  have h := List.mem_zipIdx' hp
  simp only at h ⊢
  rw [List.getD_eq_getElem _ _ h.1]; exact h.2

theorem isort_zipIdx_snd (cmp : β → β → Bool) (d : β) (l : List β) :
    (isort (fun a b : β × Nat => cmp a.1 b.1) l.zipIdx).map Prod.snd =
      argsortBy (fun a b => cmp (l.getD a d) (l.getD b d)) l.length := by
  rw [Douglas.isort_eq, argsortBy_eq,
    List.map_insertionSort _ (fun a b => cmp (l.getD a d) (l.getD b d) = true) Prod.snd _ fun a ha b hb => by
      rw [zipIdx_fst_eq_getD d l ha, zipIdx_fst_eq_getD d l hb],
    List.zipIdx_map_snd, List.range_eq_range']

end pairs

section douglas
open Model.Douglas
variable {α : Type} [RealLike α]

theorem argsortBy_eq_argsort (cuts : List α) :
    argsortBy (fun a b => le (cuts.getD a 0) (cuts.getD b 0)) cuts.length = argsort cuts :=
  (isort_zipIdx_snd (fun a b : α => le a b) 0 cuts).symm

theorem argsortBy_eq_argsortNat (σ : List Nat) :
    argsortBy (fun a b => decide (σ.getD a 0 ≤ σ.getD b 0)) σ.length = argsortNat σ :=
  (isort_zipIdx_snd (fun a b : Nat => decide (a ≤ b)) 0 σ).symm

theorem cumsumAux_eq_cumsumFrom (acc : α) (L : List α) : cumsumAux acc L = Model.Prox.cumsumFrom acc L := by
  induction L generalizing acc with
  | nil => rfl
  | cons x xs ih => rw [cumsumAux, Model.Prox.cumsumFrom, ih]

/-- `np.cumsum` of the DSL (`cumsumTo`) and of the Douglas model (`cumsum`, which is the one of Model/Prox.lean) perform
    the same additions -/
theorem douglas_cumsum_getD (L : List α) (j : Nat) (hj : j < L.length) :
    (Model.Douglas.cumsum L).getD j 0 = cumsumTo (fun l => L.getD l 0) j := by
  refine Eq.trans ?_ (cumsum_getD L j hj)
  cases L with
  | nil => rfl
  | cons x xs => rw [Model.Douglas.cumsum, Model.Prox.cumsum, cumsumAux_eq_cumsumFrom]

end douglas

attribute [np] errN_ok checkedN_r checkedN_c checkedN_ok checkedN_get argsortN_r argsortN_c argsortN_ok argsortN_get
  emptyLikeN_r emptyLikeN_c emptyLikeN_ok arangeN_r arangeN_c arangeN_ok arangeN_get Arr.setAt_r Arr.setAt_c
  nthN_cons_zero nthN_cons_succ Arr.ofList_r Arr.ofList_c Arr.ofList_ok Arr.ofList_get Arr.linspace_r Arr.linspace_c
  Arr.linspace_ok Arr.arangeFrom_r Arr.arangeFrom_c Arr.arangeFrom_ok Arr.emptyLike_r Arr.emptyLike_c Arr.emptyLike_ok
  Arr.argsort1_r Arr.argsort1_c Arr.argsort1_ok Arr.argsort1_get Arr.take1_r Arr.take1_c Arr.take1_get Arr.drop1_r
  Arr.drop1_c Arr.drop1_ok Arr.drop1_get Arr.dropLast1_r Arr.dropLast1_c Arr.dropLast1_ok Arr.dropLast1_get
  Arr.colSlice_r Arr.colSlice_c Arr.colSlice_ok Arr.colSlice_get Arr.reduce1_nil Arr.reduce1_cons Arr3.einsumIjIk_d0
  Arr3.einsumIjIk_d1 Arr3.einsumIjIk_d2 Arr3.einsumIjIk_ok Arr3.einsumIjIk_get Arr3.flattenTail_r Arr3.flattenTail_c
  Arr3.flattenTail_ok Arr3.flattenTail_get ArrN.reshapeOf_flat ArrN.reshapeOf_axes ArrN.reshapeOf_ok ArrN.mul_flat_r
  ArrN.mul_flat_c ArrN.mul_flat_get ArrN.mul_axes ArrN.mul_ok ArrN.sumExcept_r ArrN.sumExcept_c ArrN.sumExcept_ok
  ArrN.sumExcept_get

end GemVerif.Np
