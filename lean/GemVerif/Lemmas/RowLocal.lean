/-
  `PerRow F g`: row `i` of `F X` is `g (X i)`, whatever the number of rows — the notion behind C18 (predictions are
  per-sample functions of the fitted model) — with one instance per model, for every number type.  Also the
  `selectRows` / `maskAssign` algebra of the recursive, mask-based numpy `Tree.predict`, and `route_fuel_irrelevant`.
-/
import GemVerif.Model.Douglas
import GemVerif.Model.KernelRim
import GemVerif.Model.KauriPredict
import GemVerif.NumReal
import GemVerif.Lemmas.KauriC19

namespace GemVerif.RowLocal
open RealLike Model.Nets Model.KernelRim Model.Kauri

variable {α : Type} [RealLike α]

/-- `softmax(x @ W + b)` for one sample `x` -/
def linearRow {d K : Nat} (x : Fin d → α) (W : Fin d → Fin K → α) (b : Fin K → α) : Fin K → α :=
  softmaxRow fun k => (sumFin fun j => x j * W j k) + b k

/-- `max(x @ W1 + b1, 0)` for one sample -/
def hiddenRow {d h : Nat} (x : Fin d → α) (W1 : Fin d → Fin h → α) (b1 : Fin h → α) : Fin h → α :=
  fun j => max ((sumFin fun a => x a * W1 a j) + b1 j) 0

/-- `MLPModel._infer` for one sample -/
def mlpRow {d h K : Nat} (x : Fin d → α) (W1 : Fin d → Fin h → α) (b1 : Fin h → α)
    (W2 : Fin h → Fin K → α) (b2 : Fin K → α) : Fin K → α :=
  softmaxRow fun k => (sumFin fun j => hiddenRow x W1 b1 j * W2 j k) + b2 k

/-- `SparseMLPModel._infer` for one sample -/
def sparseMlpRow {d h K : Nat} (x : Fin d → α) (W1 : Fin d → Fin h → α) (b1 : Fin h → α)
    (W2 : Fin h → Fin K → α) (b2 : Fin K → α) (Ws : Fin d → Fin K → α) : Fin K → α :=
  softmaxRow fun k => ((sumFin fun j => hiddenRow x W1 b1 j * W2 j k) + b2 k) + sumFin fun j => x j * Ws j k

/-- `KernelRIM.predict_proba` for one sample: its kernel row against the stored training points, then the linear model -/
def kernelRimRow {n d K : Nat} (pairwise : (Fin d → α) → (Fin d → α) → α) (x : Fin d → α)
    (Xtrain : Fin n → Fin d → α) (W : Fin n → Fin K → α) (b : Fin K → α) : Fin K → α :=
  linearRow (fun j => pairwise x (Xtrain j)) W b

/-- `F` computes row `i` of its result from row `i` of the data alone, through `g` — whatever the number of rows -/
structure PerRow {ρ β : Type} (F : (n : Nat) → (Fin n → ρ) → Fin n → β) (g : ρ → β) : Prop where
  row : ∀ {n : Nat} (X : Fin n → ρ) (i : Fin n), F n X i = g (X i)

namespace PerRow
variable {ρ β γ : Type} {F : (n : Nat) → (Fin n → ρ) → Fin n → β} {g : ρ → β}

theorem index_map (h : PerRow F g) {m n : Nat} (σ : Fin m → Fin n) (X : Fin n → ρ) :
    F m (fun i => X (σ i)) = fun i => F n X (σ i) := by
  funext i
  rw [h.row, h.row]

theorem same_row (h : PerRow F g) {n n' : Nat} (X : Fin n → ρ) (Y : Fin n' → ρ) (i : Fin n) (j : Fin n')
    (hij : X i = Y j) : F n X i = F n' Y j := by
  rw [h.row, h.row, hij]

/-- a per-row post-processing (`argmax(axis=1)`) keeps the property -/
theorem comp (h : PerRow F g) (k : β → γ) : PerRow (fun n X i => k (F n X i)) (k ∘ g) :=
  ⟨fun X i => congrArg k (h.row X i)⟩

end PerRow

theorem perRow_linear {d K : Nat} (W : Fin d → Fin K → α) (b : Fin K → α) :
    PerRow (fun _ X => linearInfer X W b) (fun x => linearRow x W b) :=
  ⟨fun _ _ => rfl⟩

theorem perRow_mlp {d h K : Nat} (W1 : Fin d → Fin h → α) (b1 : Fin h → α) (W2 : Fin h → Fin K → α) (b2 : Fin K → α) :
    PerRow (fun _ X => mlpInfer X W1 b1 W2 b2) (fun x => mlpRow x W1 b1 W2 b2) := by
  refine ⟨fun X i => ?_⟩
  simp only [mlpInfer, mlpRow, hiddenRow]
  congr 1
  funext k
  simp only [affine, Model.Nets.hidden, tab2_get]

theorem perRow_sparseMlp {d h K : Nat} (W1 : Fin d → Fin h → α) (b1 : Fin h → α) (W2 : Fin h → Fin K → α)
    (b2 : Fin K → α) (Ws : Fin d → Fin K → α) :
    PerRow (fun _ X => sparseMlpInfer X W1 b1 W2 b2 Ws) (fun x => sparseMlpRow x W1 b1 W2 b2 Ws) := by
  refine ⟨fun X i => ?_⟩
  simp only [sparseMlpInfer, sparseMlpRow, hiddenRow, affine, Model.Nets.hidden, tab2_apply]

theorem perRow_douglas {d L K : Nat} (T : α) (cl : List (Nat × List α)) (S : Fin L → Fin K → α) :
    PerRow (fun _ (X : Fin _ → Fin d → α) => Model.Douglas.infer T X cl S) (fun x => Model.Douglas.inferRow T x cl S) :=
  ⟨fun _ _ => rfl⟩

theorem perRow_kernelRim {n d K : Nat} (pairwise : (Fin d → α) → (Fin d → α) → α) (Xtrain : Fin n → Fin d → α)
    (W : Fin n → Fin K → α) (b : Fin K → α) :
    PerRow (fun _ Xnew => kernelRimInfer pairwise Xnew Xtrain W b) (fun x => kernelRimRow pairwise x Xtrain W b) :=
  ⟨fun _ _ => rfl⟩

theorem selectRows_cons {β : Type} (x : β) (xs : List β) (m : Bool) (ms : List Bool) :
    selectRows (x :: xs) (m :: ms) = if m then x :: selectRows xs ms else selectRows xs ms := rfl

theorem maskAssign_cons_true (p : Int) (ps : List Int) (ms : List Bool) (v : Int) (vs : List Int) :
    maskAssign (p :: ps) (true :: ms) (v :: vs) = (maskAssign ps ms vs).map (v :: ·) := rfl

theorem maskAssign_cons_false (p : Int) (ps : List Int) (ms : List Bool) (vals : List Int) :
    maskAssign (p :: ps) (false :: ms) vals = (maskAssign ps ms vals).map (p :: ·) := rfl

/-- numpy's `predictions[mask] = f(X[mask])` for a mask computed row by row -/
theorem maskAssign_select {β : Type} (X : List β) (p : β → Bool) (f h : β → Int) :
    maskAssign (X.map h) (X.map p) ((selectRows X (X.map p)).map f)
      = some (X.map fun x => if p x then f x else h x) := by
  induction X with
  | nil => rfl
  | cons x xs ih =>
    simp only [List.map_cons, selectRows_cons]
    cases p x
    · rw [if_neg Bool.false_ne_true, maskAssign_cons_false, ih, if_neg Bool.false_ne_true]
      rfl
    · rw [if_pos rfl, List.map_cons, maskAssign_cons_true, ih, if_pos rfl]
      rfl

theorem length_selectRows_le {β : Type} (X : List β) (m : List Bool) : (selectRows X m).length ≤ X.length := by
  induction X generalizing m with
  | nil => cases m <;> simp [selectRows]
  | cons x xs ih =>
    cases m with
    | nil => simp [selectRows]
    | cons b ms =>
      cases b
      · simp only [selectRows, Bool.false_eq_true, if_false, List.length_cons]
        exact Nat.le_succ_of_le (ih ms)
      · simp only [selectRows, if_true, List.length_cons]
        exact Nat.succ_le_succ (ih ms)

omit [RealLike α] in
/-- a node index of the tree passes the range check of `Tree.predict` -/
theorem predictMask_range {t : Model.Kauri.Tree α} {node : Nat} (hn : node < t.nNodes) :
    ((node : Int) < 0 || (node : Int) > (t.nNodes : Int)) = false := by
  simp only [Bool.or_eq_false_iff, decide_eq_false_iff_not]
  omega

/-- `Tree.predict(X, node)` at a leaf: `target[node] * np.ones(len(X))` -/
theorem predictMask_leaf {t : Model.Kauri.Tree α} (hs : KauriC09.Sized t) (fuel : Nat) {node : Nat}
    (hn : node < t.nNodes) (hl : t.left[node]! = -1) (X : List (Nat → α)) :
    t.predictMask (fuel + 1) (node : Int) X = some (List.replicate X.length (t.target[node]!)) := by
  simp only [Tree.predictMask, predictMask_range hn, Bool.false_eq_true, if_false, Int.toNat_natCast,
    KauriC09.getElem?_of_lt t.left node (hs.left ▸ hn), hl, beq_self_eq_true, if_true,
    KauriC09.getElem?_of_lt t.target node (hs.target ▸ hn), Option.map_some]

/-- `Tree.predict(X, node)` at an internal node with feature `f ≥ 0` and threshold `th`, once the two recursive calls
    on `X[X_left]` and `X[~X_left]` have answered `pl` and `pr`: the two mask assignments -/
theorem predictMask_node {t : Model.Kauri.Tree α} (hs : KauriC09.Sized t) (fuel : Nat) {node : Nat}
    (hn : node < t.nNodes) (hl : t.left[node]! ≠ -1) {f : Int} {th : α} (hf : t.feat[node]! = some f) (hf0 : 0 ≤ f)
    (hth : t.thr[node]! = some th) (X : List (Nat → α)) {pl pr : List Int}
    (hL : t.predictMask fuel (t.left[node]!) (selectRows X (X.map fun x => le (x f.toNat) th)) = some pl)
    (hR : t.predictMask fuel (t.right[node]!) (selectRows X ((X.map fun x => le (x f.toNat) th).map not)) = some pr) :
    t.predictMask (fuel + 1) (node : Int) X =
      (maskAssign (List.replicate X.length 0) (X.map fun x => le (x f.toNat) th) pl).bind fun p =>
        maskAssign p ((X.map fun x => le (x f.toNat) th).map not) pr := by
  have hlb : (t.left[node]! == -1) = false := by simpa using hl
  simp only [Tree.predictMask, predictMask_range hn, Bool.false_eq_true, if_false, Int.toNat_natCast,
    KauriC09.getElem?_of_lt t.left node (hs.left ▸ hn), hlb, KauriC09.getElem?_of_lt t.feat node (hs.feat ▸ hn),
    KauriC09.getElem?_of_lt t.thr node (hs.thr ▸ hn), KauriC09.getElem?_of_lt t.right node (hs.right ▸ hn), hf, hth,
    Int.not_lt.2 hf0, hL, hR]

/-- Python's recursion has no budget: on a well-formed tree the model's budget does not matter once it covers the
    nodes below `node` (children are numbered after their parent). -/
theorem route_fuel_irrelevant {t : Model.Kauri.Tree α} (ht : KauriC19.WellFormed t) (x : Nat → α) :
    ∀ (fuel node : Nat), node < t.nNodes → t.nNodes ≤ fuel + node → ∀ fuel', t.nNodes ≤ fuel' + node →
      t.route x fuel node = t.route x fuel' node := by
  refine ht.fuel_induction ?_ ?_
  · intro fuel node _ hl fuel' _
    rw [KauriC09.route_leaf t x _ node hl, KauriC09.route_leaf t x _ node hl]
  · intro fuel node hn hl hi ihL ihR fuel' hk'
    obtain ⟨fuel', rfl⟩ : ∃ g, fuel' = g + 1 := ⟨fuel' - 1, by omega⟩
    have hL := hi.left_toNat
    have hR := hi.right_toNat
    obtain ⟨th, hth⟩ := Option.isSome_iff_exists.mp hi.thr_some
    rw [KauriC09.route_node x fuel hl hth, KauriC09.route_node x fuel' hl hth, ihL fuel' (by omega),
      ihR fuel' (by omega)]

end GemVerif.RowLocal
