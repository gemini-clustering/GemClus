/-
  C07 — `Model/Path.lean`: what a run of the outer loop appends to the histories is one structure (`Appended`), built in two
  ways (no step completed; one more step at the front), proved for every run by one induction on the trace
  (`outerLoop_spec`) and read off for `_path` (`runPath_appended`); the argument block `normalise`, one equation per
  argument and per warning.  Generic in the number type up to the last section.
-/
import GemVerif.NumReal
import GemVerif.Model.Path
import GemVerif.Lemmas.Fold

namespace GemVerif.Model.Path

variable {α : Type} [RealLike α] {ω : Type}

/-- What the inner loop returns.  It asks for more observations only if fewer than `max_iter` were recorded for the
    step.  A finished loop ran some number `k` of epochs, one observation each: the counter moved from `i0` to `i0 + k`
    without passing `max_iter`, and `last` is the `k`-th observation (the inherited value when `k = 0`). -/
theorem innerLoop_spec (maxIter : Nat) (maxPat : Int) (esf alpha : α) (eps : List (Epoch α)) :
    ∀ (i0 : Nat) (pat : Int) (vs vl : α) (last0 : Option (Epoch α)),
      (innerLoop maxIter maxPat esf alpha i0 pat vs vl last0 eps = .exhausted → i0 + eps.length < maxIter) ∧
      ∀ i last, innerLoop maxIter maxPat esf alpha i0 pat vs vl last0 eps = .done i last →
        ∃ k, k ≤ eps.length ∧ i = i0 + k ∧ (i0 ≤ maxIter → i ≤ maxIter) ∧
          ((k = 0 ∧ last = last0) ∨ ∃ k' e, k = k' + 1 ∧ eps[k']? = some e ∧ last = some e) := by
  induction eps with
  | nil =>
    intro i0 pat vs vl last0
    unfold innerLoop
    by_cases hc : i0 < maxIter ∧ pat < maxPat
    · rw [if_pos hc]; exact ⟨fun _ => hc.1, nofun⟩
    · rw [if_neg hc]; exact ⟨nofun, fun i last h => by cases h; exact ⟨0, Nat.zero_le _, rfl, id, Or.inl ⟨rfl, rfl⟩⟩⟩
  | cons e rest ih =>
    intro i0 pat vs vl last0
    unfold innerLoop
    by_cases hc : i0 < maxIter ∧ pat < maxPat
    · rw [if_pos hc]
      refine ⟨fun h => ?_, fun i last h => ?_⟩
      · have := (ih _ _ _ _ _).1 h
        rw [List.length_cons]; omega
      · obtain ⟨k, hk, hi, hmax, hlast⟩ := (ih _ _ _ _ _).2 i last h
        refine ⟨k + 1, Nat.succ_le_succ hk, by rw [hi, Nat.add_assoc, Nat.add_comm 1], fun _ => hmax hc.1, Or.inr ?_⟩
        rcases hlast with ⟨rfl, hl⟩ | ⟨k', e', rfl, he', hl⟩
        · exact ⟨0, e, rfl, rfl, hl⟩
        · exact ⟨k' + 1, e', rfl, he', hl⟩
    · rw [if_neg hc]; exact ⟨nofun, fun i last h => by cases h; exact ⟨0, Nat.zero_le _, rfl, id, Or.inl ⟨rfl, rfl⟩⟩⟩

/-! ### specification-side definitions -/

/-- `[a, a*m, (a*m)*m, …]` (`T` entries): repeated multiplication, exactly as `alpha *= alpha_multiplier` computes it -/
def geomList (a m : α) : Nat → List α
  | 0 => []
  | T + 1 => a :: geomList (a * m) m T

/-- entry `t` is `a` multiplied `t` times by `m` -/
theorem geomList_eq_map (a m : α) (T : Nat) : geomList a m T = (List.range T).map fun t => (· * m)^[t] a := by
  induction T generalizing a with
  | zero => rfl
  | succ T ih => rw [geomList, ih, List.range_succ_eq_map, List.map_cons, List.map_map]; rfl

theorem geomList_length (a m : α) (T : Nat) : (geomList a m T).length = T := by
  rw [geomList_eq_map, List.length_map, List.length_range]

theorem geomList_snoc (a m : α) (T : Nat) :
    ∃ b, geomList a m (T + 1) = geomList a m T ++ [b] ∧ (T = 0 → b = a) ∧
      (∀ l x, geomList a m T = l ++ [x] → b = x * m) := by
  refine ⟨(· * m)^[T] a, ?_, fun h => by rw [h]; rfl, fun l x h => ?_⟩
  · rw [geomList_eq_map, geomList_eq_map, List.range_succ, List.map_append]; rfl
  · cases T with
    | zero => cases l <;> cases h
    | succ T =>
      -- `x` is the last entry of `geomList a m (T + 1)`, the `T`-fold product
      rw [geomList_eq_map, List.range_succ, List.map_append] at h
      obtain rfl := List.singleton_inj.mp (List.append_inj' h rfl).2
      exact Function.iterate_succ_apply' _ _ _

/-- the running best score: `B ← score` whenever `score ≥ B` and all `d` features are still selected -/
def runBest (d : Nat) (B0 : α) (cs : List (α × Nat × ω)) : α :=
  cs.foldl (fun B c => newBest d B c.1 c.2.1) B0

theorem runBest_cons (d : Nat) (B0 : α) (c : α × Nat × ω) (cs : List (α × Nat × ω)) :
    runBest d B0 (c :: cs) = runBest d (newBest d B0 c.1 c.2.1) cs := rfl

theorem runBest_append (d : Nat) (B0 : α) (cs cs' : List (α × Nat × ω)) :
    runBest d B0 (cs ++ cs') = runBest d (runBest d B0 cs) cs' := by
  unfold runBest; rw [List.foldl_append]

/-- step `c`, coming after the completed steps `pre`, is accepted: `score_c ≥ keep_threshold · B` with `B` the running
    best over the initial fit, `pre` and `c` itself -/
def accepts (thr : α) (d : Nat) (B0 : α) (pre : List (α × Nat × ω)) (c : α × Nat × ω) : Bool :=
  keeps thr (runBest d B0 (pre ++ [c])) c.1

/-- `W` is the weights of the last accepted step of `cs`, and `W0` (the initial-fit snapshot) if no step is accepted -/
def LastAccepted (thr : α) (d : Nat) (B0 : α) (W0 : ω) (cs : List (α × Nat × ω)) (W : ω) : Prop :=
  (W = W0 ∧ ∀ pre c post, cs = pre ++ c :: post → accepts thr d B0 pre c = false) ∨
  (∃ pre c post, cs = pre ++ c :: post ∧ accepts thr d B0 pre c = true ∧
    (∀ pre' c' post', post = pre' ++ c' :: post' → accepts thr d B0 (pre ++ c :: pre') c' = false) ∧ W = c.2.2)

theorem accepts_cons (thr : α) (d : Nat) (B0 : α) (c0 : α × Nat × ω) (pre : List (α × Nat × ω)) (c : α × Nat × ω) :
    accepts thr d B0 (c0 :: pre) c = accepts thr d (newBest d B0 c0.1 c0.2.1) pre c := rfl

theorem lastAccepted_nil (thr : α) (d : Nat) (B0 : α) (W0 : ω) : LastAccepted thr d B0 W0 [] W0 :=
  Or.inl ⟨rfl, fun pre c post h => by cases pre <;> simp at h⟩

/-- one more step at the front: the code's update of `(best_gemini_score, best_weights)` by step `c0`, followed by the
    rule on the remaining steps, is the rule on `c0 :: cs` -/
theorem lastAccepted_cons (thr : α) (d : Nat) (B0 : α) (W0 : ω) (c0 : α × Nat × ω) (cs : List (α × Nat × ω)) (W : ω)
    (h : LastAccepted thr d (newBest d B0 c0.1 c0.2.1)
          (if keeps thr (newBest d B0 c0.1 c0.2.1) c0.1 then c0.2.2 else W0) cs W) :
    LastAccepted thr d B0 W0 (c0 :: cs) W := by
  have hacc0 : accepts thr d B0 [] c0 = keeps thr (newBest d B0 c0.1 c0.2.1) c0.1 := rfl
  rcases h with ⟨hW, hnone⟩ | ⟨pre, c, post, hcs, hacc, hlater, hW⟩
  · by_cases hk : keeps thr (newBest d B0 c0.1 c0.2.1) c0.1 = true
    · rw [if_pos hk] at hW
      refine Or.inr ⟨[], c0, cs, rfl, by rw [hacc0]; exact hk, ?_, hW⟩
      intro pre' c' post' hp
      rw [List.nil_append, accepts_cons]
      exact hnone pre' c' post' hp
    · rw [if_neg hk] at hW
      refine Or.inl ⟨hW, ?_⟩
      intro pre c post hp
      cases pre with
      | nil =>
        simp only [List.nil_append, List.cons.injEq] at hp
        rw [← hp.1, hacc0]; simpa using hk
      | cons x pre' =>
        simp only [List.cons_append, List.cons.injEq] at hp
        rw [← hp.1, accepts_cons]
        exact hnone pre' c post hp.2
  · refine Or.inr ⟨c0 :: pre, c, post, by rw [hcs]; rfl, by rw [accepts_cons]; exact hacc, ?_, hW⟩
    intro pre' c' post' hp
    rw [List.cons_append, accepts_cons]
    exact hlater pre' c' post' hp

theorem stepInner_le {c : Cfg α} {st : PState α ω} {s : StepObs α ω} {i : Nat} {last : Option (Epoch α)}
    (h : stepInner c st s = .done i last) : i ≤ c.maxIter := by
  obtain ⟨_, _, _, hmax, _⟩ := (innerLoop_spec _ _ _ _ _ _ _ _ _ _).2 _ _ h
  exact hmax (Nat.zero_le _)

theorem forall_mem_snoc {m i : Nat} (hi : i ≤ m) {l : List Nat} (hl : ∀ k ∈ l, k ≤ m) : ∀ k ∈ l ++ [i], k ≤ m :=
  fun k hk => (List.mem_append.mp hk).elim (hl k) fun h => List.mem_singleton.mp h ▸ hi

/-- the completed steps: (score, selected count, weights) -/
def completed (g : List α) (n : List Nat) (w : List ω) : List (α × Nat × ω) := List.zip g (List.zip n w)

omit [RealLike α] in
theorem completed_cons (g : List α) (n : List Nat) (w : List ω) (x : α) (y : Nat) (z : ω) :
    completed (x :: g) (y :: n) (z :: w) = (x, y, z) :: completed g n w := rfl

/-- What a run of the outer loop that starts in `st` (with `nSel` features selected and the trace `steps` ahead) and
    ends in `r` has done: it completed the steps `steps[0..T)` with scores `scores`.  The four histories (and the ghost
    history of weights) grew by exactly these steps, with the geometric alphas; the final best score and best weights
    follow the rule on them; the exit kind says how the loop was left. -/
structure Appended (c : Cfg α) (st : PState α ω) (nSel : Nat) (steps : List (StepObs α ω)) (r : PathResult α ω)
    (T : Nat) (scores : List α) : Prop where
  le : T ≤ steps.length
  scores_length : scores.length = T
  alphas : r.alphas = st.alphas ++ geomList st.alpha c.mult T
  nFeatures : r.nFeatures = st.nFeatures ++ (steps.take T).map (·.nSel)
  penalties : r.penalties = st.penalties ++ (steps.take T).map (·.penalty)
  weightsHist : r.weightsHist = st.weightsHist ++ (steps.take T).map (·.weights)
  geminis : r.geminis = st.geminis ++ scores
  best : r.best = runBest c.d st.best (completed scores ((steps.take T).map (·.nSel)) ((steps.take T).map (·.weights)))
  bestWeights : LastAccepted c.keep c.d st.best st.bestW
    (completed scores ((steps.take T).map (·.nSel)) ((steps.take T).map (·.weights))) r.bestWeights
  normal : r.exit = .normal → r.epochsRun.length = st.epochsRun.length + T ∧
    ((((steps.take T).map (·.nSel)).getLast?.getD nSel : Nat) : Int) ≤ c.minFeatures
  nanAbort : r.exit = .nanAbort → r.epochsRun.length = st.epochsRun.length + T + 1 ∧
    ∃ s e, steps[T]? = some s ∧ e ∈ s.epochs ∧ e.isNaN = true ∧ r.curW = s.weights
  needMoreSteps : r.exit = .needMoreSteps → T = steps.length ∧
    ((((steps.take T).map (·.nSel)).getLast?.getD nSel : Nat) : Int) > c.minFeatures
  /-- the loop asks for steps beyond the trace only if its test never failed within it -/
  noDrop : r.exit = .needMoreSteps → (nSel : Int) > c.minFeatures ∧ ∀ s ∈ steps, (s.nSel : Int) > c.minFeatures
  /-- every started step ran at most `max_iter` epochs -/
  epochs_le : (∀ i ∈ st.epochsRun, i ≤ c.maxIter) → ∀ i ∈ r.epochsRun, i ≤ c.maxIter

/-- a run that completes no step: whatever it does to `clf.alpha`, the estimator's weights, the epoch counts and the
    inherited score, the histories, the best score and the best weights are those of `st` -/
theorem Appended.zero (c : Cfg α) (st : PState α ω) (nSel : Nat) (steps : List (StepObs α ω)) (a : α) (w : ω)
    (er : List Nat) (l : Option (Epoch α)) (x : Exit)
    (hn : x = .normal → er.length = st.epochsRun.length ∧ (nSel : Int) ≤ c.minFeatures)
    (ha : x = .nanAbort → er.length = st.epochsRun.length + 1 ∧
      ∃ s e, steps[0]? = some s ∧ e ∈ s.epochs ∧ e.isNaN = true ∧ w = s.weights)
    (hm : x = .needMoreSteps → 0 = steps.length ∧ (nSel : Int) > c.minFeatures)
    (he : (∀ i ∈ st.epochsRun, i ≤ c.maxIter) → ∀ i ∈ er, i ≤ c.maxIter) :
    Appended c st nSel steps (finish { st with clfAlpha := a, curW := w, epochsRun := er, last := l } x) 0 [] where
  le := Nat.zero_le _
  scores_length := rfl
  alphas := (List.append_nil _).symm
  nFeatures := (List.append_nil _).symm
  penalties := (List.append_nil _).symm
  weightsHist := (List.append_nil _).symm
  geminis := (List.append_nil _).symm
  best := rfl
  bestWeights := lastAccepted_nil _ _ _ _
  normal := hn
  nanAbort := ha
  needMoreSteps := hm
  noDrop := fun hx => ⟨(hm hx).2, fun s hs => by rw [List.eq_nil_of_length_eq_zero (hm hx).1.symm] at hs; cases hs⟩
  epochs_le := he

/-- one more completed step at the front: step `s`, run for `i` epochs ending with `e`, then the rest of the run -/
theorem Appended.step {c : Cfg α} {st : PState α ω} {nSel : Nat} {s : StepObs α ω} {rest : List (StepObs α ω)}
    {i : Nat} {e : Epoch α} {r : PathResult α ω} {T : Nat} {scores : List α} (h : (nSel : Int) > c.minFeatures)
    (hin : stepInner c st s = .done i (some e)) (A : Appended c (advance c st s i e) s.nSel rest r T scores) :
    Appended c st nSel (s :: rest) r (T + 1) (e.score :: scores) := by
  have hep : (advance c st s i e).epochsRun.length = st.epochsRun.length + 1 := List.length_append
  have hcount : ((List.take (T + 1) (s :: rest)).map (·.nSel)).getLast?.getD nSel
      = ((List.take T rest).map (·.nSel)).getLast?.getD s.nSel := by
    rw [List.take_succ_cons, List.map_cons, List.getLast?_cons, Option.getD_some]
  exact {
    le := Nat.succ_le_succ A.le
    scores_length := congrArg Nat.succ A.scores_length
    alphas := A.alphas.trans (List.append_assoc _ _ _)
    nFeatures := A.nFeatures.trans (List.append_assoc _ _ _)
    penalties := A.penalties.trans (List.append_assoc _ _ _)
    weightsHist := A.weightsHist.trans (List.append_assoc _ _ _)
    geminis := A.geminis.trans (List.append_assoc _ _ _)
    best := A.best
    bestWeights := lastAccepted_cons _ _ _ _ (e.score, s.nSel, s.weights) _ _ A.bestWeights
    normal := fun hx =>
      ⟨by rw [(A.normal hx).1, hep, Nat.add_assoc, Nat.add_comm 1], by rw [hcount]; exact (A.normal hx).2⟩
    nanAbort := fun hx => ⟨by rw [(A.nanAbort hx).1, hep, Nat.add_assoc _ 1, Nat.add_comm 1], (A.nanAbort hx).2⟩
    needMoreSteps := fun hx =>
      ⟨congrArg Nat.succ (A.needMoreSteps hx).1, by rw [hcount]; exact (A.needMoreSteps hx).2⟩
    noDrop := fun hx => ⟨h, List.forall_mem_cons.mpr (A.noDrop hx)⟩
    epochs_le := fun h0 => A.epochs_le (forall_mem_snoc (stepInner_le hin) h0) }

/-- Every run of the outer loop is an `Appended`, by induction on the trace along the branches of the loop body.
    `hlast`: the inherited `iteration_gemini_score` (Python scoping) is never NaN — it comes from a completed step. -/
theorem outerLoop_spec (c : Cfg α) (steps : List (StepObs α ω)) :
    ∀ (st : PState α ω) (nSel : Nat), (∀ e, st.last = some e → e.isNaN = false) →
      ∃ (T : Nat) (scores : List α), Appended c st nSel steps (outerLoop c st nSel steps) T scores := by
  have stop : ∀ (steps : List (StepObs α ω)) (st : PState α ω) (nSel : Nat), ¬ ((nSel : Int) > c.minFeatures) →
      ∃ (T : Nat) (scores : List α), Appended c st nSel steps (finish st .normal) T scores := fun steps st nSel h =>
    ⟨0, [], Appended.zero c st nSel steps st.clfAlpha st.curW st.epochsRun st.last .normal
      (fun _ => ⟨rfl, not_lt.mp h⟩) (fun hx => nomatch hx) (fun hx => nomatch hx) id⟩
  induction steps with
  | nil =>
    intro st nSel _
    unfold outerLoop
    by_cases h : (nSel : Int) > c.minFeatures
    · rw [if_pos h]
      exact ⟨0, [], Appended.zero c st nSel [] st.clfAlpha st.curW st.epochsRun st.last .needMoreSteps
        (fun hx => nomatch hx) (fun hx => nomatch hx) (fun _ => ⟨rfl, h⟩) id⟩
    · rw [if_neg h]; exact stop [] st nSel h
  | cons s rest ih =>
    intro st nSel hlast
    unfold outerLoop
    by_cases h : (nSel : Int) > c.minFeatures
    · rw [if_pos h]
      cases hin : stepInner c st s with
      | exhausted =>
        exact ⟨0, [], Appended.zero c st nSel (s :: rest) st.alpha st.curW st.epochsRun st.last .needMoreEpochs
          (fun hx => nomatch hx) (fun hx => nomatch hx) (fun hx => nomatch hx) id⟩
      | done i last =>
        cases last with
        | none =>
          exact ⟨0, [], Appended.zero c st nSel (s :: rest) st.alpha s.weights (st.epochsRun ++ [i]) none
            .unboundScore (fun hx => nomatch hx) (fun hx => nomatch hx) (fun hx => nomatch hx)
            (forall_mem_snoc (stepInner_le hin))⟩
        | some e =>
          by_cases hn : e.isNaN = true
          · simp only [hn, if_true]
            refine ⟨0, [], Appended.zero c st nSel (s :: rest) st.alpha s.weights (st.epochsRun ++ [i]) (some e)
              .nanAbort (fun hx => nomatch hx) (fun _ => ⟨List.length_append, s, e, rfl, ?_, hn, rfl⟩)
              (fun hx => nomatch hx) (forall_mem_snoc (stepInner_le hin))⟩
            -- the NaN epoch is one of the step's observed epochs (an inherited value is never NaN)
            obtain ⟨_, _, _, _, h4⟩ := (innerLoop_spec _ _ _ _ _ _ _ _ _ _).2 _ _ hin
            rcases h4 with ⟨_, hl⟩ | ⟨_, e', _, he', hl⟩
            · exact absurd hn (by rw [hlast e hl.symm]; exact Bool.false_ne_true)
            · exact Option.some.inj hl ▸ List.mem_of_getElem? he'
          · have hn : e.isNaN = false := Bool.eq_false_iff.mpr hn
            simp only [hn, Bool.false_eq_true, if_false]
            obtain ⟨T, scores, A⟩ := ih (advance c st s i e) s.nSel (fun e' he' => Option.some.inj he' ▸ hn)
            exact ⟨T + 1, e.score :: scores, A.step h hin⟩
    · rw [if_neg h]; exact stop (s :: rest) st nSel h

omit [RealLike α] in
theorem restoreAlpha_eq (a : α) (r : PathResult α ω) :
    restoreAlpha a r = { r with clfAlpha := (restoreAlpha a r).clfAlpha } := by
  unfold restoreAlpha; split <;> rfl

omit [RealLike α] in
theorem restoreAlpha_exit (a : α) (r : PathResult α ω) : (restoreAlpha a r).exit = r.exit := by rw [restoreAlpha_eq]

omit [RealLike α] in
theorem restoreAlpha_clfAlpha (a : α) (r : PathResult α ω)
    (h : r.exit = .normal ∨ r.exit = .nanAbort ∨ r.exit = .unboundScore) : (restoreAlpha a r).clfAlpha = a := by
  unfold restoreAlpha
  rcases h with h | h | h <;> rw [h]

theorem Appended.restoreAlpha {c : Cfg α} {st : PState α ω} {nSel : Nat} {steps : List (StepObs α ω)}
    {r : PathResult α ω} {T : Nat} {scores : List α} (h : Appended c st nSel steps r T scores) (a : α) :
    Appended c st nSel steps (restoreAlpha a r) T scores := by
  -- no field of `Appended` reads `clfAlpha`
  rw [restoreAlpha_eq]
  exact { h with }

/-- `_path` from its entry state: the number of completed steps is the length of the returned `alphas`, their scores
    are the returned `geminis` -/
theorem runPath_appended (alpha0 : α) (maxIter d : Nat) (args : PathArgs α) (tr : Trace α ω) :
    Appended (cfgOf maxIter d (normalise args d).1) (initState alpha0 tr) tr.initNSel tr.steps
      (runPath alpha0 maxIter d args tr).1 (runPath alpha0 maxIter d args tr).1.alphas.length
      (runPath alpha0 maxIter d args tr).1.geminis := by
  obtain ⟨T, scores, h⟩ := outerLoop_spec (cfgOf maxIter d (normalise args d).1) tr.steps (initState alpha0 tr)
    tr.initNSel (fun e he => nomatch he)
  have h' := h.restoreAlpha alpha0
  have hT : (runPath alpha0 maxIter d args tr).1.alphas.length = T :=
    (congrArg List.length h'.alphas).trans (geomList_length _ _ _)
  have hs : (runPath alpha0 maxIter d args tr).1.geminis = scores := h'.geminis
  rw [hT, hs]
  exact h'

theorem runBest_append_not_full (d : Nat) (B0 : α) (pre post : List (α × Nat × ω))
    (h : ∀ c ∈ post, c.2.1 ≠ d) : runBest d B0 (pre ++ post) = runBest d B0 pre := by
  rw [runBest_append]
  refine foldl_induction _ (· = runBest d B0 pre) post (fun B c hc hB => ?_) _ rfl
  have : (c.2.1 == d) = false := by simpa using h c hc
  rw [hB]
  unfold newBest
  rw [this, Bool.and_false]; rfl

/-! ### the argument block `normalise`, component by component -/

theorem normalise_minFeatures (a : PathArgs α) (d : Nat) :
    (normalise a d).1.minFeatures = if a.minFeatures ≤ 0 then defaultMinFeatures else a.minFeatures :=
  if_congr decide_eq_true_iff rfl rfl

theorem normalise_warns_minFeatures (a : PathArgs α) (d : Nat) :
    (normalise a d).2.minFeatures = true ↔ a.minFeatures ≤ 0 := decide_eq_true_iff

theorem normalise_warns_minFeaturesGe (a : PathArgs α) (d : Nat) :
    (normalise a d).2.minFeaturesGe = true ↔ 0 < a.minFeatures ∧ (d : Int) ≤ a.minFeatures := by
  show (!decide (a.minFeatures ≤ 0) && decide (a.minFeatures ≥ (d : Int))) = true ↔ _
  rw [Bool.and_eq_true, Bool.not_eq_true', decide_eq_false_iff_not, decide_eq_true_iff, Int.not_le]

/-! ### over the reals -/

theorem defaultMultiplier_real : (defaultMultiplier : ℝ) = 1.05 := by
  simp only [defaultMultiplier, RealLike.nat_real]; norm_num

theorem defaultKeep_real : (defaultKeep : ℝ) = 0.9 := by
  simp only [defaultKeep, RealLike.nat_real]; norm_num

theorem normalise_warns_multiplier (a : PathArgs ℝ) (d : Nat) :
    (normalise a d).2.multiplier = true ↔ a.alphaMultiplier ≤ 1 := by
  show RealLike.le a.alphaMultiplier 1 = true ↔ _
  rw [RealLike.le_real, decide_eq_true_eq]

theorem normalise_alphaMultiplier (a : PathArgs ℝ) (d : Nat) :
    (normalise a d).1.alphaMultiplier = if a.alphaMultiplier ≤ 1 then 1.05 else a.alphaMultiplier :=
  (if_congr (normalise_warns_multiplier a d) defaultMultiplier_real rfl :
    (if (normalise a d).2.multiplier = true then defaultMultiplier else a.alphaMultiplier) = _)

theorem normalise_warns_keepThreshold (a : PathArgs ℝ) (d : Nat) :
    (normalise a d).2.keepThreshold = true ↔ a.keepThreshold < 0 ∨ 1 < a.keepThreshold := by
  show (RealLike.lt a.keepThreshold 0 || RealLike.lt 1 a.keepThreshold) = true ↔ _
  simp only [RealLike.lt_real, Bool.or_eq_true, decide_eq_true_eq]

theorem normalise_keepThreshold (a : PathArgs ℝ) (d : Nat) :
    (normalise a d).1.keepThreshold = if a.keepThreshold < 0 ∨ 1 < a.keepThreshold then 0.9 else a.keepThreshold :=
  (if_congr (normalise_warns_keepThreshold a d) defaultKeep_real rfl :
    (if (normalise a d).2.keepThreshold = true then defaultKeep else a.keepThreshold) = _)


theorem geomList_real (a m : ℝ) (T : Nat) : geomList a m T = (List.range T).map fun t => a * m ^ t := by
  rw [geomList_eq_map]
  exact List.map_congr_left fun t _ => by rw [mul_right_iterate]

theorem newBest_real (d : Nat) (B s : ℝ) (n : Nat) : newBest d B s n = if B ≤ s ∧ n = d then s else B := by
  unfold newBest
  by_cases h1 : B ≤ s <;> by_cases h2 : n = d <;> simp [h1, h2]

theorem keeps_real (thr B s : ℝ) : keeps thr B s = true ↔ thr * B ≤ s := by
  unfold keeps; simp

end GemVerif.Model.Path
