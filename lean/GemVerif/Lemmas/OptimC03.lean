/-
  The equations of `Model/Optim.lean` over ℝ through which `Props/C03Optim.lean` reads one optimiser step and one
  run: each definition is unfolded here, once.
-/
import GemVerif.Model.Optim
import GemVerif.NumReal

namespace GemVerif
open Model.Optim

theorem powNat_eq_pow (b : ℝ) (t : ℕ) : powNat b t = b ^ t := by
  induction t with
  | zero => rfl
  | succ t ih => rw [powNat, ih, pow_succ']

theorem sgdStep_fst (c : SgdCfg ℝ) (v g : ℝ) : (sgdStep c v g).1 = c.momentum * v - c.lr * g := rfl

/-- Both variants in one closed form: the update is `a·v − b·(lr·g)` with `a = μ², b = 1 + μ` under Nesterov
    momentum and `a = μ, b = 1` without; all sign statements only use `0 ≤ a` and `0 < b`. -/
theorem sgdStep_snd (c : SgdCfg ℝ) (v g : ℝ) :
    (sgdStep c v g).2 = (if c.nesterov then c.momentum * c.momentum else c.momentum) * v
      - (if c.nesterov then 1 + c.momentum else 1) * (c.lr * g) := by
  unfold sgdStep
  split <;> ring

theorem sgdStep_snd_coeff_nonneg (c : SgdCfg ℝ) (hmu : 0 ≤ c.momentum) :
    0 ≤ (if c.nesterov then c.momentum * c.momentum else c.momentum) := by
  split
  · exact mul_self_nonneg _
  · exact hmu

theorem sgdStep_snd_coeff_pos (c : SgdCfg ℝ) (hmu : 0 ≤ c.momentum) :
    0 < (if c.nesterov then 1 + c.momentum else 1) := by
  split
  · exact add_pos_of_pos_of_nonneg one_pos hmu
  · exact one_pos

theorem sgdRun_nil (c : SgdCfg ℝ) (s : ℝ × ℝ) : sgdRun c [] s = s := rfl

theorem sgdRun_cons (c : SgdCfg ℝ) (g : ℝ) (gs : List ℝ) (w v : ℝ) :
    sgdRun c (g :: gs) (w, v) = sgdRun c gs (w + (sgdStep c v g).2, (sgdStep c v g).1) := rfl

theorem sgdStep_zero (c : SgdCfg ℝ) : sgdStep c 0 0 = (0, 0) := by
  ext
  · rw [sgdStep_fst, mul_zero, mul_zero, sub_zero]
  · rw [sgdStep_snd, mul_zero, mul_zero, mul_zero, sub_zero]

theorem adamLr_eq (c : AdamCfg ℝ) (t : ℕ) :
    adamLr c t = c.lr0 * Real.sqrt (1 - c.beta2 ^ t) / (1 - c.beta1 ^ t) := by
  simp only [adamLr, powNat_eq_pow, RealLike.sqrt_real]

theorem adamStep_m (c : AdamCfg ℝ) (s : AdamSt ℝ) (g : ℝ) :
    (adamStep c s g).1.m = c.beta1 * s.m + (1 - c.beta1) * g := rfl

theorem adamStep_v (c : AdamCfg ℝ) (s : AdamSt ℝ) (g : ℝ) :
    (adamStep c s g).1.v = c.beta2 * s.v + (1 - c.beta2) * (g * g) := rfl

/-- the update in terms of the new moments: `−lr_t · m' / (√v' + ε)` -/
theorem adamStep_snd (c : AdamCfg ℝ) (s : AdamSt ℝ) (g : ℝ) :
    (adamStep c s g).2
      = -(adamLr c (s.t + 1) * (adamStep c s g).1.m / (Real.sqrt (adamStep c s g).1.v + c.eps)) := by
  simp only [adamStep, RealLike.sqrt_real, neg_mul, neg_div]

theorem adamRun_cons (c : AdamCfg ℝ) (g : ℝ) (gs : List ℝ) (w : ℝ) (s : AdamSt ℝ) :
    adamRun c (g :: gs) (w, s) = adamRun c gs (w + (adamStep c s g).2, (adamStep c s g).1) := rfl

theorem adamStep_zero (c : AdamCfg ℝ) (t : ℕ) :
    adamStep c { t := t, m := 0, v := 0 } 0 = ({ t := t + 1, m := 0, v := 0 }, 0) := by
  simp only [adamStep, mul_zero, add_zero, zero_div]

end GemVerif
