/-
  Reading rules of GemVerif/Np2.lean: shape, error flag and entries of every operation (by unfolding), what
  `Eqv A (ofScalar s)` says (`Arr.eqv_ofScalar_iff`), and the descriptions `IsMat` / `IsRow` of an array by a function,
  with what operations of Np.lean and Np2.lean make of described arrays.  Generic in `[RealLike α]`; no Mathlib.
  The rules of `fillDiagonal` and `IsMat.fillDiagonal` serve a respelling of the source (`np.fill_diagonal(Lambda, 0)`,
  harmless/h02.diff; DESIGN.md §21) that the text generated from the present source does not use.
-/
import GemVerif.Lemmas.Np
import GemVerif.Np2

set_option linter.unusedSectionVars false

namespace GemVerif.Np
open RealLike

namespace Arr
variable {α : Type} [RealLike α]

@[simp] theorem ofScalar_r (s : α) : (ofScalar s).r = 1 := rfl
@[simp] theorem ofScalar_c (s : α) : (ofScalar s).c = 1 := rfl
@[simp] theorem ofScalar_ok (s : α) : (ofScalar s).ok = true := rfl
@[simp] theorem ofScalar_get (s : α) (i j : Nat) : (ofScalar s).get i j = s := rfl

@[simp] theorem log_r (A : Arr α) : (log A).r = A.r := rfl
@[simp] theorem log_c (A : Arr α) : (log A).c = A.c := rfl
@[simp] theorem log_ok (A : Arr α) : (log A).ok = A.ok := rfl
@[simp] theorem log_get (A : Arr α) (i j : Nat) : (log A).get i j = RealLike.log (A.get i j) := rfl

@[simp] theorem sqrt_r (A : Arr α) : (sqrt A).r = A.r := rfl
@[simp] theorem sqrt_c (A : Arr α) : (sqrt A).c = A.c := rfl
@[simp] theorem sqrt_ok (A : Arr α) : (sqrt A).ok = A.ok := rfl
@[simp] theorem sqrt_get (A : Arr α) (i j : Nat) : (sqrt A).get i j = RealLike.sqrt (A.get i j) := rfl

@[simp] theorem abs_r (A : Arr α) : (abs A).r = A.r := rfl
@[simp] theorem abs_c (A : Arr α) : (abs A).c = A.c := rfl
@[simp] theorem abs_ok (A : Arr α) : (abs A).ok = A.ok := rfl
@[simp] theorem abs_get (A : Arr α) (i j : Nat) : (abs A).get i j = RealLike.abs (A.get i j) := rfl

@[simp] theorem sign_r (A : Arr α) : (sign A).r = A.r := rfl
@[simp] theorem sign_c (A : Arr α) : (sign A).c = A.c := rfl
@[simp] theorem sign_ok (A : Arr α) : (sign A).ok = A.ok := rfl
@[simp] theorem sign_get (A : Arr α) (i j : Nat) : (sign A).get i j = RealLike.sign (A.get i j) := rfl

@[simp] theorem square_r (A : Arr α) : (square A).r = A.r := rfl
@[simp] theorem square_c (A : Arr α) : (square A).c = A.c := rfl
@[simp] theorem square_ok (A : Arr α) : (square A).ok = A.ok := rfl
@[simp] theorem square_get (A : Arr α) (i j : Nat) : (square A).get i j = RealLike.sq (A.get i j) := rfl

@[simp] theorem clip_r (A : Arr α) (lo hi : α) : (clip A lo hi).r = A.r := rfl
@[simp] theorem clip_c (A : Arr α) (lo hi : α) : (clip A lo hi).c = A.c := rfl
@[simp] theorem clip_ok (A : Arr α) (lo hi : α) : (clip A lo hi).ok = A.ok := rfl
@[simp] theorem clip_get (A : Arr α) (lo hi : α) (i j : Nat) :
    (clip A lo hi).get i j = RealLike.clip (A.get i j) lo hi := rfl

@[simp] theorem adds_r (A : Arr α) (s : α) : (adds A s).r = A.r := rfl
@[simp] theorem adds_c (A : Arr α) (s : α) : (adds A s).c = A.c := rfl
@[simp] theorem adds_ok (A : Arr α) (s : α) : (adds A s).ok = A.ok := rfl
@[simp] theorem adds_get (A : Arr α) (s : α) (i j : Nat) : (adds A s).get i j = A.get i j + s := rfl

@[simp] theorem radds_r (A : Arr α) (s : α) : (radds s A).r = A.r := rfl
@[simp] theorem radds_c (A : Arr α) (s : α) : (radds s A).c = A.c := rfl
@[simp] theorem radds_ok (A : Arr α) (s : α) : (radds s A).ok = A.ok := rfl
@[simp] theorem radds_get (A : Arr α) (s : α) (i j : Nat) : (radds s A).get i j = s + A.get i j := rfl

@[simp] theorem subs_r (A : Arr α) (s : α) : (subs A s).r = A.r := rfl
@[simp] theorem subs_c (A : Arr α) (s : α) : (subs A s).c = A.c := rfl
@[simp] theorem subs_ok (A : Arr α) (s : α) : (subs A s).ok = A.ok := rfl
@[simp] theorem subs_get (A : Arr α) (s : α) (i j : Nat) : (subs A s).get i j = A.get i j - s := rfl

@[simp] theorem rsubs_r (A : Arr α) (s : α) : (rsubs s A).r = A.r := rfl
@[simp] theorem rsubs_c (A : Arr α) (s : α) : (rsubs s A).c = A.c := rfl
@[simp] theorem rsubs_ok (A : Arr α) (s : α) : (rsubs s A).ok = A.ok := rfl
@[simp] theorem rsubs_get (A : Arr α) (s : α) (i j : Nat) : (rsubs s A).get i j = s - A.get i j := rfl

@[simp] theorem divs_r (A : Arr α) (s : α) : (divs A s).r = A.r := rfl
@[simp] theorem divs_c (A : Arr α) (s : α) : (divs A s).c = A.c := rfl
@[simp] theorem divs_ok (A : Arr α) (s : α) : (divs A s).ok = A.ok := rfl
@[simp] theorem divs_get (A : Arr α) (s : α) (i j : Nat) : (divs A s).get i j = A.get i j / s := rfl

@[simp] theorem rdivs_r (A : Arr α) (s : α) : (rdivs s A).r = A.r := rfl
@[simp] theorem rdivs_c (A : Arr α) (s : α) : (rdivs s A).c = A.c := rfl
@[simp] theorem rdivs_ok (A : Arr α) (s : α) : (rdivs s A).ok = A.ok := rfl
@[simp] theorem rdivs_get (A : Arr α) (s : α) (i j : Nat) : (rdivs s A).get i j = s / A.get i j := rfl

@[simp] theorem sumAxis1v_r (A : Arr α) : (sumAxis1v A).r = 1 := rfl
@[simp] theorem sumAxis1v_c (A : Arr α) : (sumAxis1v A).c = A.r := rfl
@[simp] theorem sumAxis1v_ok (A : Arr α) : (sumAxis1v A).ok = A.ok := rfl
@[simp] theorem sumAxis1v_get (A : Arr α) (i j : Nat) :
    (sumAxis1v A).get i j = sumTo A.c fun l => A.get j l := rfl

@[simp] theorem meanAxis0_r (A : Arr α) : (meanAxis0 A).r = 1 := rfl
@[simp] theorem meanAxis0_c (A : Arr α) : (meanAxis0 A).c = A.c := rfl
@[simp] theorem meanAxis0_ok (A : Arr α) : (meanAxis0 A).ok = A.ok := rfl
@[simp] theorem meanAxis0_get (A : Arr α) (i j : Nat) :
    (meanAxis0 A).get i j = (sumTo A.r fun l => A.get l j) / nat A.r := rfl

@[simp] theorem meanAxis1_r (A : Arr α) : (meanAxis1 A).r = A.r := rfl
@[simp] theorem meanAxis1_c (A : Arr α) : (meanAxis1 A).c = 1 := rfl
@[simp] theorem meanAxis1_ok (A : Arr α) : (meanAxis1 A).ok = A.ok := rfl
@[simp] theorem meanAxis1_get (A : Arr α) (i j : Nat) :
    (meanAxis1 A).get i j = (sumTo A.c fun l => A.get i l) / nat A.c := rfl

@[simp] theorem meanAxis1v_r (A : Arr α) : (meanAxis1v A).r = 1 := rfl
@[simp] theorem meanAxis1v_c (A : Arr α) : (meanAxis1v A).c = A.r := rfl
@[simp] theorem meanAxis1v_ok (A : Arr α) : (meanAxis1v A).ok = A.ok := rfl
@[simp] theorem meanAxis1v_get (A : Arr α) (i j : Nat) :
    (meanAxis1v A).get i j = (sumTo A.c fun l => A.get j l) / nat A.c := rfl

@[simp] theorem sumVec_r (A : Arr α) : (sumVec A).r = 1 := rfl
@[simp] theorem sumVec_c (A : Arr α) : (sumVec A).c = 1 := rfl
@[simp] theorem sumVec_ok (A : Arr α) : (sumVec A).ok = (A.ok && A.r == 1) := rfl
@[simp] theorem sumVec_get (A : Arr α) (i j : Nat) : (sumVec A).get i j = sumTo A.c fun l => A.get 0 l := rfl

@[simp] theorem meanVec_r (A : Arr α) : (meanVec A).r = 1 := rfl
@[simp] theorem meanVec_c (A : Arr α) : (meanVec A).c = 1 := rfl
@[simp] theorem meanVec_ok (A : Arr α) : (meanVec A).ok = (A.ok && A.r == 1) := rfl
@[simp] theorem meanVec_get (A : Arr α) (i j : Nat) :
    (meanVec A).get i j = (sumTo A.c fun l => A.get 0 l) / nat A.c := rfl

@[simp] theorem sumAll_r (A : Arr α) : (sumAll A).r = 1 := rfl
@[simp] theorem sumAll_c (A : Arr α) : (sumAll A).c = 1 := rfl
@[simp] theorem sumAll_ok (A : Arr α) : (sumAll A).ok = A.ok := rfl
@[simp] theorem sumAll_get (A : Arr α) (i j : Nat) :
    (sumAll A).get i j = sumTo A.r fun i => sumTo A.c fun l => A.get i l := rfl

@[simp] theorem meanAll_r (A : Arr α) : (meanAll A).r = 1 := rfl
@[simp] theorem meanAll_c (A : Arr α) : (meanAll A).c = 1 := rfl
@[simp] theorem meanAll_ok (A : Arr α) : (meanAll A).ok = A.ok := rfl
@[simp] theorem meanAll_get (A : Arr α) (i j : Nat) :
    (meanAll A).get i j = (sumTo A.r fun i => sumTo A.c fun l => A.get i l) / nat (A.r * A.c) := rfl

@[simp] theorem reshapeCol_r (A : Arr α) : (reshapeCol A).r = A.c := rfl
@[simp] theorem reshapeCol_c (A : Arr α) : (reshapeCol A).c = 1 := rfl
@[simp] theorem reshapeCol_ok (A : Arr α) : (reshapeCol A).ok = (A.ok && A.r == 1) := rfl
@[simp] theorem reshapeCol_get (A : Arr α) (i j : Nat) : (reshapeCol A).get i j = A.get 0 i := rfl

@[simp] theorem reshapeRow_r (A : Arr α) : (reshapeRow A).r = A.r := rfl
@[simp] theorem reshapeRow_c (A : Arr α) : (reshapeRow A).c = A.c := rfl
@[simp] theorem reshapeRow_ok (A : Arr α) : (reshapeRow A).ok = (A.ok && A.r == 1) := rfl
@[simp] theorem reshapeRow_get (A : Arr α) (i j : Nat) : (reshapeRow A).get i j = A.get i j := rfl

@[simp] theorem squeeze0_r (A : Arr α) : (squeeze0 A).r = A.r := rfl
@[simp] theorem squeeze0_c (A : Arr α) : (squeeze0 A).c = A.c := rfl
@[simp] theorem squeeze0_ok (A : Arr α) : (squeeze0 A).ok = (A.ok && A.r == 1 && A.c == 1) := rfl
@[simp] theorem squeeze0_get (A : Arr α) (i j : Nat) : (squeeze0 A).get i j = A.get i j := rfl

@[simp] theorem eye_r (m : Nat) : (eye m : Arr α).r = m := rfl
@[simp] theorem eye_c (m : Nat) : (eye m : Arr α).c = m := rfl
@[simp] theorem eye_ok (m : Nat) : (eye m : Arr α).ok = true := rfl
@[simp] theorem eye_get (m i j : Nat) : (eye m : Arr α).get i j = if i = j then 1 else 0 := rfl

@[simp] theorem diagVec_r (A : Arr α) : (diagVec A).r = 1 := rfl
@[simp] theorem diagVec_c (A : Arr α) : (diagVec A).c = Nat.min A.r A.c := rfl
@[simp] theorem diagVec_ok (A : Arr α) : (diagVec A).ok = A.ok := rfl
@[simp] theorem diagVec_get (A : Arr α) (i j : Nat) : (diagVec A).get i j = A.get j j := rfl

@[simp] theorem diagMat_r (A : Arr α) : (diagMat A).r = A.c := rfl
@[simp] theorem diagMat_c (A : Arr α) : (diagMat A).c = A.c := rfl
@[simp] theorem diagMat_ok (A : Arr α) : (diagMat A).ok = (A.ok && A.r == 1) := rfl
@[simp] theorem diagMat_get (A : Arr α) (i j : Nat) :
    (diagMat A).get i j = if i = j then A.get 0 i else 0 := rfl

@[simp] theorem matvec_r (A v : Arr α) : (matvec A v).r = 1 := rfl
@[simp] theorem matvec_c (A v : Arr α) : (matvec A v).c = A.r := rfl
@[simp] theorem matvec_ok (A v : Arr α) : (matvec A v).ok = (A.ok && v.ok && v.r == 1 && A.c == v.c) := rfl
@[simp] theorem matvec_get (A v : Arr α) (i j : Nat) :
    (matvec A v).get i j = sumTo A.c fun l => A.get j l * v.get 0 l := rfl

@[simp] theorem gtS_r (A : Arr α) (s : α) : (gtS A s).r = A.r := rfl
@[simp] theorem gtS_c (A : Arr α) (s : α) : (gtS A s).c = A.c := rfl
@[simp] theorem gtS_ok (A : Arr α) (s : α) : (gtS A s).ok = A.ok := rfl
@[simp] theorem gtS_get (A : Arr α) (s : α) (i j : Nat) : (gtS A s).get i j = RealLike.lt s (A.get i j) := rfl

@[simp] theorem ltS_r (A : Arr α) (s : α) : (ltS A s).r = A.r := rfl
@[simp] theorem ltS_c (A : Arr α) (s : α) : (ltS A s).c = A.c := rfl
@[simp] theorem ltS_ok (A : Arr α) (s : α) : (ltS A s).ok = A.ok := rfl
@[simp] theorem ltS_get (A : Arr α) (s : α) (i j : Nat) : (ltS A s).get i j = RealLike.lt (A.get i j) s := rfl

@[simp] theorem eqS_r (A : Arr α) (s : α) : (eqS A s).r = A.r := rfl
@[simp] theorem eqS_c (A : Arr α) (s : α) : (eqS A s).c = A.c := rfl
@[simp] theorem eqS_ok (A : Arr α) (s : α) : (eqS A s).ok = A.ok := rfl
@[simp] theorem eqS_get (A : Arr α) (s : α) (i j : Nat) : (eqS A s).get i j = RealLike.beq (A.get i j) s := rfl

@[simp] theorem band_r (M N : Arr Bool) : (band M N).r = bdim M.r N.r := rfl
@[simp] theorem band_c (M N : Arr Bool) : (band M N).c = bdim M.c N.c := rfl
@[simp] theorem band_ok (M N : Arr Bool) : (band M N).ok = (M.ok && N.ok && bok M.r N.r && bok M.c N.c) := rfl
@[simp] theorem band_get (M N : Arr Bool) (i j : Nat) :
    (band M N).get i j = (M.get (bidx M.r i) (bidx M.c j) && N.get (bidx N.r i) (bidx N.c j)) := rfl

@[simp] theorem ofMask_r (M : Arr Bool) : (ofMask M : Arr α).r = M.r := rfl
@[simp] theorem ofMask_c (M : Arr Bool) : (ofMask M : Arr α).c = M.c := rfl
@[simp] theorem ofMask_ok (M : Arr Bool) : (ofMask M : Arr α).ok = M.ok := rfl
@[simp] theorem ofMask_get (M : Arr Bool) (i j : Nat) : (ofMask M : Arr α).get i j = ofBool (M.get i j) := rfl

@[simp] theorem fillDiagonal_r (A : Arr α) (s : α) : (fillDiagonal A s).r = A.r := rfl
@[simp] theorem fillDiagonal_c (A : Arr α) (s : α) : (fillDiagonal A s).c = A.c := rfl
@[simp] theorem fillDiagonal_ok (A : Arr α) (s : α) : (fillDiagonal A s).ok = A.ok := rfl
@[simp] theorem fillDiagonal_get (A : Arr α) (s : α) (i j : Nat) :
    (fillDiagonal A s).get i j = if i = j then s else A.get i j := rfl

@[simp] theorem setWhere_r (A : Arr α) (M : Arr Bool) (s : α) : (setWhere A M s).r = A.r := rfl
@[simp] theorem setWhere_c (A : Arr α) (M : Arr Bool) (s : α) : (setWhere A M s).c = A.c := rfl
@[simp] theorem setWhere_ok (A : Arr α) (M : Arr Bool) (s : α) :
    (setWhere A M s).ok = (A.ok && M.ok && A.r == M.r && A.c == M.c) := rfl
@[simp] theorem setWhere_get (A : Arr α) (M : Arr Bool) (s : α) (i j : Nat) :
    (setWhere A M s).get i j = if M.get i j then s else A.get i j := rfl

@[simp] theorem setColsWhere_r (A : Arr α) (M : Arr Bool) (s : α) : (setColsWhere A M s).r = A.r := rfl
@[simp] theorem setColsWhere_c (A : Arr α) (M : Arr Bool) (s : α) : (setColsWhere A M s).c = A.c := rfl
@[simp] theorem setColsWhere_ok (A : Arr α) (M : Arr Bool) (s : α) :
    (setColsWhere A M s).ok = (A.ok && M.ok && M.r == 1 && A.c == M.c) := rfl
@[simp] theorem setColsWhere_get (A : Arr α) (M : Arr Bool) (s : α) (i j : Nat) :
    (setColsWhere A M s).get i j = if M.get 0 j then s else A.get i j := rfl

@[simp] theorem repeat0_r (A : Arr α) (m : Nat) : (repeat0 A m).r = A.r * m := rfl
@[simp] theorem repeat0_c (A : Arr α) (m : Nat) : (repeat0 A m).c = A.c := rfl
@[simp] theorem repeat0_ok (A : Arr α) (m : Nat) : (repeat0 A m).ok = A.ok := rfl
@[simp] theorem repeat0_get (A : Arr α) (m i j : Nat) : (repeat0 A m).get i j = A.get (i / m) j := rfl

end Arr

@[simp] theorem fin_val_div_self {n : Nat} (i : Fin n) : i.val / n = 0 := Nat.div_eq_of_lt i.isLt

namespace Arr3
variable {α : Type} [RealLike α]

@[simp] theorem expandFirst_d0 (A : Arr α) : (expandFirst A).d0 = 1 := rfl
@[simp] theorem expandFirst_d1 (A : Arr α) : (expandFirst A).d1 = A.r := rfl
@[simp] theorem expandFirst_d2 (A : Arr α) : (expandFirst A).d2 = A.c := rfl
@[simp] theorem expandFirst_ok (A : Arr α) : (expandFirst A).ok = A.ok := rfl
@[simp] theorem expandFirst_get (A : Arr α) (i j k : Nat) : (expandFirst A).get i j k = A.get j k := rfl

@[simp] theorem expandMid_d0 (A : Arr α) : (expandMid A).d0 = A.r := rfl
@[simp] theorem expandMid_d1 (A : Arr α) : (expandMid A).d1 = 1 := rfl
@[simp] theorem expandMid_d2 (A : Arr α) : (expandMid A).d2 = A.c := rfl
@[simp] theorem expandMid_ok (A : Arr α) : (expandMid A).ok = A.ok := rfl
@[simp] theorem expandMid_get (A : Arr α) (i j k : Nat) : (expandMid A).get i j k = A.get i k := rfl

@[simp] theorem expandLast_d0 (A : Arr α) : (expandLast A).d0 = A.r := rfl
@[simp] theorem expandLast_d1 (A : Arr α) : (expandLast A).d1 = A.c := rfl
@[simp] theorem expandLast_d2 (A : Arr α) : (expandLast A).d2 = 1 := rfl
@[simp] theorem expandLast_ok (A : Arr α) : (expandLast A).ok = A.ok := rfl
@[simp] theorem expandLast_get (A : Arr α) (i j k : Nat) : (expandLast A).get i j k = A.get i j := rfl

@[simp] theorem transpose021_d0 (T : Arr3 α) : (transpose021 T).d0 = T.d0 := rfl
@[simp] theorem transpose021_d1 (T : Arr3 α) : (transpose021 T).d1 = T.d2 := rfl
@[simp] theorem transpose021_d2 (T : Arr3 α) : (transpose021 T).d2 = T.d1 := rfl
@[simp] theorem transpose021_ok (T : Arr3 α) : (transpose021 T).ok = T.ok := rfl
@[simp] theorem transpose021_get (T : Arr3 α) (i j k : Nat) : (transpose021 T).get i j k = T.get i k j := rfl

@[simp] theorem matmul_d0 (S T : Arr3 α) : (matmul S T).d0 = bdim S.d0 T.d0 := rfl
@[simp] theorem matmul_d1 (S T : Arr3 α) : (matmul S T).d1 = S.d1 := rfl
@[simp] theorem matmul_d2 (S T : Arr3 α) : (matmul S T).d2 = T.d2 := rfl
@[simp] theorem matmul_ok (S T : Arr3 α) : (matmul S T).ok = (S.ok && T.ok && bok S.d0 T.d0 && S.d2 == T.d1) := rfl
@[simp] theorem matmul_get (S T : Arr3 α) (i j k : Nat) : (matmul S T).get i j k = sumTo S.d2 fun l => S.get (bidx S.d0 i) j l * T.get (bidx T.d0 i) l k := rfl

@[simp] theorem zipWith_d0 (f : α → α → α) (S T : Arr3 α) : (zipWith f S T).d0 = bdim S.d0 T.d0 := rfl
@[simp] theorem zipWith_d1 (f : α → α → α) (S T : Arr3 α) : (zipWith f S T).d1 = bdim S.d1 T.d1 := rfl
@[simp] theorem zipWith_d2 (f : α → α → α) (S T : Arr3 α) : (zipWith f S T).d2 = bdim S.d2 T.d2 := rfl
@[simp] theorem zipWith_ok (f : α → α → α) (S T : Arr3 α) : (zipWith f S T).ok = (S.ok && T.ok && bok S.d0 T.d0 && bok S.d1 T.d1 && bok S.d2 T.d2) := rfl
@[simp] theorem zipWith_get (f : α → α → α) (S T : Arr3 α) (i j k : Nat) : (zipWith f S T).get i j k = f (S.get (bidx S.d0 i) (bidx S.d1 j) (bidx S.d2 k)) (T.get (bidx T.d0 i) (bidx T.d1 j) (bidx T.d2 k)) := rfl

@[simp] theorem neg_d0 (T : Arr3 α) : (neg T).d0 = T.d0 := rfl
@[simp] theorem neg_d1 (T : Arr3 α) : (neg T).d1 = T.d1 := rfl
@[simp] theorem neg_d2 (T : Arr3 α) : (neg T).d2 = T.d2 := rfl
@[simp] theorem neg_ok (T : Arr3 α) : (neg T).ok = T.ok := rfl
@[simp] theorem neg_get (T : Arr3 α) (i j k : Nat) : (neg T).get i j k = -(T.get i j k) := rfl

@[simp] theorem sign_d0 (T : Arr3 α) : (sign T).d0 = T.d0 := rfl
@[simp] theorem sign_d1 (T : Arr3 α) : (sign T).d1 = T.d1 := rfl
@[simp] theorem sign_d2 (T : Arr3 α) : (sign T).d2 = T.d2 := rfl
@[simp] theorem sign_ok (T : Arr3 α) : (sign T).ok = T.ok := rfl
@[simp] theorem sign_get (T : Arr3 α) (i j k : Nat) : (sign T).get i j k = RealLike.sign (T.get i j k) := rfl

@[simp] theorem abs_d0 (T : Arr3 α) : (abs T).d0 = T.d0 := rfl
@[simp] theorem abs_d1 (T : Arr3 α) : (abs T).d1 = T.d1 := rfl
@[simp] theorem abs_d2 (T : Arr3 α) : (abs T).d2 = T.d2 := rfl
@[simp] theorem abs_ok (T : Arr3 α) : (abs T).ok = T.ok := rfl
@[simp] theorem abs_get (T : Arr3 α) (i j k : Nat) : (abs T).get i j k = RealLike.abs (T.get i j k) := rfl

@[simp] theorem smul_d0 (s : α) (T : Arr3 α) : (smul s T).d0 = T.d0 := rfl
@[simp] theorem smul_d1 (s : α) (T : Arr3 α) : (smul s T).d1 = T.d1 := rfl
@[simp] theorem smul_d2 (s : α) (T : Arr3 α) : (smul s T).d2 = T.d2 := rfl
@[simp] theorem smul_ok (s : α) (T : Arr3 α) : (smul s T).ok = T.ok := rfl
@[simp] theorem smul_get (s : α) (T : Arr3 α) (i j k : Nat) : (smul s T).get i j k = s * T.get i j k := rfl

@[simp] theorem muls_d0 (T : Arr3 α) (s : α) : (muls T s).d0 = T.d0 := rfl
@[simp] theorem muls_d1 (T : Arr3 α) (s : α) : (muls T s).d1 = T.d1 := rfl
@[simp] theorem muls_d2 (T : Arr3 α) (s : α) : (muls T s).d2 = T.d2 := rfl
@[simp] theorem muls_ok (T : Arr3 α) (s : α) : (muls T s).ok = T.ok := rfl
@[simp] theorem muls_get (T : Arr3 α) (s : α) (i j k : Nat) : (muls T s).get i j k = T.get i j k * s := rfl

@[simp] theorem divs_d0 (T : Arr3 α) (s : α) : (divs T s).d0 = T.d0 := rfl
@[simp] theorem divs_d1 (T : Arr3 α) (s : α) : (divs T s).d1 = T.d1 := rfl
@[simp] theorem divs_d2 (T : Arr3 α) (s : α) : (divs T s).d2 = T.d2 := rfl
@[simp] theorem divs_ok (T : Arr3 α) (s : α) : (divs T s).ok = T.ok := rfl
@[simp] theorem divs_get (T : Arr3 α) (s : α) (i j k : Nat) : (divs T s).get i j k = T.get i j k / s := rfl

@[simp] theorem sumAxis0_r (T : Arr3 α) : (sumAxis0 T).r = T.d1 := rfl
@[simp] theorem sumAxis0_c (T : Arr3 α) : (sumAxis0 T).c = T.d2 := rfl
@[simp] theorem sumAxis0_ok (T : Arr3 α) : (sumAxis0 T).ok = T.ok := rfl
@[simp] theorem sumAxis0_get (T : Arr3 α) (i j : Nat) : (sumAxis0 T).get i j = sumTo T.d0 fun l => T.get l i j := rfl

@[simp] theorem meanAxis0_r (T : Arr3 α) : (meanAxis0 T).r = T.d1 := rfl
@[simp] theorem meanAxis0_c (T : Arr3 α) : (meanAxis0 T).c = T.d2 := rfl
@[simp] theorem meanAxis0_ok (T : Arr3 α) : (meanAxis0 T).ok = T.ok := rfl
@[simp] theorem meanAxis0_get (T : Arr3 α) (i j : Nat) : (meanAxis0 T).get i j = (sumTo T.d0 fun l => T.get l i j) / nat T.d0 := rfl

@[simp] theorem squeeze1_r (T : Arr3 α) : (squeeze1 T).r = T.d0 := rfl
@[simp] theorem squeeze1_c (T : Arr3 α) : (squeeze1 T).c = T.d2 := rfl
@[simp] theorem squeeze1_ok (T : Arr3 α) : (squeeze1 T).ok = (T.ok && T.d1 == 1) := rfl
@[simp] theorem squeeze1_get (T : Arr3 α) (i j : Nat) : (squeeze1 T).get i j = T.get i 0 j := rfl

@[simp] theorem squeeze2_r (T : Arr3 α) : (squeeze2 T).r = T.d0 := rfl
@[simp] theorem squeeze2_c (T : Arr3 α) : (squeeze2 T).c = T.d1 := rfl
@[simp] theorem squeeze2_ok (T : Arr3 α) : (squeeze2 T).ok = (T.ok && T.d2 == 1) := rfl
@[simp] theorem squeeze2_get (T : Arr3 α) (i j : Nat) : (squeeze2 T).get i j = T.get i j 0 := rfl

end Arr3

namespace Arr
variable {α : Type} [RealLike α]

@[simp] theorem inPlace_r (T R : Arr α) : (inPlace T R).r = R.r := rfl
@[simp] theorem inPlace_c (T R : Arr α) : (inPlace T R).c = R.c := rfl
@[simp] theorem inPlace_ok (T R : Arr α) : (inPlace T R).ok = (R.ok && R.r == T.r && R.c == T.c) := rfl
@[simp] theorem inPlace_get (T R : Arr α) (i j : Nat) : (inPlace T R).get i j = R.get i j := rfl

@[simp] theorem checked_r (b : Bool) (A : Arr α) : (checked b A).r = A.r := rfl
@[simp] theorem checked_c (b : Bool) (A : Arr α) : (checked b A).c = A.c := rfl
@[simp] theorem checked_ok (b : Bool) (A : Arr α) : (checked b A).ok = (A.ok && b) := rfl
@[simp] theorem checked_get (b : Bool) (A : Arr α) (i j : Nat) : (checked b A).get i j = A.get i j := rfl

end Arr

attribute [np] Arr3.add Arr3.sub Arr3.mul Arr3.div
attribute [np] Arr.ofScalar_r Arr.ofScalar_c Arr.ofScalar_ok Arr.ofScalar_get Arr.log_r Arr.log_c Arr.log_ok
  Arr.log_get Arr.sqrt_r Arr.sqrt_c Arr.sqrt_ok Arr.sqrt_get Arr.abs_r Arr.abs_c Arr.abs_ok Arr.abs_get Arr.sign_r
  Arr.sign_c Arr.sign_ok Arr.sign_get Arr.square_r Arr.square_c Arr.square_ok Arr.square_get Arr.clip_r Arr.clip_c
  Arr.clip_ok Arr.clip_get Arr.adds_r Arr.adds_c Arr.adds_ok Arr.adds_get Arr.radds_r Arr.radds_c Arr.radds_ok
  Arr.radds_get Arr.subs_r Arr.subs_c Arr.subs_ok Arr.subs_get Arr.rsubs_r Arr.rsubs_c Arr.rsubs_ok Arr.rsubs_get
  Arr.divs_r Arr.divs_c Arr.divs_ok Arr.divs_get Arr.rdivs_r Arr.rdivs_c Arr.rdivs_ok Arr.rdivs_get Arr.sumAxis1v_r
  Arr.sumAxis1v_c Arr.sumAxis1v_ok Arr.sumAxis1v_get Arr.meanAxis0_r Arr.meanAxis0_c Arr.meanAxis0_ok
  Arr.meanAxis0_get Arr.meanAxis1_r Arr.meanAxis1_c Arr.meanAxis1_ok Arr.meanAxis1_get Arr.meanAxis1v_r
  Arr.meanAxis1v_c Arr.meanAxis1v_ok Arr.meanAxis1v_get Arr.sumVec_r Arr.sumVec_c Arr.sumVec_ok Arr.sumVec_get
  Arr.meanVec_r Arr.meanVec_c Arr.meanVec_ok Arr.meanVec_get Arr.sumAll_r Arr.sumAll_c Arr.sumAll_ok Arr.sumAll_get
  Arr.meanAll_r Arr.meanAll_c Arr.meanAll_ok Arr.meanAll_get Arr.reshapeCol_r Arr.reshapeCol_c Arr.reshapeCol_ok
  Arr.reshapeCol_get Arr.reshapeRow_r Arr.reshapeRow_c Arr.reshapeRow_ok Arr.reshapeRow_get Arr.squeeze0_r
  Arr.squeeze0_c Arr.squeeze0_ok Arr.squeeze0_get Arr.eye_r Arr.eye_c Arr.eye_ok Arr.eye_get Arr.diagVec_r
  Arr.diagVec_c Arr.diagVec_ok Arr.diagVec_get Arr.diagMat_r Arr.diagMat_c Arr.diagMat_ok Arr.diagMat_get Arr.matvec_r
  Arr.matvec_c Arr.matvec_ok Arr.matvec_get Arr.gtS_r Arr.gtS_c Arr.gtS_ok Arr.gtS_get Arr.ltS_r Arr.ltS_c Arr.ltS_ok
  Arr.ltS_get Arr.eqS_r Arr.eqS_c Arr.eqS_ok Arr.eqS_get Arr.band_r Arr.band_c Arr.band_ok Arr.band_get Arr.ofMask_r
  Arr.ofMask_c Arr.ofMask_ok Arr.ofMask_get Arr.fillDiagonal_r Arr.fillDiagonal_c Arr.fillDiagonal_ok
  Arr.fillDiagonal_get Arr.setWhere_r Arr.setWhere_c Arr.setWhere_ok Arr.setWhere_get Arr.setColsWhere_r
  Arr.setColsWhere_c Arr.setColsWhere_ok Arr.setColsWhere_get Arr.repeat0_r Arr.repeat0_c Arr.repeat0_ok
  Arr.repeat0_get fin_val_div_self Arr3.expandFirst_d0 Arr3.expandFirst_d1 Arr3.expandFirst_d2 Arr3.expandFirst_ok
  Arr3.expandFirst_get Arr3.expandMid_d0 Arr3.expandMid_d1 Arr3.expandMid_d2 Arr3.expandMid_ok Arr3.expandMid_get
  Arr3.expandLast_d0 Arr3.expandLast_d1 Arr3.expandLast_d2 Arr3.expandLast_ok Arr3.expandLast_get Arr3.transpose021_d0
  Arr3.transpose021_d1 Arr3.transpose021_d2 Arr3.transpose021_ok Arr3.transpose021_get Arr3.matmul_d0 Arr3.matmul_d1
  Arr3.matmul_d2 Arr3.matmul_ok Arr3.matmul_get Arr3.zipWith_d0 Arr3.zipWith_d1 Arr3.zipWith_d2 Arr3.zipWith_ok
  Arr3.zipWith_get Arr3.neg_d0 Arr3.neg_d1 Arr3.neg_d2 Arr3.neg_ok Arr3.neg_get Arr3.sign_d0 Arr3.sign_d1 Arr3.sign_d2
  Arr3.sign_ok Arr3.sign_get Arr3.abs_d0 Arr3.abs_d1 Arr3.abs_d2 Arr3.abs_ok Arr3.abs_get Arr3.smul_d0 Arr3.smul_d1
  Arr3.smul_d2 Arr3.smul_ok Arr3.smul_get Arr3.muls_d0 Arr3.muls_d1 Arr3.muls_d2 Arr3.muls_ok Arr3.muls_get
  Arr3.divs_d0 Arr3.divs_d1 Arr3.divs_d2 Arr3.divs_ok Arr3.divs_get Arr3.sumAxis0_r Arr3.sumAxis0_c Arr3.sumAxis0_ok
  Arr3.sumAxis0_get Arr3.meanAxis0_r Arr3.meanAxis0_c Arr3.meanAxis0_ok Arr3.meanAxis0_get Arr3.squeeze1_r
  Arr3.squeeze1_c Arr3.squeeze1_ok Arr3.squeeze1_get Arr3.squeeze2_r Arr3.squeeze2_c Arr3.squeeze2_ok
  Arr3.squeeze2_get Arr.inPlace_r Arr.inPlace_c Arr.inPlace_ok Arr.inPlace_get Arr.checked_r Arr.checked_c
  Arr.checked_ok Arr.checked_get

namespace Arr
variable {α : Type} [RealLike α]

/-- a method that raised nothing returns its arrays as they are -/
theorem checked_true {β : Type} (A : Arr β) : checked true A = A := by
  cases A; simp [checked]

/-- The score returned beside a gradient is the array `S` the score-only call returns, guarded by the flags `b'` of more
    arrays: when the gradient (guarded by the same `b'`) comes out without error, `b'` holds, and the score-only result
    carries over. -/
theorem eqv_checked_of {b b' : Bool} {S G A : Arr α} (hS : Eqv (checked b S) A) (hG : (checked b' G).ok = true) :
    Eqv (checked b' S) A := by
  obtain ⟨hok, hA, hr, hc, hget⟩ := hS
  simp only [checked_ok, Bool.and_eq_true] at hok hG
  exact ⟨by simp only [checked_ok, hok.1, hG.2, Bool.and_self], hA, hr, hc, hget⟩

theorem eqv_ofScalar_iff {A : Arr α} {s : α} :
    Eqv A (ofScalar s) ↔ A.ok = true ∧ A.r = 1 ∧ A.c = 1 ∧ A.get 0 0 = s := by
  constructor
  · rintro ⟨hok, -, hr, hc, h⟩
    exact ⟨hok, hr, hc, h 0 0 (by rw [hr]; exact Nat.one_pos) (by rw [hc]; exact Nat.one_pos)⟩
  · rintro ⟨hok, hr, hc, h⟩
    refine ⟨hok, rfl, hr, hc, fun i j hi hj => ?_⟩
    obtain rfl : i = 0 := Nat.lt_one_iff.mp (hr ▸ hi)
    obtain rfl : j = 0 := Nat.lt_one_iff.mp (hc ▸ hj)
    exact h

/-- `A` is, without error, the `n × k` array with entries `f`.  The `…Gen` proofs describe the intermediate arrays of a
    generated definition this way, one line of the source at a time. -/
def IsMat {n k : Nat} (A : Arr α) (f : Fin n → Fin k → α) : Prop :=
  A.ok = true ∧ A.r = n ∧ A.c = k ∧ ∀ (i : Fin n) (j : Fin k), A.get i.val j.val = f i j

/-- `A` is, without error, the `(1, k)` array (which is also how a 1-D `(k,)` array is stored) with entries `f` -/
def IsRow {k : Nat} (A : Arr α) (f : Fin k → α) : Prop :=
  A.ok = true ∧ A.r = 1 ∧ A.c = k ∧ ∀ (j : Fin k), A.get 0 j.val = f j

section projections
variable {n k : Nat} {A : Arr α}

theorem IsMat.ok {f : Fin n → Fin k → α} (h : IsMat A f) : A.ok = true := h.1
theorem IsMat.r {f : Fin n → Fin k → α} (h : IsMat A f) : A.r = n := h.2.1
theorem IsMat.c {f : Fin n → Fin k → α} (h : IsMat A f) : A.c = k := h.2.2.1
theorem IsMat.get {f : Fin n → Fin k → α} (h : IsMat A f) (i : Fin n) (j : Fin k) : A.get i.val j.val = f i j :=
  h.2.2.2 i j

theorem IsRow.ok {f : Fin k → α} (h : IsRow A f) : A.ok = true := h.1
theorem IsRow.r {f : Fin k → α} (h : IsRow A f) : A.r = 1 := h.2.1
theorem IsRow.c {f : Fin k → α} (h : IsRow A f) : A.c = k := h.2.2.1
theorem IsRow.get {f : Fin k → α} (h : IsRow A f) (j : Fin k) : A.get 0 j.val = f j := h.2.2.2 j

/-- The reading rules of a described array — flag, shape, entries — as one fact: `simp only [np, h.rules]` uses each
    conjunct as a rewrite rule, so a described array enters a `simp` call by one name. -/
theorem IsMat.rules {f : Fin n → Fin k → α} (h : IsMat A f) :
    A.ok = true ∧ A.r = n ∧ A.c = k ∧ ∀ (i : Fin n) (j : Fin k), A.get i.val j.val = f i j := h

/-- the same for an `(n, 1)` column, which broadcasting reads at column `0` -/
theorem IsMat.rules_col {g : Fin n → α} (h : IsMat A fun i (_ : Fin 1) => g i) :
    A.ok = true ∧ A.r = n ∧ A.c = 1 ∧ ∀ i : Fin n, A.get i.val 0 = g i :=
  ⟨h.ok, h.r, h.c, fun i => h.get i ⟨0, Nat.one_pos⟩⟩

theorem IsRow.rules {f : Fin k → α} (h : IsRow A f) :
    A.ok = true ∧ A.r = 1 ∧ A.c = k ∧ ∀ j : Fin k, A.get 0 j.val = f j := h

end projections

theorem IsMat.eqv {n k : Nat} {A : Arr α} {f : Fin n → Fin k → α} (h : IsMat A f) : Eqv A (ofFn f) :=
  eqv_ofFn h.ok h.r h.c h.get

theorem isMat_ofFn {n k : Nat} (f : Fin n → Fin k → α) : IsMat (ofFn f) f :=
  ⟨rfl, rfl, rfl, fun i j => ofFn_get f i j⟩

/-- A described expression gets a name, before the generated definition is unfolded: rewriting with the equation
    replaces the expression wherever it occurs, whatever temporaries the source uses for it.  All the names of a proof
    go into one `simp only`, since each pass walks the whole unfolded definition. -/
theorem IsMat.named {n k : Nat} {A : Arr α} {f : Fin n → Fin k → α} (h : IsMat A f) : ∃ B, A = B ∧ IsMat B f :=
  ⟨A, rfl, h⟩

theorem IsRow.named {k : Nat} {A : Arr α} {f : Fin k → α} (h : IsRow A f) : ∃ B, A = B ∧ IsRow B f :=
  ⟨A, rfl, h⟩

section transfer
variable {n k : Nat} {A : Arr α} {f : Fin n → Fin k → α}

theorem IsMat.get_nat (hA : IsMat A f) {i j : Nat} (hi : i < n) (hj : j < k) : A.get i j = f ⟨i, hi⟩ ⟨j, hj⟩ :=
  hA.get ⟨i, hi⟩ ⟨j, hj⟩

theorem IsMat.clip (hA : IsMat A f) (lo hi : α) :
    IsMat (Arr.clip A lo hi) (fun i j => RealLike.clip (f i j) lo hi) :=
  ⟨hA.ok, hA.r, hA.c, fun i j => by rw [clip_get, hA.get]⟩

theorem IsMat.subs (hA : IsMat A f) (s : α) : IsMat (subs A s) (fun i j => f i j - s) :=
  ⟨hA.ok, hA.r, hA.c, fun i j => by rw [subs_get, hA.get]⟩

theorem IsMat.divs (hA : IsMat A f) (s : α) : IsMat (divs A s) (fun i j => f i j / s) :=
  ⟨hA.ok, hA.r, hA.c, fun i j => by rw [divs_get, hA.get]⟩

theorem IsMat.neg (hA : IsMat A f) : IsMat (Arr.neg A) (fun i j => -(f i j)) :=
  ⟨hA.ok, hA.r, hA.c, fun i j => by rw [neg_get, hA.get]⟩

theorem IsMat.T (hA : IsMat A f) : IsMat (Arr.transpose A) (fun j i => f i j) :=
  ⟨hA.ok, hA.c, hA.r, fun j i => hA.get i j⟩

theorem IsMat.matmul {m : Nat} {B : Arr α} {g : Fin k → Fin m → α} (hA : IsMat A f) (hB : IsMat B g) :
    IsMat (Arr.matmul A B) (fun i j => sumFin fun l => f i l * g l j) := by
  simp only [IsMat, np, hA.rules, hB.rules]

theorem IsMat.meanAxis0 (hA : IsMat A f) : IsRow (meanAxis0 A) (fun j => sumFin (fun i => f i j) / nat n) := by
  simp only [IsRow, np, hA.rules]

end transfer

section square
variable {K : Nat} {L : Arr α} {f : Fin K → Fin K → α}

/-- `np.diag(L).reshape((1, -1))` -/
theorem IsMat.diagRow (hL : IsMat L f) : IsRow (reshapeRow (diagVec L)) (fun b => f b b) := by
  simp only [IsRow, np, hL.rules]

theorem IsMat.fillDiagonal (hL : IsMat L f) : IsMat (fillDiagonal L 0) (fun a b => if a = b then 0 else f a b) := by
  simp only [IsMat, np, hL.rules, Fin.val_inj]

/-- `L[D == 0] = 0` -/
theorem IsMat.setWhere_eqS {D : Arr α} {d : Fin K → Fin K → α} (hL : IsMat L f) (hD : IsMat D d) :
    IsMat (setWhere L (eqS D 0) 0) (fun a b => if beq (d a b) 0 then 0 else f a b) := by
  simp only [IsMat, np, hL.rules, hD.rules]

end square

end Arr

end GemVerif.Np

/-- `name_expr x := e at h`: gives the sub-expression `e` the name `x` (a new, opaque variable) — in the hypothesis `h`,
    which states what is known about `e`, and wherever `e` occurs in the goal (nothing happens when it does not occur
    there).  It is `generalize e = x at h ⊢`, done by `simp only`, which keeps the sharing of the large goal a
    generated definition becomes once every `let` is unfolded.  It names an expression after the unfolding; the `…Gen` proofs
    of the library introduce their names before it (`IsMat.named`, the `…_named` lemmas), where an `obtain` is cheap. -/
macro "name_expr " x:ident " := " e:term " at " h:ident : tactic =>
  `(tactic| (obtain ⟨$x:ident, hx⟩ : ∃ y, $e = y := ⟨_, rfl⟩; rw [hx] at $h:ident; try simp only [hx]; clear hx))
