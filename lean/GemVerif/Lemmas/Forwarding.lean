/-
  C11: looking an estimator up in the translated table, the representative hyperparameter assignments the table
  theorems of `Props/C11` range over, the dispatch of `runAff` on the translated trees (`affTree`: the one shape
  of both geometric GEMINIs) for an arbitrary interpretation `Ops M` of scikit-learn's pairwise functions, and
  `alike`: estimators that agree on the attributes `get_gemini` reads resolve alike (`resolveGemini_alike`).
  No Mathlib.
-/
import GemVerif.Gen.Forwarding

namespace GemVerif.Lemmas.Forwarding
open GemVerif.Model.Forwarding
open GemVerif.Gen.Forwarding (tables estimators aff_MMDGEMINI aff_WassersteinGEMINI kernel_Kauri kernel_KernelRIM)

/-- the translated description of an estimator (an empty description for an unknown name) -/
def est (n : String) : EstDesc :=
  (estimators.find? (·.name == n)).getD ⟨"", [], [], "", none, "", none⟩

/-- a keyword is given (`some v`) or left to its default (`none`) -/
def kw (k : String) : Option Atom → Hyper
  | none => []
  | some v => [(k, .atom v)]

def optAtom : Option Params → Atom
  | none => .none
  | some d => .dict d

/-- `Est(ovo=…, kernel=…, kernel_params=…)`, each keyword optional -/
def mmdHyper (ovo : Option Bool) (kernel : Option Atom) (params : Option Atom) : Hyper :=
  kw "ovo" (ovo.map .bool) ++ kw "kernel" kernel ++ kw "kernel_params" params

/-- `Est(ovo=…, metric=…, metric_params=…)` -/
def wassHyper (ovo : Option Bool) (metric : Option Atom) (params : Option Atom) : Hyper :=
  kw "ovo" (ovo.map .bool) ++ kw "metric" metric ++ kw "metric_params" params

def ovoVals : List (Option Bool) := [none, some false, some true]

/-- omitted / None / two dictionaries -/
def paramVals : List (Option Atom) :=
  [none, some .none, some (.dict [("gamma", "0.3")]), some (.dict [("degree", "2"), ("coef0", "1")])]

/-- omitted, named kernels, `"precomputed"`, a callable, and a name scikit-learn does not know -/
def kernelVals : List (Option Atom) :=
  [none, some (.str "rbf"), some (.str "polynomial"), some (.str "sigmoid"), some (.str "linear"),
   some (.str "precomputed"), some (.fn "f"), some (.str "euclidean")]

/-- omitted, named metrics, `"precomputed"`, a callable, and names the Wasserstein GEMINI does not document -/
def metricVals : List (Option Atom) :=
  [none, some (.str "euclidean"), some (.str "l1"), some (.str "cosine"), some (.str "manhattan"),
   some (.str "precomputed"), some (.fn "f"), some (.str "haversine"), some (.str "rbf")]

def mmdHypers : List Hyper :=
  ovoVals.flatMap fun o => kernelVals.flatMap fun k => paramVals.map fun p => mmdHyper o k p

def wassHypers : List Hyper :=
  ovoVals.flatMap fun o => metricVals.flatMap fun k => paramVals.map fun p => wassHyper o k p

/-- GEMINI instances a user may pass -/
def instances : List GeminiObj := [
  ⟨"MMDGEMINI", "MMDGEMINI", [("epsilon", .tok "1e-12"), ("ovo", .bool true), ("kernel_params", .dict [("gamma", "0.3")]),
    ("kernel", .str "rbf")]⟩,
  ⟨"MMDGEMINI", "MMDGEMINI", [("epsilon", .tok "1e-09"), ("ovo", .bool false), ("kernel_params", .none),
    ("kernel", .str "precomputed")]⟩,
  ⟨"MMDGEMINI", "MMDGEMINI", [("epsilon", .tok "1e-12"), ("ovo", .bool false), ("kernel_params", .none),
    ("kernel", .fn "f")]⟩,
  ⟨"WassersteinGEMINI", "WassersteinGEMINI", [("epsilon", .tok "1e-12"), ("ovo", .bool true), ("metric", .str "l1"),
    ("metric_params", .none)]⟩,
  ⟨"WassersteinGEMINI", "WassersteinGEMINI", [("epsilon", .tok "1e-12"), ("ovo", .bool false), ("metric", .str "precomputed"),
    ("metric_params", .none)]⟩,
  ⟨"MI", "KLGEMINI", [("epsilon", .tok "1e-12"), ("ovo", .bool false)]⟩,
  ⟨"TVGEMINI", "TVGEMINI", [("epsilon", .tok "1e-06"), ("ovo", .bool true)]⟩]

def geminiNames : List String :=
  ["mmd_ova", "mmd_ovo", "wasserstein_ova", "wasserstein_ovo", "kl_ova", "kl_ovo", "mi", "tv_ova", "tv_ovo",
   "hellinger_ova", "hellinger_ovo", "chi2_ova", "chi2_ovo"]

/-- `gemini` omitted, `None`, each of the 13 names, an unknown name, an instance -/
def geminiHypers : List Hyper :=
  [[], [("gemini", .atom .none)]] ++ geminiNames.map (fun s => [("gemini", .atom (.str s))]) ++
  [[("gemini", .atom (.str "mmd"))]] ++ instances.map (fun g => [("gemini", .gem g)])

/-- hyperparameters that must not matter for the GEMINI of RIM / KernelRIM / SparseLinearMI -/
def miHypers : List Hyper :=
  [[], [("base_kernel", .atom (.str "rbf"))], [("base_kernel", .atom (.fn "f")), ("base_kernel_params", .atom (.dict [("gamma", "0.3")]))]]

def mmdEstimators : List String := ["LinearMMD", "MLPMMD", "SparseLinearMMD", "SparseMLPMMD", "CategoricalMMD"]
def wassEstimators : List String := ["LinearWasserstein", "MLPWasserstein", "CategoricalWasserstein"]
def miEstimators : List String := ["RIM", "KernelRIM", "SparseLinearMI"]
def genericEstimators : List String :=
  ["LinearModel", "MLPModel", "SparseLinearModel", "SparseMLPModel", "CategoricalModel", "Douglas"]

/-- the kernel names `MMDGEMINI` documents, `"precomputed"` excluded -/
def namedKernels : List String :=
  ["additive_chi2", "chi2", "cosine", "linear", "poly", "polynomial", "rbf", "laplacian", "sigmoid"]

/-- the metric names `WassersteinGEMINI` documents, `"precomputed"` excluded -/
def namedMetrics : List String := ["cosine", "euclidean", "l2", "l1", "manhattan", "cityblock"]

/-- forget which exception: the documentation only says "rejected" -/
def okOrRejected {ε α : Type} : Except ε α → Except Unit α
  | .ok a => .ok a
  | .error _ => .error ()

/-- the documented reading of a resolved GEMINI object -/
def docOf : Except String GeminiObj → Except Unit GeminiDoc
  | .ok g => match describe g with
      | some d => .ok d
      | none => .error ()
  | .error _ => .error ()

instance {α : Type} [DecidableEq α] : DecidableEq (Except Unit α) := fun a b =>
  match a, b with
  | .ok x, .ok y => if h : x = y then isTrue (by rw [h]) else isFalse (fun e => h (by cases e; rfl))
  | .error _, .error _ => isTrue rfl
  | .ok _, .error _ => isFalse (fun e => by cases e)
  | .error _, .ok _ => isFalse (fun e => by cases e)

section generic
variable {M : Type} (ops : Ops M)

/-- the parameter dictionary handed to scikit-learn: `dict() if p is None else p` -/
def paramsOf : Atom → Params
  | .dict d => d
  | _ => []

/-- `compute_affinity` of the two geometric GEMINIs: the attribute `k` holds the kernel / metric, `kp` its
    parameters, `fn` is the scikit-learn function -/
def affTree (k kp fn : String) : AffTree :=
  .ite (.isCallable k)
    (.ite (.attrNotNone kp) (.warn (.ret (.callAttr k [.X]))) (.ret (.callAttr k [.X])))
    (.ite (.attrEq k "precomputed")
      (.ite .yIsNone (.raise "ValueError") (.ret .y))
      (.ret (.pairwise fn [.X] (.attr k) (.orEmpty kp))))

/-! The interpreter through its equations: one per constructor of the tree, and one per test / expression for each
    form of attribute value the translated trees can meet. -/

theorem runAff_ite_true {attrs : List (String × Atom)} {y : Option M} {t : AffTest} (a b : AffTree)
    (h : evalTest attrs y t = .ok true) : runAff ops attrs y (.ite t a b) = runAff ops attrs y a := by
  rw [runAff, h]

theorem runAff_ite_false {attrs : List (String × Atom)} {y : Option M} {t : AffTest} (a b : AffTree)
    (h : evalTest attrs y t = .ok false) : runAff ops attrs y (.ite t a b) = runAff ops attrs y b := by
  rw [runAff, h]

theorem runAff_ret (attrs : List (String × Atom)) (y : Option M) (e : AffExpr) :
    runAff ops attrs y (.ret e) = ⟨0, evalExpr ops attrs y e⟩ := rfl

theorem runAff_raise (attrs : List (String × Atom)) (y : Option M) (exc : String) :
    runAff ops attrs y (.raise exc) = ⟨0, .error exc⟩ := rfl

theorem runAff_warn (attrs : List (String × Atom)) (y : Option M) (k : AffTree) :
    runAff ops attrs y (.warn k) = ⟨(runAff ops attrs y k).warnings + 1, (runAff ops attrs y k).res⟩ := rfl

section tests
variable {attrs : List (String × Atom)} {y : Option M} {a : String}

theorem evalTest_isCallable_fn {f : String} (h : lookup attrs a = some (.fn f)) :
    evalTest attrs y (.isCallable a) = .ok true := by
  rw [evalTest, h]

theorem evalTest_isCallable_str {s : String} (h : lookup attrs a = some (.str s)) :
    evalTest attrs y (.isCallable a) = .ok false := by
  rw [evalTest, h]

theorem evalTest_attrEq_str {s' : String} (s : String) (h : lookup attrs a = some (.str s')) :
    evalTest attrs y (.attrEq a s) = .ok (s' == s) := by
  rw [evalTest, h]

theorem evalTest_yIsNone : evalTest attrs y .yIsNone = .ok y.isNone := rfl

theorem evalTest_attrNotNone {v : Atom} (h : lookup attrs a = some v) :
    evalTest attrs y (.attrNotNone a) = .ok (decide (v ≠ .none)) := by
  rw [evalTest, h]
  cases v <;> rfl

theorem evalExpr_y : evalExpr ops attrs y .y = .ok y := rfl

theorem evalExpr_callAttr {f : String} (args : List Arg) (h : lookup attrs a = some (.fn f)) :
    evalExpr ops attrs y (.callAttr a args) = .ok (some (ops.call f args)) := by
  rw [evalExpr, h]

/-- `pairwise_*(…, metric=self.a, **(dict() if self.kp is None else self.kp))` with a string metric -/
theorem evalExpr_pairwise_attr {s kp : String} {pa : Atom} (fn : String) (args : List Arg)
    (h : lookup attrs a = some (.str s)) (hp : lookup attrs kp = some pa) (hpa : pa = .none ∨ ∃ d, pa = .dict d) :
    evalExpr ops attrs y (.pairwise fn args (.attr a) (.orEmpty kp))
      = .ok (some (ops.pairwise fn args (.name s) (paramsOf pa))) := by
  rcases hpa with rfl | ⟨d, rfl⟩ <;> simp only [evalExpr, h, hp, paramsOf]

/-- the same without a `**` argument -/
theorem evalExpr_pairwise_attr_noParams {s : String} (fn : String) (args : List Arg)
    (h : lookup attrs a = some (.str s)) :
    evalExpr ops attrs y (.pairwise fn args (.attr a) .noParams) = .ok (some (ops.pairwise fn args (.name s) [])) := by
  simp only [evalExpr, h]

theorem evalExpr_pairwise_const (fn s : String) (args : List Arg) :
    evalExpr ops attrs y (.pairwise fn args (.const s) .noParams) = .ok (some (ops.pairwise fn args (.name s) [])) :=
  rfl

end tests

/-- the branch `if callable(self.k)` of the translated trees: with or without the warning about unused parameters,
    the callable is called -/
theorem runAff_callable {attrs : List (String × Atom)} {y : Option M} {k kp f : String} {pa : Atom} (args : List Arg)
    (rest : AffTree) (hk : lookup attrs k = some (.fn f)) (hp : lookup attrs kp = some pa) :
    (runAff ops attrs y (.ite (.isCallable k)
      (.ite (.attrNotNone kp) (.warn (.ret (.callAttr k args))) (.ret (.callAttr k args))) rest)).res
      = .ok (some (ops.call f args)) := by
  rw [runAff_ite_true ops _ _ (evalTest_isCallable_fn hk)]
  by_cases hn : pa ≠ .none
  · rw [runAff_ite_true ops _ _ ((evalTest_attrNotNone hp).trans (congrArg _ (decide_eq_true hn))), runAff_warn,
      runAff_ret, evalExpr_callAttr ops _ hk]
  · rw [runAff_ite_false ops _ _ ((evalTest_attrNotNone hp).trans (congrArg _ (decide_eq_false hn))), runAff_ret,
      evalExpr_callAttr ops _ hk]

theorem aff_MMDGEMINI_eq : aff_MMDGEMINI = affTree "kernel" "kernel_params" "pairwise_kernels" := rfl

theorem aff_WassersteinGEMINI_eq : aff_WassersteinGEMINI = affTree "metric" "metric_params" "pairwise_distances" := rfl

section affTree
variable {k kp fn : String}

theorem affTree_named (attrs : List (String × Atom)) (s : String) (pa : Atom) (y : Option M)
    (hk : lookup attrs k = some (.str s)) (hs : s ≠ "precomputed")
    (hp : lookup attrs kp = some pa) (hpa : pa = .none ∨ ∃ d, pa = .dict d) :
    runAff ops attrs y (affTree k kp fn) = ⟨0, .ok (some (ops.pairwise fn [.X] (.name s) (paramsOf pa)))⟩ := by
  rw [affTree, runAff_ite_false ops _ _ (evalTest_isCallable_str hk),
    runAff_ite_false ops _ _ ((evalTest_attrEq_str _ hk).trans (congrArg _ (beq_eq_false_iff_ne.mpr hs))),
    runAff_ret, evalExpr_pairwise_attr ops fn _ hk hp hpa]

theorem affTree_precomputed (attrs : List (String × Atom)) (y : M) (hk : lookup attrs k = some (.str "precomputed")) :
    runAff ops attrs (some y) (affTree k kp fn) = ⟨0, .ok (some y)⟩ := by
  rw [affTree, runAff_ite_false ops _ _ (evalTest_isCallable_str hk),
    runAff_ite_true ops _ _ (evalTest_attrEq_str _ hk), runAff_ite_false ops _ _ evalTest_yIsNone, runAff_ret,
    evalExpr_y]

theorem affTree_precomputed_missing (attrs : List (String × Atom)) (hk : lookup attrs k = some (.str "precomputed")) :
    (runAff ops attrs none (affTree k kp fn)).res = .error "ValueError" := by
  rw [affTree, runAff_ite_false ops _ _ (evalTest_isCallable_str hk),
    runAff_ite_true ops _ _ (evalTest_attrEq_str _ hk), runAff_ite_true ops _ _ evalTest_yIsNone, runAff_raise]

theorem affTree_callable (attrs : List (String × Atom)) (f : String) (pa : Atom) (y : Option M)
    (hk : lookup attrs k = some (.fn f)) (hp : lookup attrs kp = some pa) :
    (runAff ops attrs y (affTree k kp fn)).res = .ok (some (ops.call f [.X])) :=
  runAff_callable ops [.X] _ hk hp

theorem affTree_precomputed_eq_named (aN aP : List (String × Atom)) (s : String) (pa : Atom) (y : Option M)
    (hN : lookup aN k = some (.str s)) (hs : s ≠ "precomputed")
    (hp : lookup aN kp = some pa) (hpa : pa = .none ∨ ∃ d, pa = .dict d)
    (hP : lookup aP k = some (.str "precomputed")) :
    runAff ops aP (some (ops.pairwise fn [.X] (.name s) (paramsOf pa))) (affTree k kp fn)
      = runAff ops aN y (affTree k kp fn) := by
  rw [affTree_named ops aN s pa y hN hs hp hpa, affTree_precomputed ops aP _ hP]

end affTree

theorem mmd_precomputed_missing (attrs : List (String × Atom))
    (hk : lookup attrs "kernel" = some (.str "precomputed")) :
    (runAff ops attrs none aff_MMDGEMINI).res = .error "ValueError" :=
  affTree_precomputed_missing ops attrs hk

theorem wass_precomputed_missing (attrs : List (String × Atom))
    (hk : lookup attrs "metric" = some (.str "precomputed")) :
    (runAff ops attrs none aff_WassersteinGEMINI).res = .error "ValueError" :=
  affTree_precomputed_missing ops attrs hk

theorem estOwnKernel_eq {e : EstDesc} {h : Hyper} {t : AffTree} {attrs : List (String × Val)}
    (ht : e.ownKernel = some t) (ha : estAttrs e h = .ok attrs) (y : Option M) :
    estOwnKernel ops e h y
      = runAff ops (attrs.filterMap fun (a, v) => match v with | .atom x => some (a, x) | .gem _ => none) y t := by
  unfold estOwnKernel
  rw [ht, ha]
  rfl

theorem estAffinity_eq {T : Tables} {e : EstDesc} {h : Hyper} {g : GeminiObj} (hg : resolveGemini T e h = .ok g)
    (y : Option M) : estAffinity T ops e h y = computeAffinity T ops g y := by
  unfold estAffinity
  rw [hg]

theorem kauri_named (attrs : List (String × Atom)) (s : String) (y : Option M)
    (hk : lookup attrs "kernel" = some (.str s)) (hs : s ≠ "precomputed") :
    runAff ops attrs y kernel_Kauri = ⟨0, .ok (some (ops.pairwise "pairwise_kernels" [.X] (.name s) []))⟩ := by
  rw [kernel_Kauri,
    runAff_ite_false ops _ _ ((evalTest_attrEq_str _ hk).trans (congrArg _ (beq_eq_false_iff_ne.mpr hs))),
    runAff_ret, evalExpr_pairwise_attr_noParams ops _ _ hk]

theorem kauri_precomputed (attrs : List (String × Atom)) (y : M)
    (hk : lookup attrs "kernel" = some (.str "precomputed")) :
    runAff ops attrs (some y) kernel_Kauri = ⟨0, .ok (some y)⟩ := by
  rw [kernel_Kauri, runAff_ite_true ops _ _ (evalTest_attrEq_str _ hk), runAff_ite_false ops _ _ evalTest_yIsNone,
    runAff_ret, evalExpr_y]

theorem kauri_precomputed_missing (attrs : List (String × Atom))
    (hk : lookup attrs "kernel" = some (.str "precomputed")) :
    runAff ops attrs none kernel_Kauri
      = ⟨1, .ok (some (ops.pairwise "pairwise_kernels" [.X] (.name "linear") []))⟩ := by
  rw [kernel_Kauri, runAff_ite_true ops _ _ (evalTest_attrEq_str _ hk), runAff_ite_true ops _ _ evalTest_yIsNone,
    runAff_warn, runAff_ret, evalExpr_pairwise_const]

theorem kernelrim_named (attrs : List (String × Atom)) (s : String) (pa : Atom) (y : Option M)
    (hk : lookup attrs "base_kernel" = some (.str s))
    (hp : lookup attrs "base_kernel_params" = some pa) (hpa : pa = .none ∨ ∃ d, pa = .dict d) :
    runAff ops attrs y kernel_KernelRIM
      = ⟨0, .ok (some (ops.pairwise "pairwise_kernels" [.X, .train] (.name s) (paramsOf pa)))⟩ := by
  rw [kernel_KernelRIM, runAff_ite_false ops _ _ (evalTest_isCallable_str hk), runAff_ret,
    evalExpr_pairwise_attr ops _ _ hk hp hpa]

theorem kernelrim_callable (attrs : List (String × Atom)) (f : String) (pa : Atom) (y : Option M)
    (hk : lookup attrs "base_kernel" = some (.fn f)) (hp : lookup attrs "base_kernel_params" = some pa) :
    (runAff ops attrs y kernel_KernelRIM).res = .ok (some (ops.call f [.X, .train])) :=
  runAff_callable ops [.X, .train] _ hk hp

end generic

/-! `get_gemini` reads one to three of an estimator's dozen attributes, and the estimators of one family differ only
    in the others.  `alike keys e r` is the Boolean test that `e` and `r` agree on what `get_gemini` looks at; then
    they resolve alike on every assignment of the keywords `keys` (`resolveGemini_alike`).  So a fact about a family
    is evaluated once, on `slim r`: a representative `r` without the bindings that are not read. -/

/-- the attributes a `get_gemini` body reads -/
def gemReads : GemTree → List String
  | .ite (.attrIsNone a) t e | .ite (.attrIsStr a) t e => a :: (gemReads t ++ gemReads e)
  | .ret (.registryConst _) => []
  | .ret (.registryAttr a) | .ret (.attr a) => [a]
  | .ret (.build _ kws) => kws.map (·.2)

theorem runGem_congr (T : Tables) {attrs attrs' : List (String × Val)} :
    ∀ t : GemTree, (∀ a ∈ gemReads t, lookup attrs' a = lookup attrs a) → runGem T attrs' t = runGem T attrs t
  | .ite (.attrIsNone a) t e, hl | .ite (.attrIsStr a) t e, hl => by
    simp only [gemReads, List.mem_cons, List.mem_append] at hl
    simp only [runGem, hl a (Or.inl rfl), runGem_congr T t fun b hb => hl b (Or.inr (Or.inl hb)),
      runGem_congr T e fun b hb => hl b (Or.inr (Or.inr hb))]
  | .ret (.registryConst _), _ => rfl
  | .ret (.registryAttr a), hl | .ret (.attr a), hl => by
    simp only [runGem, evalGemExpr, hl a (List.mem_singleton_self a)]
  | .ret (.build cls kws), hl => by
    simp only [runGem, evalGemExpr]
    congr 1
    -- the keyword arguments are collected by a fold that looks each attribute of `kws` up
    induction kws with
    | nil => rfl
    | cons kw kws ih =>
      simp only [gemReads, List.map_cons, List.mem_cons] at hl
      rw [List.foldr_cons, List.foldr_cons, ih fun a ha => hl a (Or.inr (by simpa [gemReads] using ha)),
        hl kw.2 (Or.inl rfl)]

/-- the description with only those attribute bindings that its `get_gemini` reads -/
def slim (e : EstDesc) : EstDesc :=
  { e with binds := e.binds.filter fun b => ((e.getGemini.map gemReads).getD []).contains b.1 }

/-- the value an attribute bound to `s` holds after `Est(**h)` -/
def srcValue (e : EstDesc) (h : Hyper) : Src → Val
  | .const c => .atom c
  | .param p => (lookup h p).getD (.atom ((lookup e.params p).getD .none))

/-- every attribute is bound to a literal or to a parameter of the constructor -/
def wellBound (e : EstDesc) : Bool :=
  e.binds.all fun b => match b.2 with
    | .param p => (lookup e.params p).isSome
    | .const _ => true

theorem filterMap_eq_map_of {α β : Type} {f : α → Option β} {g : α → β} :
    ∀ {l : List α}, (∀ x ∈ l, f x = some (g x)) → l.filterMap f = l.map g
  | [], _ => rfl
  | x :: l, h => by
    rw [List.filterMap_cons, h x List.mem_cons_self, List.map_cons,
      filterMap_eq_map_of fun y hy => h y (List.mem_cons_of_mem _ hy)]

theorem estAttrs_eq {e : EstDesc} {h : Hyper} (hw : wellBound e = true)
    (hk : (h.all fun kw => (lookup e.params kw.1).isSome) = true) :
    estAttrs e h = .ok (e.binds.map fun b => (b.1, srcValue e h b.2)) := by
  unfold estAttrs
  rw [if_pos hk]
  refine congrArg _ (filterMap_eq_map_of ?_)
  rintro ⟨a, s⟩ hb
  have hs := List.all_eq_true.1 hw _ hb
  cases s with
  | const c => rfl
  | param p =>
    dsimp only [srcValue] at hs ⊢
    cases lookup h p with
    | some v => rfl
    | none =>
      obtain ⟨d, hd⟩ := Option.isSome_iff_exists.1 hs
      rw [hd]
      rfl

theorem lookup_map_snd {α β : Type} (g : α → β) (l : List (String × α)) (a : String) :
    lookup (l.map fun b => (b.1, g b.2)) a = (lookup l a).map g := by
  induction l with
  | nil => rfl
  | cons b l ih =>
    simp only [List.map_cons, lookup, ih]
    split <;> rfl

/-- every keyword of `h` is one of `keys` -/
def keysIn (keys : List String) (h : Hyper) : Bool := h.all fun kw => keys.contains kw.1

/-- `e` and `r` know the keywords `keys`, have the same `get_gemini` body, and bind each attribute it reads to the
    same source with the same default -/
def alike (keys : List String) (e r : EstDesc) : Bool :=
  wellBound e && wellBound r && decide (e.getGemini = r.getGemini) &&
  keys.all (fun k => (lookup e.params k).isSome && (lookup r.params k).isSome) &&
  ((e.getGemini.map gemReads).getD []).all fun a =>
    decide (lookup e.binds a = lookup r.binds a) &&
    match lookup e.binds a with
    | some (.param p) => decide (lookup e.params p = lookup r.params p)
    | _ => true

theorem resolveGemini_alike (T : Tables) {keys : List String} {e r : EstDesc} (ha : alike keys e r = true)
    {h : Hyper} (hk : keysIn keys h = true) : resolveGemini T e h = resolveGemini T r h := by
  simp only [alike, Bool.and_eq_true, decide_eq_true_eq, List.all_eq_true] at ha
  obtain ⟨⟨⟨⟨hw, hw'⟩, hg⟩, hkeys⟩, hr⟩ := ha
  have hkw := fun kw hm => hkeys kw.1 (List.contains_iff_mem.1 (List.all_eq_true.1 hk kw hm))
  unfold resolveGemini
  rw [estAttrs_eq hw (List.all_eq_true.2 fun kw hm => (hkw kw hm).1),
    estAttrs_eq hw' (List.all_eq_true.2 fun kw hm => (hkw kw hm).2), ← hg]
  cases hgt : e.getGemini with
  | none => rfl
  | some t =>
    refine runGem_congr T t fun a ha => ?_
    obtain ⟨hb, hp⟩ := hr a (by rw [hgt]; exact ha)
    rw [lookup_map_snd, lookup_map_snd, ← hb]
    cases hs : lookup e.binds a with
    | none => rfl
    | some s =>
      cases s with
      | const c => rfl
      | param p =>
        rw [hs] at hp
        simp only [Option.map_some, srcValue, of_decide_eq_true hp]

theorem estAffinity_alike {M : Type} (T : Tables) (ops : Ops M) {keys : List String} {e r : EstDesc}
    (ha : alike keys e r = true) {h : Hyper} (hk : keysIn keys h = true) (y : Option M) :
    estAffinity T ops e h y = estAffinity T ops r h y := by
  unfold estAffinity
  rw [resolveGemini_alike T ha hk]

/-- `MMDGEMINI(ovo=…, kernel=…, kernel_params=…)` through the translated constructor -/
def buildMMD (ovo : Bool) (k pa : Atom) : Except String GeminiObj :=
  match findCtor tables "MMDGEMINI" with
  | some c => construct c [("ovo", .bool ovo), ("kernel", k), ("kernel_params", pa)]
  | none => .error "NameError"

/-- `WassersteinGEMINI(ovo=…, metric=…, metric_params=…)` through the translated constructor -/
def buildWass (ovo : Bool) (k pa : Atom) : Except String GeminiObj :=
  match findCtor tables "WassersteinGEMINI" with
  | some c => construct c [("ovo", .bool ovo), ("metric", k), ("metric_params", pa)]
  | none => .error "NameError"

/-- the object the MMD constructor yields once its checks pass -/
def mmdObj (ovo : Bool) (k pa : Atom) : GeminiObj :=
  ⟨"MMDGEMINI", "MMDGEMINI", [("epsilon", .tok "1e-12"), ("ovo", .bool ovo), ("kernel_params", pa), ("kernel", k)]⟩

def wassObj (ovo : Bool) (k pa : Atom) : GeminiObj :=
  ⟨"WassersteinGEMINI", "WassersteinGEMINI",
    [("epsilon", .tok "1e-12"), ("ovo", .bool ovo), ("metric", k), ("metric_params", pa)]⟩

def mmdKeys : List String := ["ovo", "kernel", "kernel_params"]
def wassKeys : List String := ["ovo", "metric", "metric_params"]

/-- The five MMD estimators forward like `LinearMMD`, the three Wasserstein ones like `LinearWasserstein`, each
    generic one like itself, all without the bindings that are not read. -/
theorem families_alike :
    (∀ e ∈ mmdEstimators, alike mmdKeys (est e) (slim (est "LinearMMD")) = true) ∧
    (∀ e ∈ wassEstimators, alike wassKeys (est e) (slim (est "LinearWasserstein")) = true) ∧
    (∀ e ∈ genericEstimators, alike ["gemini"] (est e) (slim (est e)) = true) := by
  decide +kernel

theorem wass_not_mmd : ∀ e ∈ wassEstimators, e ∉ mmdEstimators := by
  decide +kernel

theorem mmd_est_builds (ovo : Bool) (k pa : Atom) :
    ∀ e ∈ mmdEstimators, resolveGemini tables (est e) (mmdHyper (some ovo) (some k) (some pa)) = buildMMD ovo k pa :=
  fun e he => (resolveGemini_alike tables (families_alike.1 e he) rfl).trans rfl

theorem wass_est_builds (ovo : Bool) (k pa : Atom) :
    ∀ e ∈ wassEstimators, resolveGemini tables (est e) (wassHyper (some ovo) (some k) (some pa)) = buildWass ovo k pa :=
  fun e he => (resolveGemini_alike tables (families_alike.2.1 e he) rfl).trans rfl

theorem generic_est_keeps_instance (g : GeminiObj) :
    ∀ e ∈ genericEstimators, resolveGemini tables (est e) [("gemini", .gem g)] = .ok g := by
  intro e he
  simp only [genericEstimators, List.mem_cons, List.not_mem_nil, or_false] at he
  rcases he with rfl | rfl | rfl | rfl | rfl | rfl <;> rfl

theorem optAtom_cases (p : Option Params) : optAtom p = .none ∨ ∃ d, optAtom p = .dict d := by
  cases p
  · exact Or.inl rfl
  · exact Or.inr ⟨_, rfl⟩

theorem buildMMD_str (ovo : Bool) (pa : Atom) (hpa : pa = .none ∨ ∃ d, pa = .dict d) :
    ∀ s ∈ "precomputed" :: namedKernels, buildMMD ovo (.str s) pa = .ok (mmdObj ovo (.str s) pa) := by
  intro s hs
  simp only [namedKernels, List.mem_cons, List.not_mem_nil, or_false] at hs
  rcases hpa with rfl | ⟨d, rfl⟩ <;>
    rcases hs with rfl | rfl | rfl | rfl | rfl | rfl | rfl | rfl | rfl | rfl <;> rfl

theorem buildMMD_fn (ovo : Bool) (f : String) (p : Option Params) :
    buildMMD ovo (.fn f) (optAtom p) = .ok (mmdObj ovo (.fn f) (optAtom p)) := by
  cases p <;> rfl

theorem buildWass_str (ovo : Bool) (pa : Atom) (hpa : pa = .none ∨ ∃ d, pa = .dict d) :
    ∀ s ∈ "precomputed" :: namedMetrics, buildWass ovo (.str s) pa = .ok (wassObj ovo (.str s) pa) := by
  intro s hs
  simp only [namedMetrics, List.mem_cons, List.not_mem_nil, or_false] at hs
  rcases hpa with rfl | ⟨d, rfl⟩ <;>
    rcases hs with rfl | rfl | rfl | rfl | rfl | rfl | rfl <;> rfl

theorem mmd_est_obj (ovo : Bool) (pa : Atom) (hpa : pa = .none ∨ ∃ d, pa = .dict d) :
    ∀ e ∈ mmdEstimators, ∀ s ∈ "precomputed" :: namedKernels,
      resolveGemini tables (est e) (mmdHyper (some ovo) (some (.str s)) (some pa)) = .ok (mmdObj ovo (.str s) pa) :=
  fun e he s hs => (mmd_est_builds ovo _ _ e he).trans (buildMMD_str ovo pa hpa s hs)

theorem wass_est_obj (ovo : Bool) (pa : Atom) (hpa : pa = .none ∨ ∃ d, pa = .dict d) :
    ∀ e ∈ wassEstimators, ∀ s ∈ "precomputed" :: namedMetrics,
      resolveGemini tables (est e) (wassHyper (some ovo) (some (.str s)) (some pa)) = .ok (wassObj ovo (.str s) pa) :=
  fun e he s hs => (wass_est_builds ovo _ _ e he).trans (buildWass_str ovo pa hpa s hs)

theorem ne_precomputed : ∀ s ∈ namedKernels ++ namedMetrics, s ≠ "precomputed" := by
  decide +kernel

theorem paramsOf_optAtom (p : Option Params) : paramsOf (optAtom p) = p.getD [] := by
  cases p <;> rfl

theorem optParams_optAtom (p : Option Params) : optParams (some (optAtom p)) = some p := by
  cases p <;> rfl

section affinity
variable {M : Type} (ops : Ops M)

theorem computeAffinity_MMDGEMINI {g : GeminiObj} (h : g.ctor = "MMDGEMINI") (y : Option M) :
    computeAffinity tables ops g y = runAff ops g.attrs y (affTree "kernel" "kernel_params" "pairwise_kernels") := by
  unfold computeAffinity
  rw [h]
  rfl

theorem computeAffinity_WassersteinGEMINI {g : GeminiObj} (h : g.ctor = "WassersteinGEMINI") (y : Option M) :
    computeAffinity tables ops g y = runAff ops g.attrs y (affTree "metric" "metric_params" "pairwise_distances") := by
  unfold computeAffinity
  rw [h]
  rfl

theorem computeAffinity_mmdObj (ovo : Bool) (k pa : Atom) (y : Option M) :
    computeAffinity tables ops (mmdObj ovo k pa) y
      = runAff ops (mmdObj ovo k pa).attrs y GemVerif.Gen.Forwarding.aff_MMDGEMINI :=
  computeAffinity_MMDGEMINI ops rfl y

theorem computeAffinity_wassObj (ovo : Bool) (k pa : Atom) (y : Option M) :
    computeAffinity tables ops (wassObj ovo k pa) y
      = runAff ops (wassObj ovo k pa).attrs y GemVerif.Gen.Forwarding.aff_WassersteinGEMINI :=
  computeAffinity_WassersteinGEMINI ops rfl y

end affinity

end GemVerif.Lemmas.Forwarding
