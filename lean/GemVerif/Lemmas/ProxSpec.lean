/-
  C05 — the documented meaning of the proximal operators (independent of the model); the group
  soft-threshold is a strong minimiser in any real inner-product space (from the subgradient
  condition); the scalar inequalities behind KKT-sufficiency for the LassoNet HIER-PROX problem
  (`Props.C05.hier_kkt_optimal`).
-/
import Mathlib.Analysis.InnerProductSpace.Basic
import Mathlib.Analysis.SpecialFunctions.Sqrt

namespace GemVerif.Spec.Prox

variable {E : Type*} [NormedAddCommGroup E] [InnerProductSpace ℝ E]

/-- penalised problem of the group lasso: `½‖z − w‖² + α‖z‖` -/
noncomputable def glObj (w : E) (α : ℝ) (z : E) : ℝ := 1 / 2 * ‖z - w‖ ^ 2 + α * ‖z‖

/-- group soft-threshold: `0` if `‖w‖ ≤ α`, else `w` shrunk radially by `α` -/
noncomputable def glProx (w : E) (α : ℝ) : E := if ‖w‖ ≤ α then 0 else (1 - α / ‖w‖) • w

theorem glProx_of_le {w : E} {α : ℝ} (h : ‖w‖ ≤ α) : glProx w α = 0 := if_pos h

theorem glProx_of_lt {w : E} {α : ℝ} (h : α < ‖w‖) : glProx w α = (1 - α / ‖w‖) • w := if_neg (not_le.mpr h)

/-- the soft-threshold as the code computes it: one radial factor `max(‖w‖ − α, 0) / ‖w‖`
    (`0 / 0 = 0` at `w = 0`), for every `α` -/
theorem glProx_eq_smul (w : E) (α : ℝ) : glProx w α = (max (‖w‖ - α) 0 / ‖w‖) • w := by
  unfold glProx
  split_ifs with h
  · rw [max_eq_right (sub_nonpos.mpr h), zero_div, zero_smul]
  · rcases eq_or_ne w 0 with rfl | h0
    · rw [smul_zero, smul_zero]
    · rw [max_eq_left (sub_nonneg.mpr (not_le.mp h).le), sub_div, div_self (norm_ne_zero_iff.mpr h0)]

theorem glProx_zero (w : E) : glProx w 0 = w := by
  rcases (norm_nonneg w).eq_or_lt with h0 | h0
  · rw [glProx_of_le h0.symm.le, norm_eq_zero.mp h0.symm]
  · rw [glProx_of_lt h0, zero_div, sub_zero, one_smul]

theorem norm_glProx (w : E) {α : ℝ} (hα : 0 ≤ α) : ‖glProx w α‖ = max (‖w‖ - α) 0 := by
  rcases le_or_gt ‖w‖ α with h | h
  · rw [glProx_of_le h, norm_zero, max_eq_right (sub_nonpos.mpr h)]
  · have hw : 0 < ‖w‖ := hα.trans_lt h
    rw [glProx_of_lt h, norm_smul_of_nonneg (sub_nonneg.mpr ((div_le_one hw).mpr h.le)),
      max_eq_left (sub_nonneg.mpr h.le), sub_mul, one_mul, div_mul_cancel₀ _ hw.ne']

/-- Subgradient characterisation of the minimiser: `p` with `‖w − p‖ ≤ α` and `⟪w − p, p⟫ = α‖p‖`
    (that is, `w − p ∈ α ∂‖·‖(p)`) is a strong minimiser of `glObj w α`.  Cauchy–Schwarz gives
    `⟪w − p, z⟫ ≤ α‖z‖`; the rest is the expansion of `‖z − w‖²` around `p`. -/
theorem glObj_strong_min_of_subgradient {w p : E} {α : ℝ} (hg : ‖w - p‖ ≤ α)
    (hp : inner ℝ (w - p) p = α * ‖p‖) (z : E) :
    glObj w α p + 1 / 2 * ‖z - p‖ ^ 2 ≤ glObj w α z := by
  have hcs : inner ℝ (w - p) z ≤ α * ‖z‖ :=
    (real_inner_le_norm _ _).trans (mul_le_mul_of_nonneg_right hg (norm_nonneg z))
  unfold glObj
  rw [← sub_sub_sub_cancel_right z w p, norm_sub_sq_real (z - p), real_inner_comm, inner_sub_right, norm_sub_rev p w]
  linear_combination hcs - hp

theorem sub_glProx_of_lt {w : E} {α : ℝ} (h : α < ‖w‖) : w - glProx w α = (α / ‖w‖) • w := by
  rw [glProx_of_lt h, sub_smul, one_smul, sub_sub_cancel]

theorem glProx_strong_min (w : E) {α : ℝ} (hα : 0 ≤ α) (z : E) :
    glObj w α z ≥ glObj w α (glProx w α) + 1 / 2 * ‖z - glProx w α‖ ^ 2 := by
  rcases le_or_gt ‖w‖ α with h | h
  · refine glObj_strong_min_of_subgradient ?_ ?_ z
    · rwa [glProx_of_le h, sub_zero]
    · rw [glProx_of_le h, inner_zero_right, norm_zero, mul_zero]
  · have hw : 0 < ‖w‖ := hα.trans_lt h
    have ht : 0 ≤ 1 - α / ‖w‖ := sub_nonneg.mpr ((div_le_one hw).mpr h.le)
    refine glObj_strong_min_of_subgradient ?_ ?_ z
    · rw [sub_glProx_of_lt h, norm_smul_of_nonneg (div_nonneg hα hw.le), div_mul_cancel₀ _ hw.ne']
    · rw [sub_glProx_of_lt h, glProx_of_lt h, norm_smul_of_nonneg ht, real_inner_smul_left, real_inner_smul_right,
        real_inner_self_eq_norm_sq, sq, ← mul_assoc _ ‖w‖, mul_left_comm, div_mul_cancel₀ _ hw.ne', mul_comm]

theorem glProx_unique (w : E) {α : ℝ} (hα : 0 ≤ α) (z : E)
    (hz : glObj w α z ≤ glObj w α (glProx w α)) : z = glProx w α := by
  have h := glProx_strong_min w hα z
  have h0 : ‖z - glProx w α‖ ^ 2 ≤ 0 := by linear_combination 2 * h + 2 * hz
  exact sub_eq_zero.mp (norm_eq_zero.mp ((pow_eq_zero_iff two_ne_zero).mp (h0.antisymm (sq_nonneg _))))

theorem glProx_minimises (w : E) {α : ℝ} (hα : 0 ≤ α) (z : E) :
    glObj w α (glProx w α) ≤ glObj w α z := by
  linear_combination glProx_strong_min w hα z + (1 / 2) * sq_nonneg ‖z - glProx w α‖

theorem norm_smul_sub_self_sq (x : ℝ) (v : E) : ‖x • v - v‖ ^ 2 = (x * ‖v‖ - ‖v‖) ^ 2 := by
  rw [← sub_one_mul, ← sq_abs (_ * _), abs_mul, abs_norm, ← Real.norm_eq_abs, ← norm_smul, sub_smul, one_smul]

variable {ι : Type*} [Fintype ι]

/-- penalised problem of the LassoNet hierarchical proximal step for one feature (or group):
    `½‖β − v‖² + ½‖θ − u‖² + α‖β‖` -/
noncomputable def hObj (v : E) (u : ι → ℝ) (α : ℝ) (β : E) (θ : ι → ℝ) : ℝ :=
  1 / 2 * ‖β - v‖ ^ 2 + 1 / 2 * ∑ j, (θ j - u j) ^ 2 + α * ‖β‖

/-- hierarchy constraint: every hidden weight is bounded by `M` times the norm of the skip weights -/
def Feasible (M : ℝ) (β : E) (θ : ι → ℝ) : Prop := ∀ j, |θ j| ≤ M * ‖β‖

omit [InnerProductSpace ℝ E] in
theorem hObj_nonneg (v : E) (u : ι → ℝ) {α : ℝ} (hα : 0 ≤ α) (β : E) (θ : ι → ℝ) : 0 ≤ hObj v u α β θ := by
  have := Finset.sum_nonneg fun j (_ : j ∈ Finset.univ) => sq_nonneg (θ j - u j)
  exact add_nonneg (add_nonneg (mul_nonneg one_half_pos.le (sq_nonneg _)) (mul_nonneg one_half_pos.le this))
    (mul_nonneg hα (norm_nonneg β))

omit [InnerProductSpace ℝ E] in
theorem hObj_self (v : E) (u : ι → ℝ) (α : ℝ) : hObj v u α v u = α * ‖v‖ := by
  unfold hObj
  simp only [sub_self, norm_zero, ne_eq, OfNat.ofNat_ne_zero, not_false_eq_true, zero_pow, mul_zero,
    Finset.sum_const_zero, zero_add]

/-- clipping `u` to `[-t, t]` written as the code does: `(±1) · min(|u|, t)` -/
noncomputable def clipPM (t x : ℝ) : ℝ := (if 0 ≤ x then 1 else -1) * min |x| t

theorem clipPM_sub_sq (t x : ℝ) : (clipPM t x - x) ^ 2 = (max (|x| - t) 0) ^ 2 := by
  have hm : max (|x| - t) 0 = |x| - min |x| t := by
    rw [← sub_self |x|, max_sub_sub_left, min_comm]
  unfold clipPM
  rw [hm]
  split_ifs with hx
  · rw [abs_of_nonneg hx]
    ring
  · rw [abs_of_neg (not_le.mp hx)]
    ring

theorem abs_clipPM_le {t : ℝ} (ht : 0 ≤ t) (x : ℝ) : |clipPM t x| ≤ t := by
  unfold clipPM
  have h0 : 0 ≤ min |x| t := le_min (abs_nonneg x) ht
  by_cases hx : 0 ≤ x
  · rw [if_pos hx, one_mul, abs_of_nonneg h0]; exact min_le_right _ _
  · rw [if_neg hx, neg_one_mul, abs_neg, abs_of_nonneg h0]; exact min_le_right _ _

/-- `b = max s 0` is the projection of `s` on `[0, ∞)`, as a variational inequality -/
theorem max_zero_variational {b s c : ℝ} (hb : b = max s 0) (hc : 0 ≤ c) : 0 ≤ (c - b) * (b - s) := by
  rcases le_total s 0 with h | h
  · rw [hb, max_eq_right h, sub_zero, zero_sub]; exact mul_nonneg hc (neg_nonneg.mpr h)
  · rw [hb, max_eq_left h, sub_self, mul_zero]

/-- tangent of the convex `q ↦ ½ q²` at `p₊`, evaluated at a lower bound `a` of `q` -/
theorem half_sq_tangent {p a q : ℝ} (ha : a ≤ q) :
    1 / 2 * (max p 0) ^ 2 - max p 0 * (p - a) ≤ 1 / 2 * q ^ 2 := by
  rcases le_total p 0 with hp | hp
  · rw [max_eq_right hp]
    linear_combination (1 / 2) * sq_nonneg q
  · rw [max_eq_left hp]
    linear_combination (1 / 2) * sq_nonneg (p - q) + mul_le_mul_of_nonneg_left ha hp

/-- tangent-line inequality for `t ↦ ½ (a − t)₊²` (convexity), with the clipping bound folded in:
    any `θ` with `|θ| ≤ M c` is at least as far from `x` as the tangent at `M b` predicts. -/
theorem coord_tangent {M b c x θ : ℝ} (hθ : |θ| ≤ M * c) :
    1 / 2 * (max (|x| - M * b) 0) ^ 2 - max (|x| - M * b) 0 * (M * (c - b)) ≤ 1 / 2 * (θ - x) ^ 2 := by
  have h1 : |x| - M * c ≤ |θ - x| := by
    rw [abs_sub_comm]
    linear_combination abs_sub_abs_le_abs_sub x θ + hθ
  have := half_sq_tangent (p := |x| - M * b) h1
  rwa [sq_abs, show |x| - M * b - (|x| - M * c) = M * (c - b) by ring] at this

/-! ### matrix-level objectives (features on the rows; a group is a list of rows) -/

variable {d h k : ℕ}

/-- squared Frobenius distance of two matrices on the rows of group `g` -/
noncomputable def blockDist (Z W : Fin d → Fin h → ℝ) (g : List (Fin d)) : ℝ :=
  ∑ q : Fin g.length, ∑ j, (Z (g.get q) j - W (g.get q) j) ^ 2

/-- 2-norm of the stacked rows of group `g` -/
noncomputable def blockNorm (Z : Fin d → Fin h → ℝ) (g : List (Fin d)) : ℝ :=
  Real.sqrt (∑ q : Fin g.length, ∑ j, Z (g.get q) j ^ 2)

/-- group-lasso penalised problem restricted to group `g` -/
noncomputable def glGroupObj (W : Fin d → Fin h → ℝ) (α : ℝ) (Z : Fin d → Fin h → ℝ) (g : List (Fin d)) : ℝ :=
  1 / 2 * blockDist Z W g + α * blockNorm Z g

/-- group-lasso penalised problem of the whole matrix: `½‖Z − W‖_F² + α Σ_g ‖Z_g‖₂` -/
noncomputable def glMatObj (groups : List (List (Fin d))) (W : Fin d → Fin h → ℝ) (α : ℝ)
    (Z : Fin d → Fin h → ℝ) : ℝ := (groups.map (glGroupObj W α Z)).sum

/-- HIER-PROX penalised problem restricted to group `g` -/
noncomputable def hGroupObj (Ws : Fin d → Fin k → ℝ) (W1 : Fin d → Fin h → ℝ) (α : ℝ)
    (B : Fin d → Fin k → ℝ) (T : Fin d → Fin h → ℝ) (g : List (Fin d)) : ℝ :=
  1 / 2 * blockDist B Ws g + 1 / 2 * blockDist T W1 g + α * blockNorm B g

/-- hierarchy constraint on group `g`: every hidden weight of the group is bounded by `M` times
    the norm of the group's skip weights -/
def GroupFeasible (M : ℝ) (B : Fin d → Fin k → ℝ) (T : Fin d → Fin h → ℝ) (g : List (Fin d)) : Prop :=
  ∀ (q : Fin g.length) (j : Fin h), |T (g.get q) j| ≤ M * blockNorm B g

/-- HIER-PROX penalised problem of the whole pair of matrices -/
noncomputable def hMatObj (groups : List (List (Fin d))) (Ws : Fin d → Fin k → ℝ) (W1 : Fin d → Fin h → ℝ)
    (α : ℝ) (B : Fin d → Fin k → ℝ) (T : Fin d → Fin h → ℝ) : ℝ :=
  (groups.map (hGroupObj Ws W1 α B T)).sum

/-- 2-norm of a row given by its coordinates -/
noncomputable def rowNorm {n : ℕ} (z : Fin n → ℝ) : ℝ := Real.sqrt (∑ j, z j ^ 2)

/-- row-wise (ungrouped) group-lasso problem: `Σ_i (½ Σ_j (Z_ij − W_ij)² + α ‖Z_i‖₂)` -/
noncomputable def glRowsObj (W : Fin d → Fin h → ℝ) (α : ℝ) (Z : Fin d → Fin h → ℝ) : ℝ :=
  ∑ i, (1 / 2 * ∑ j, (Z i j - W i j) ^ 2 + α * rowNorm (Z i))

/-- row-wise HIER-PROX problem -/
noncomputable def hRowsObj (Ws : Fin d → Fin k → ℝ) (W1 : Fin d → Fin h → ℝ) (α : ℝ)
    (B : Fin d → Fin k → ℝ) (T : Fin d → Fin h → ℝ) : ℝ :=
  ∑ i, (1 / 2 * ∑ c, (B i c - Ws i c) ^ 2 + 1 / 2 * ∑ j, (T i j - W1 i j) ^ 2 + α * rowNorm (B i))

/-- the property's scope for one feature (or flattened group) of the hierarchical operator: non-zero
    skip weights, or zero skip weights together with zero hidden weights (and `α ≥ 0`; on IEEE
    doubles `α > 0` is needed, see `Props/C05.lean`) -/
def InScope {k h : ℕ} (v : Fin k → ℝ) (u : Fin h → ℝ) (α : ℝ) : Prop := v ≠ 0 ∨ (v = 0 ∧ u = 0 ∧ 0 ≤ α)

end GemVerif.Spec.Prox
