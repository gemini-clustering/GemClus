/-
  For C13, Wasserstein GEMINI (`Props/C13Wass.lean`): invariances, bounds and degenerate cases of `wassScore` /
  `wassGrad`, modulo explicit hypotheses on POT's `ot.emd2` (the parameter `emd2`), each with a witness.
-/
import GemVerif.Lemmas.GeminiBlocks
import GemVerif.Lemmas.WassForms

namespace GemVerif.WassC13
open Model Spec GemVerif.C13

variable {n K : ℕ}

/-- The pairs of marginals `(a, b)` on which `WassersteinGEMINI.evaluate` calls `ot.emd2(a, b, M)`:
    one-vs-all `(wy[k], ones(N)/N)` for every cluster `k`; one-vs-one `(wy[k1], wy[k2])` for `k1 < k2`. -/
def WassCalls (ε : ℝ) (ovo : Bool) (P : Fin n → Fin K → ℝ) (a b : Fin n → ℝ) : Prop :=
  if ovo then ∃ k1 k2 : Fin K, k1.val < k2.val ∧ a = wassWeights ε P k1 ∧ b = wassWeights ε P k2
  else ∃ k : Fin K, a = wassWeights ε P k ∧ b = fun _ => 1 / (n : ℝ)

def EqUpToConst (p q : Fin n → ℝ) : Prop := ∃ c : ℝ, ∀ i, p i = q i + c

/-- `emd2'` (the solver for the cost matrix with rows and columns permuted by `σ`) returns, on the
    permuted marginals, the value `emd2` returns on `(a, b)`. -/
def EmdPermValueAt (emd2 emd2' : (Fin n → ℝ) → (Fin n → ℝ) → Emd ℝ n) (σ : Equiv.Perm (Fin n))
    (a b : Fin n → ℝ) : Prop :=
  (emd2' (fun i => a (σ i)) (fun i => b (σ i))).value = (emd2 a b).value

/-- On the permuted marginals `emd2'` returns the dual potentials `emd2` returns on `(a, b)`, permuted by `σ`, up to
    additive constants. -/
def EmdPermPotAt (emd2 emd2' : (Fin n → ℝ) → (Fin n → ℝ) → Emd ℝ n) (σ : Equiv.Perm (Fin n))
    (a b : Fin n → ℝ) : Prop :=
  EqUpToConst (emd2' (fun i => a (σ i)) (fun i => b (σ i))).u (fun i => (emd2 a b).u (σ i)) ∧
  EqUpToConst (emd2' (fun i => a (σ i)) (fun i => b (σ i))).v (fun i => (emd2 a b).v (σ i))

theorem EmdPermPotAt.u {emd2 emd2' : (Fin n → ℝ) → (Fin n → ℝ) → Emd ℝ n} {σ : Equiv.Perm (Fin n)}
    {a b : Fin n → ℝ} (h : EmdPermPotAt emd2 emd2' σ a b) :
    EqUpToConst (emd2' (fun i => a (σ i)) (fun i => b (σ i))).u (fun i => (emd2 a b).u (σ i)) := h.1

theorem EmdPermPotAt.v {emd2 emd2' : (Fin n → ℝ) → (Fin n → ℝ) → Emd ℝ n} {σ : Equiv.Perm (Fin n)}
    {a b : Fin n → ℝ} (h : EmdPermPotAt emd2 emd2' σ a b) :
    EqUpToConst (emd2' (fun i => a (σ i)) (fun i => b (σ i))).v (fun i => (emd2 a b).v (σ i)) := h.2

/-- Symmetry of the solver at `(a, b)`: swapping the marginals does not change the value -/
def EmdSymmValueAt (emd2 : (Fin n → ℝ) → (Fin n → ℝ) → Emd ℝ n) (a b : Fin n → ℝ) : Prop :=
  (emd2 b a).value = (emd2 a b).value

/-- Symmetry of the potentials at `(a, b)`: the `v` returned for `(a, b)` is the `u` returned for `(b, a)`, up to an
    additive constant. -/
def EmdSymmPotAt (emd2 : (Fin n → ℝ) → (Fin n → ℝ) → Emd ℝ n) (a b : Fin n → ℝ) : Prop :=
  EqUpToConst (emd2 a b).v (emd2 b a).u

/-! Global forms of the four properties: at every pair of marginals of the open probability simplex (the only marginals
  the code ever passes when `0 < ε < 1`, see `wassCalls_openSimplex`). -/

def EmdPermValue (emd2 emd2' : (Fin n → ℝ) → (Fin n → ℝ) → Emd ℝ n) (σ : Equiv.Perm (Fin n)) : Prop :=
  ∀ a b, OpenSimplex a → OpenSimplex b → EmdPermValueAt emd2 emd2' σ a b

def EmdPermPot (emd2 emd2' : (Fin n → ℝ) → (Fin n → ℝ) → Emd ℝ n) (σ : Equiv.Perm (Fin n)) : Prop :=
  ∀ a b, OpenSimplex a → OpenSimplex b → EmdPermPotAt emd2 emd2' σ a b

def EmdSymmValue (emd2 : (Fin n → ℝ) → (Fin n → ℝ) → Emd ℝ n) : Prop :=
  ∀ a b, OpenSimplex a → OpenSimplex b → EmdSymmValueAt emd2 a b

def EmdSymmPot (emd2 : (Fin n → ℝ) → (Fin n → ℝ) → Emd ℝ n) : Prop :=
  ∀ a b, OpenSimplex a → OpenSimplex b → EmdSymmPotAt emd2 a b

/-- the transport cost is non-negative (true for every cost matrix `M ≥ 0`) -/
def EmdNonneg (emd2 : (Fin n → ℝ) → (Fin n → ℝ) → Emd ℝ n) : Prop :=
  ∀ a b, OpenSimplex a → OpenSimplex b → 0 ≤ (emd2 a b).value

/-- transporting the uniform distribution onto itself costs nothing (true as soon as the cost
    matrix has a zero diagonal and non-negative entries) -/
def EmdUnifZero (emd2 : (Fin n → ℝ) → (Fin n → ℝ) → Emd ℝ n) : Prop :=
  (emd2 (fun _ => 1 / (n : ℝ)) (fun _ => 1 / (n : ℝ))).value = 0

theorem EqUpToConst.symm {p q : Fin n → ℝ} (h : EqUpToConst p q) : EqUpToConst q p := by
  obtain ⟨c, hc⟩ := h
  exact ⟨-c, fun i => by rw [hc i]; ring⟩

theorem wassCalls_ova (ε : ℝ) (P : Fin n → Fin K → ℝ) (k : Fin K) :
    WassCalls ε false P (wassWeights ε P k) (fun _ => 1 / (n : ℝ)) := by
  rw [WassCalls, if_neg Bool.false_ne_true]; exact ⟨k, rfl, rfl⟩

theorem wassCalls_ovo (ε : ℝ) (P : Fin n → Fin K → ℝ) {a b : Fin K} (h : a.val < b.val) :
    WassCalls ε true P (wassWeights ε P a) (wassWeights ε P b) := by
  rw [WassCalls, if_pos rfl]; exact ⟨a, b, h, rfl, rfl⟩

/-! The table form depends on the solver results only through `wPairT`, `potT` (one-vs-one) and the values and centred `u`
  potentials of `unifE` (one-vs-all), and it is equivariant under a joint relabelling of the samples by `σ` and of the
  clusters by `τ`.  Sample permutations are the case `τ = 1` (the tables are related by the hypothesis on the permuted
  solver), cluster permutations the case `σ = 1` (one-vs-one: by the symmetry of the solver). -/

theorem wassWeights_reindex (ε : ℝ) (P : Fin n → Fin K → ℝ) (σ : Equiv.Perm (Fin n)) (τ : Equiv.Perm (Fin K))
    (k : Fin K) :
    wassWeights ε (fun i k => P (σ i) (τ k)) k = fun i => wassWeights ε P (τ k) (σ i) := by
  funext i
  simp only [wassWeights_apply, clipP_reindex, mean0_reindex _ σ τ]

theorem wassWeights_sperm (ε : ℝ) (P : Fin n → Fin K → ℝ) (σ : Equiv.Perm (Fin n)) (k : Fin K) :
    wassWeights ε (fun i k => P (σ i) k) k = fun i => wassWeights ε P k (σ i) :=
  wassWeights_reindex ε P σ (Equiv.refl _) k

theorem wassWeights_cperm (ε : ℝ) (P : Fin n → Fin K → ℝ) (τ : Equiv.Perm (Fin K)) (k : Fin K) :
    wassWeights ε (fun i k => P i (τ k)) k = wassWeights ε P (τ k) :=
  wassWeights_reindex ε P (Equiv.refl _) τ k

theorem EqUpToConst.rfl {p : Fin n → ℝ} : EqUpToConst p p := ⟨0, fun _ => (add_zero _).symm⟩

theorem ctr_perm_shift {u' u : Fin n → ℝ} (σ : Equiv.Perm (Fin n))
    (h : EqUpToConst u' (fun i => u (σ i))) (i : Fin n) : ctr u' i = ctr u (σ i) := by
  obtain ⟨c, hc⟩ := h
  obtain rfl : u' = fun j => u (σ j) + c := funext hc
  rw [ctr_add_const]
  show u (σ i) - meanV (fun j => u (σ j)) = u (σ i) - meanV u
  rw [meanV_sperm u σ]

theorem ctr_const (c : ℝ) : ctr (fun _ : Fin n => c) = fun _ => 0 :=
  funext fun i => sub_eq_zero.2 (meanV_const (Fin.pos i) c).symm

theorem wassScoreT_ova_reindex (pairE' pairE : Fin K → Fin K → Emd ℝ n) (unifE' unifE : Fin K → Emd ℝ n)
    (ε : ℝ) (P : Fin n → Fin K → ℝ) (σ : Equiv.Perm (Fin n)) (τ : Equiv.Perm (Fin K))
    (hval : ∀ k, (unifE' k).value = (unifE (τ k)).value) :
    wassScoreT pairE' unifE' ε false (fun i k => P (σ i) (τ k)) = wassScoreT pairE unifE ε false P := by
  simp only [wassScoreT_ova, clipP_reindex, mean0_reindex _ σ τ, hval]
  -- every sum on the right is reindexed once, backwards (the idiom is explained at `C13.klScore_reindex`, GeminiC13)
  conv_rhs => simp (singlePass := true) only [← Equiv.sum_comp τ]

theorem wassGradT_ova_reindex (pairE' pairE : Fin K → Fin K → Emd ℝ n) (unifE' unifE : Fin K → Emd ℝ n)
    (ε : ℝ) (P : Fin n → Fin K → ℝ) (σ : Equiv.Perm (Fin n)) (τ : Equiv.Perm (Fin K))
    (hval : ∀ k, (unifE' k).value = (unifE (τ k)).value)
    (hu : ∀ k, EqUpToConst (unifE' k).u (fun i => (unifE (τ k)).u (σ i))) (i : Fin n) (k : Fin K) :
    wassGradT pairE' unifE' ε false (fun i k => P (σ i) (τ k)) i k
      = wassGradT pairE unifE ε false P (σ i) (τ k) := by
  simp only [wassGradT_ova, clipP_reindex, clipMask_reindex, mean0_reindex _ σ τ, hval,
    ctr_perm_shift σ (hu k)]
  conv_rhs => simp (singlePass := true) only [← Equiv.sum_comp σ]

theorem wassScoreT_ovo_reindex (pairE' pairE : Fin K → Fin K → Emd ℝ n) (unifE' unifE : Fin K → Emd ℝ n)
    (ε : ℝ) (P : Fin n → Fin K → ℝ) (σ : Equiv.Perm (Fin n)) (τ : Equiv.Perm (Fin K))
    (hw : ∀ a b, wPairT pairE' a b = wPairT pairE (τ a) (τ b)) :
    wassScoreT pairE' unifE' ε true (fun i k => P (σ i) (τ k)) = wassScoreT pairE unifE ε true P := by
  simp only [wassScoreT_ovo, clipP_reindex, mean0_reindex _ σ τ, hw]
  conv_rhs => simp (singlePass := true) only [← Equiv.sum_comp τ]

theorem wassGradT_ovo_reindex (pairE' pairE : Fin K → Fin K → Emd ℝ n) (unifE' unifE : Fin K → Emd ℝ n)
    (ε : ℝ) (P : Fin n → Fin K → ℝ) (σ : Equiv.Perm (Fin n)) (τ : Equiv.Perm (Fin K))
    (hw : ∀ a b, wPairT pairE' a b = wPairT pairE (τ a) (τ b))
    (hp : ∀ k o, o ≠ k → ∀ i, potT pairE' k o i = potT pairE (τ k) (τ o) (σ i)) (i : Fin n) (k : Fin K) :
    wassGradT pairE' unifE' ε true (fun i k => P (σ i) (τ k)) i k
      = wassGradT pairE unifE ε true P (σ i) (τ k) := by
  simp only [wassGradT_ovo, clipP_reindex, clipMask_reindex, mean0_reindex _ σ τ, hw]
  conv_rhs => simp (singlePass := true) only [← Equiv.sum_comp σ, ← Equiv.sum_comp τ]
  simp only [EmbeddingLike.apply_eq_iff_eq]
  congr 3
  funext o
  by_cases h : o = k
  · simp only [h, if_true]
  · simp only [if_neg h, hp k o h]

theorem potT_sperm {pairE' pairE : Fin K → Fin K → Emd ℝ n} (σ : Equiv.Perm (Fin n))
    (hu : ∀ a b : Fin K, a.val < b.val → EqUpToConst (pairE' a b).u (fun i => (pairE a b).u (σ i)))
    (hv : ∀ a b : Fin K, a.val < b.val → EqUpToConst (pairE' a b).v (fun i => (pairE a b).v (σ i)))
    (k o : Fin K) (hko : o ≠ k) (i : Fin n) : potT pairE' k o i = potT pairE k o (σ i) := by
  rcases lt_or_gt_of_ne (fun e => hko (Fin.ext e) : o.val ≠ k.val) with h | h
  · rw [potT_of_gt _ h, potT_of_gt _ h]
    exact ctr_perm_shift σ (hv o k h) i
  · rw [potT_of_lt _ h, potT_of_lt _ h]
    exact ctr_perm_shift σ (hu k o h) i

/-! Cluster permutations, one-vs-one: a relabelling may reverse a pair, so the solver has to be symmetric. -/

theorem symm_value_of_lt {emd2 : (Fin n → ℝ) → (Fin n → ℝ) → Emd ℝ n} {wy : Fin K → Fin n → ℝ}
    (hs : ∀ x y : Fin K, x.val < y.val → EmdSymmValueAt emd2 (wy x) (wy y)) (a b : Fin K) (hab : a ≠ b) :
    (emd2 (wy b) (wy a)).value = (emd2 (wy a) (wy b)).value := by
  rcases lt_or_gt_of_ne (fun e => hab (Fin.ext e) : a.val ≠ b.val) with h | h
  · exact hs a b h
  · exact (hs b a h).symm

theorem wPairT_of_symm {pairE : Fin K → Fin K → Emd ℝ n}
    (hs : ∀ a b : Fin K, a ≠ b → (pairE b a).value = (pairE a b).value) (a b : Fin K) :
    wPairT pairE a b = if a = b then 0 else (pairE a b).value := by
  rcases lt_trichotomy a.val b.val with h | h | h
  · rw [wPairT_of_lt _ h, if_neg fun e => by rw [e] at h; exact lt_irrefl _ h]
  · rw [Fin.ext h, wPairT_self, if_pos rfl]
  · have hab : a ≠ b := fun e => by rw [e] at h; exact lt_irrefl _ h
    rw [wPairT_of_gt _ h, if_neg hab, hs a b hab]

theorem wPairT_cperm {pairE : Fin K → Fin K → Emd ℝ n}
    (hs : ∀ a b : Fin K, a ≠ b → (pairE b a).value = (pairE a b).value) (τ : Equiv.Perm (Fin K)) (a b : Fin K) :
    wPairT (fun a b => pairE (τ a) (τ b)) a b = wPairT pairE (τ a) (τ b) := by
  rw [wPairT_of_symm (pairE := fun a b => pairE (τ a) (τ b)) (fun a b hab => hs _ _ fun e => hab (τ.injective e)) a b,
    wPairT_of_symm hs (τ a) (τ b)]
  simp only [EmbeddingLike.apply_eq_iff_eq]

theorem potT_of_symm {pairE : Fin K → Fin K → Emd ℝ n}
    (hs : ∀ a b : Fin K, a ≠ b → EqUpToConst (pairE a b).v (pairE b a).u) (k o : Fin K) (hko : o ≠ k) :
    potT pairE k o = ctr (pairE k o).u := by
  rcases lt_or_gt_of_ne (fun e => hko (Fin.ext e) : o.val ≠ k.val) with h | h
  · rw [potT_of_gt _ h]
    exact funext (ctr_perm_shift (Equiv.refl _) (hs o k hko))
  · exact potT_of_lt _ h

theorem potT_cperm {pairE : Fin K → Fin K → Emd ℝ n}
    (hs : ∀ a b : Fin K, a ≠ b → EqUpToConst (pairE a b).v (pairE b a).u) (τ : Equiv.Perm (Fin K)) (k o : Fin K)
    (hko : o ≠ k) : potT (fun a b => pairE (τ a) (τ b)) k o = potT pairE (τ k) (τ o) := by
  rw [potT_of_symm (pairE := fun a b => pairE (τ a) (τ b)) (fun a b hab => hs _ _ fun e => hab (τ.injective e)) k o hko,
    potT_of_symm hs (τ k) (τ o) fun e => hko (τ.injective e)]

theorem wassWeights_openSimplex (hn : 0 < n) {ε : ℝ} (h0 : 0 < ε) (h1 : ε < 1) (P : Fin n → Fin K → ℝ)
    (k : Fin K) : OpenSimplex (wassWeights ε P k) := by
  rw [wassWeights_eq]
  exact cond_openSimplex hn (clipP_pos h0 h1 P) k

theorem wassCalls_openSimplex (hn : 0 < n) {ε : ℝ} (h0 : 0 < ε) (h1 : ε < 1) {ovo : Bool}
    {P : Fin n → Fin K → ℝ} {a b : Fin n → ℝ} (h : WassCalls ε ovo P a b) :
    OpenSimplex a ∧ OpenSimplex b := by
  cases ovo
  · rw [WassCalls, if_neg Bool.false_ne_true] at h
    obtain ⟨k, rfl, rfl⟩ := h
    exact ⟨wassWeights_openSimplex hn h0 h1 P k, unif_openSimplex hn⟩
  · rw [WassCalls, if_pos rfl] at h
    obtain ⟨k1, k2, _, rfl, rfl⟩ := h
    exact ⟨wassWeights_openSimplex hn h0 h1 P k1, wassWeights_openSimplex hn h0 h1 P k2⟩

theorem wassCalls_of_global (hn : 0 < n) {ε : ℝ} (h0 : 0 < ε) (h1 : ε < 1) {ovo : Bool} {P : Fin n → Fin K → ℝ}
    {Q : (Fin n → ℝ) → (Fin n → ℝ) → Prop} (h : ∀ a b, OpenSimplex a → OpenSimplex b → Q a b)
    (a b : Fin n → ℝ) (hab : WassCalls ε ovo P a b) : Q a b :=
  h a b (wassCalls_openSimplex hn h0 h1 hab).1 (wassCalls_openSimplex hn h0 h1 hab).2

theorem wassScore_n0 (emd2 : (Fin 0 → ℝ) → (Fin 0 → ℝ) → Emd ℝ 0) (ε : ℝ) (ovo : Bool)
    (P : Fin 0 → Fin K → ℝ) : wassScore emd2 ε ovo P = 0 := by
  rw [wassScore_eq]
  cases ovo
  · simp only [wassScoreT_ova, mean0_empty, zero_mul, Finset.sum_const_zero]
  · simp only [wassScoreT_ovo, mean0_empty, zero_mul, Finset.sum_const_zero]

theorem wassWeights_indep (hn : 0 < n) {ε : ℝ} {P : Fin n → Fin K → ℝ} (h : ∀ i j k, P i k = P j k)
    (k : Fin K) (hk : mean0 (clipP ε P) k ≠ 0) : wassWeights ε P k = fun _ => 1 / (n : ℝ) := by
  funext i
  rw [wassWeights_apply, ← mean0_of_const hn (fun i j => clipP_indep h i j k) i, div_mul_eq_div_div, div_self hk]

theorem wassWeights_addEmpty_castSucc (ε : ℝ) (P : Fin n → Fin K → ℝ) (k : Fin K) :
    wassWeights ε (addEmpty P) k.castSucc = wassWeights ε P k := by
  funext i
  simp only [wassWeights_apply, clipP_addEmpty_castSucc, mean0_addEmpty_castSucc]

theorem wassWeights_addEmpty_last (hn : 0 < n) {ε : ℝ} (P : Fin n → Fin K → ℝ)
    (he : RealLike.clip (0 : ℝ) ε (1 - ε) ≠ 0) :
    wassWeights ε (addEmpty P) (Fin.last K) = fun _ => 1 / (n : ℝ) := by
  funext i
  rw [wassWeights_apply, clipP_addEmpty_last, mean0_addEmpty_last hn, div_mul_cancel_left₀ he, one_div]

theorem wPairT_castSucc (pairE : Fin (K + 1) → Fin (K + 1) → Emd ℝ n) (a b : Fin K) :
    wPairT pairE a.castSucc b.castSucc = wPairT (fun a b => pairE a.castSucc b.castSucc) a b := rfl

theorem wassScore_ovo_addEmpty (emd2 : (Fin n → ℝ) → (Fin n → ℝ) → Emd ℝ n) (ε : ℝ)
    (P : Fin n → Fin K → ℝ) :
    wassScore emd2 ε true (addEmpty P)
      = wassScore emd2 ε true P + 2 * RealLike.clip (0 : ℝ) ε (1 - ε) * wassScore emd2 ε false P := by
  rcases Nat.eq_zero_or_pos n with rfl | hn
  · simp only [wassScore_n0, mul_zero, add_zero]
  · rw [wassScore_eq, wassScore_eq, wassScore_eq, wassScoreT_ovo, wassScoreT_ovo, wassScoreT_ova]
    simp only [Fin.sum_univ_castSucc, wPairT_of_lt _ (Fin.castSucc_lt_last _), wPairT_of_gt _ (Fin.castSucc_lt_last _),
      wPairT_self, wPairT_castSucc, wassWeights_addEmpty_castSucc, mean0_addEmpty_castSucc, mean0_addEmpty_last hn,
      zero_mul, add_zero]
    by_cases he : RealLike.clip (0 : ℝ) ε (1 - ε) = 0
    · simp only [he, mul_zero, zero_mul, add_zero]
    · rw [wassWeights_addEmpty_last hn P he]
      exact ovo_addEmpty_algebra _ _ _ _

/-! The hypotheses on the solver are satisfiable:
  (a) for every size by `wsqEmd c`, a weighted squared distance between the marginals, whose "cost" `c` is not
      permutation invariant, so that the solver `emd2'` for the permuted problem differs from `emd2`;
  (b) by the genuine transport cost on two points (`absEmd`, `W(a,b) = |a₀ - b₀|` on the simplex): there
      the permuted potentials are recovered only up to a non-zero additive constant, and the value
      only on the probability simplex. -/

def wsqEmd (c : Fin n → ℝ) : (Fin n → ℝ) → (Fin n → ℝ) → Emd ℝ n :=
  fun a b => ⟨∑ i, c i * (a i - b i) ^ 2, fun i => 2 * c i * (a i - b i),
    fun i => -(2 * c i * (a i - b i))⟩

theorem wsqEmd_permValue (c : Fin n → ℝ) (σ : Equiv.Perm (Fin n)) :
    EmdPermValue (wsqEmd c) (wsqEmd fun i => c (σ i)) σ := fun a b _ _ =>
  Equiv.sum_comp σ (fun i => c i * (a i - b i) ^ 2)

theorem wsqEmd_permPot (c : Fin n → ℝ) (σ : Equiv.Perm (Fin n)) :
    EmdPermPot (wsqEmd c) (wsqEmd fun i => c (σ i)) σ := fun _ _ _ _ =>
  ⟨EqUpToConst.rfl, EqUpToConst.rfl⟩

theorem wsqEmd_symmValue (c : Fin n → ℝ) : EmdSymmValue (wsqEmd c) := fun a b _ _ => by
  simp only [EmdSymmValueAt, wsqEmd]
  exact Finset.sum_congr rfl fun i _ => by ring

theorem wsqEmd_symmPot (c : Fin n → ℝ) : EmdSymmPot (wsqEmd c) := fun a b _ _ =>
  ⟨0, fun i => by simp only [wsqEmd]; ring⟩

theorem wsqEmd_nonneg {c : Fin n → ℝ} (hc : ∀ i, 0 ≤ c i) : EmdNonneg (wsqEmd c) := fun a b _ _ => by
  simp only [wsqEmd]
  exact Finset.sum_nonneg fun i _ => mul_nonneg (hc i) (sq_nonneg _)

theorem wsqEmd_unifZero (c : Fin n → ℝ) : EmdUnifZero (wsqEmd c) := by
  show ∑ i, c i * ((1 : ℝ) / n - 1 / n) ^ 2 = 0
  simp only [sub_self, ne_eq, OfNat.ofNat_ne_zero, not_false_eq_true, zero_pow, mul_zero, Finset.sum_const_zero]

theorem absEmd_symmValue : EmdSymmValue absEmd := fun _ _ _ _ => abs_sub_comm _ _

theorem absEmd_symmPot : EmdSymmPot absEmd := fun a b _ _ =>
  ⟨0, fun i => by
    simp only [absEmd, add_zero]
    rw [← sign_real_neg, neg_sub]⟩

theorem absEmd_nonneg : EmdNonneg absEmd := fun _ _ _ _ => abs_nonneg _

theorem absEmd_unifZero : EmdUnifZero absEmd := by simp [EmdUnifZero, absEmd]

theorem simplex_two {a : Fin 2 → ℝ} (ha : OpenSimplex a) : a 1 = 1 - a 0 := by
  have := ha.sum_eq_one
  rw [Fin.sum_univ_two] at this
  linarith

theorem absEmd_permValue : EmdPermValue absEmd absEmd (Equiv.swap 0 1) := fun a b ha hb => by
  simp only [EmdPermValueAt, absEmd, Equiv.swap_apply_left, simplex_two ha, simplex_two hb]
  rw [← abs_neg]
  congr 1
  ring

/-- on two points, the potential `(-s, 0)` is the swapped potential `(0, s)` shifted by `-s` -/
theorem swap_pot (s : ℝ) : ∀ i : Fin 2,
    (if i = 0 then -s else 0) = (if Equiv.swap 0 1 i = 0 then s else 0) + -s := by
  rw [Fin.forall_fin_two]
  constructor
  · rw [if_pos rfl, Equiv.swap_apply_left, if_neg Fin.zero_ne_one.symm, zero_add]
  · rw [if_neg Fin.zero_ne_one.symm, Equiv.swap_apply_right, if_pos rfl, add_neg_cancel]

theorem absEmd_permPot : EmdPermPot absEmd absEmd (Equiv.swap 0 1) := fun a b ha hb => by
  have hs : RealLike.sign (a 1 - b 1) = -RealLike.sign (a 0 - b 0) := by
    rw [← sign_real_neg, simplex_two ha, simplex_two hb]
    congr 1
    ring
  refine ⟨⟨-RealLike.sign (a 0 - b 0), fun i => ?_⟩, ⟨-(-RealLike.sign (a 0 - b 0)), fun i => ?_⟩⟩
  · simp only [absEmd, Equiv.swap_apply_left, hs]
    exact swap_pot _ i
  · simp only [absEmd, Equiv.swap_apply_left, hs]
    exact swap_pot _ i

/-! The symmetry hypotheses of the one-vs-one clauses cannot be dropped. -/

/-- a solver whose value is not symmetric (as for a non-symmetric `precomputed` cost matrix);
    its potentials are trivially swapped -/
noncomputable def asymEmd : (Fin 2 → ℝ) → (Fin 2 → ℝ) → Emd ℝ 2 :=
  fun a _ => ⟨a 0, fun _ => 0, fun _ => 0⟩

noncomputable def exQ : Fin 2 → Fin 2 → ℝ := fun i k => if i = k then 3 / 4 else 1 / 4

theorem exQ_interior : Interior (1 / 10) exQ := fun i k => by
  unfold exQ
  split_ifs <;> norm_num

theorem exQ_self (i : Fin 2) : exQ i i = 3 / 4 := if_pos rfl

theorem exQ_of_ne {i k : Fin 2} (h : i ≠ k) : exQ i k = 1 / 4 := if_neg h

theorem exQ_mean : ∀ k, mean0 exQ k = 1 / 2 := by
  rw [Fin.forall_fin_two]
  constructor
  · rw [mean0_eq_pi, Spec.pi, Fin.sum_univ_two, exQ_self, exQ_of_ne Fin.zero_ne_one.symm]
    norm_num
  · rw [mean0_eq_pi, Spec.pi, Fin.sum_univ_two, exQ_of_ne Fin.zero_ne_one, exQ_self]
    norm_num

theorem asymEmd_score {ε : ℝ} {P : Fin 2 → Fin 2 → ℝ} (hI : Interior ε P) :
    wassScore asymEmd ε true P = 2 * (mean0 P 0 * mean0 P 1 * (P 0 0 / (mean0 P 0 * (2 : ℕ)))) := by
  have h : (0 : Fin 2).val < (1 : Fin 2).val := Nat.zero_lt_one
  rw [wassScore_eq, wassScoreT_ovo]
  simp only [Fin.sum_univ_two, wPairT_self, wPairT_of_lt _ h, wPairT_of_gt _ h]
  simp only [asymEmd, wassWeights_apply, clipP_of_interior hI]
  ring

theorem asymEmd_score_not_invariant :
    wassScore asymEmd (1 / 10) true exQ = 3 / 8 ∧
    wassScore asymEmd (1 / 10) true (fun i k => exQ i (Equiv.swap 0 1 k)) = 1 / 8 := by
  have hI : Interior (1 / 10) (fun i k => exQ i (Equiv.swap 0 1 k)) := fun i k => exQ_interior i _
  -- the proportions are `1/2` before and after the swap; `wy[0][0]` is `3/4` before, `1/4` after
  have hm : ∀ k, mean0 (fun i k => exQ i (Equiv.swap 0 1 k)) k = 1 / 2 := fun k => exQ_mean _
  constructor
  · rw [asymEmd_score exQ_interior, exQ_mean, exQ_mean, exQ_self]
    norm_num
  · rw [asymEmd_score hI, hm, hm, Equiv.swap_apply_left, exQ_of_ne Fin.zero_ne_one]
    norm_num

/-- a solver with symmetric value (0) that does not swap its potentials with the marginals -/
noncomputable def asymPot : (Fin 2 → ℝ) → (Fin 2 → ℝ) → Emd ℝ 2 :=
  fun _ _ => ⟨0, fun i => if i = 0 then 1 else 0, fun _ => 0⟩

noncomputable def exH : Fin 2 → Fin 2 → ℝ := fun _ _ => 1 / 2

theorem asymPot_wPairT (w : Fin K → Fin 2 → ℝ) (a b : Fin K) :
    wPairT (fun a b => asymPot (w a) (w b)) a b = 0 := by
  unfold wPairT
  split_ifs
  · rfl
  · rfl
  · rfl

theorem asymPot_grad_not_equivariant :
    wassGrad asymPot (1 / 4) true exH 0 (Equiv.swap 0 1 0) = 0 ∧
    wassGrad asymPot (1 / 4) true (fun i k => exH i (Equiv.swap 0 1 k)) 0 0 = 1 / 4 := by
  have hI : Interior (1 / 4) (fun i k => exH i (Equiv.swap 0 1 k)) := fun _ _ => by
    unfold exH
    norm_num
  have h01 : (0 : Fin 2).val < (1 : Fin 2).val := Nat.zero_lt_one
  constructor
  · -- column 1 receives the potential `v = 0` of the call `(0, 1)`, and the value is 0
    rw [Equiv.swap_apply_left, wassGrad_eq, wassGradT_ovo, Fin.sum_univ_two, if_neg Fin.zero_ne_one, if_pos rfl,
      potT_of_gt _ h01]
    simp only [asymPot_wPairT] -- matches only while `asymPot` is folded
    simp only [asymPot, ctr_const, zero_div, zero_mul, mul_zero, Finset.sum_const_zero, sub_self, add_zero]
  · -- column 0 receives `u - mean u = (1/2, -1/2)`, paired with a constant column: the second term vanishes
    have hm : ∀ k, mean0 (fun i k => exH i (Equiv.swap 0 1 k)) k = 1 / 2 := fun k =>
      congrFun (mean0_const two_pos fun _ => 1 / 2) k
    have hu : meanV (fun i : Fin 2 => if i = 0 then (1 : ℝ) else 0) = 1 / 2 := by
      rw [meanV_eq, Fin.sum_univ_two, if_pos rfl, if_neg Fin.zero_ne_one.symm]
      norm_num
    rw [wassGrad_eq, wassGradT_ovo, Fin.sum_univ_two, if_pos rfl, if_neg Fin.zero_ne_one.symm, potT_of_lt _ h01,
      clipP_of_interior hI, clipMask_of_interior hI, Fin.sum_univ_two]
    simp only [asymPot_wPairT, hm] -- match only while `asymPot`, `exH` are folded
    simp only [asymPot, ctr, hu, exH, if_pos, if_neg Fin.zero_ne_one.symm]
    norm_num

end GemVerif.WassC13
