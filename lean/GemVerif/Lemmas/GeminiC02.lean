/- For C02 (GEMINI gradients are exact derivatives): the regrouping of the TV and MMD one-vs-one derivatives by cluster,
   and the MMD scores in the forms that are differentiated.  The MMD part starts from the distances as `Spec.MMD` of the
   conditionals (GeminiC01): one-vs-all the proportion is absorbed by the scaling law, one-vs-one the conditional is
   written `alpha / N`. -/
import GemVerif.Lemmas.GeminiC01
import GemVerif.Lemmas.GeminiLine

namespace GemVerif
open Model Spec

variable {n K : ℕ}

theorem skew_pair (s : Fin K → Fin K → ℝ) (x y : Fin K → ℝ) :
    ∑ a, ∑ b, s a b * (x a * y b - x b * y a) = ∑ k, (∑ a, x a * (s a k - s k a)) * y k := by
  have h1 : ∑ a, ∑ b, s a b * (x a * y b) = ∑ k, ∑ a, x a * s a k * y k := by
    rw [Finset.sum_comm]
    exact Finset.sum_congr rfl fun k _ => Finset.sum_congr rfl fun a _ => by ring
  have h2 : ∑ a, ∑ b, s a b * (x b * y a) = ∑ k, ∑ a, x a * s k a * y k :=
    Finset.sum_congr rfl fun k _ => Finset.sum_congr rfl fun a _ => by ring
  simp only [mul_sub, sub_mul, Finset.sum_sub_distrib, Finset.sum_mul, h1, h2]

theorem skew_pair' (s : Fin K → Fin K → ℝ) (x y : Fin K → ℝ) :
    ∑ a, ∑ b, s a b * (x a * y b - x b * y a) = ∑ k, (∑ b, (s k b - s b k) * y b) * x k := by
  simp only [skew_pair, Finset.sum_mul]
  rw [Finset.sum_comm]
  exact Finset.sum_congr rfl fun a _ => Finset.sum_congr rfl fun k _ => by ring

noncomputable def tvSign (P : Fin n → Fin K → ℝ) (i : Fin n) (a b : Fin K) : ℝ :=
  RealLike.sign (Spec.pi P a * P i b - Spec.pi P b * P i a)

/-- The derivative of the one-vs-one TV score regrouped by cluster: `σ i a b` is `sign (π_a P_ib - π_b P_ia) / N`,
    the bracket the derivative of the difference under the sign. -/
theorem tv_ovo_algebra (σ : Fin n → Fin K → Fin K → ℝ) (P V : Fin n → Fin K → ℝ) (π w : Fin K → ℝ)
    (c : ℝ) :
    c * ∑ a, ∑ b, ∑ i, σ i a b * (w a * P i b + π a * V i b - (w b * P i a + π b * V i a))
    = ∑ k, (∑ i, (c * ∑ a, π a * (σ i a k - σ i k a)) * V i k
        + (c * ∑ i, ∑ b, (σ i k b - σ i b k) * P i b) * w k) := by
  have key : ∀ i, ∑ a, ∑ b, σ i a b * (w a * P i b + π a * V i b - (w b * P i a + π b * V i a))
      = ∑ k, ((∑ a, π a * (σ i a k - σ i k a)) * V i k + (∑ b, (σ i k b - σ i b k) * P i b) * w k) :=
      fun i => by
    rw [Finset.sum_add_distrib, ← skew_pair, ← skew_pair', ← Finset.sum_add_distrib]
    refine Finset.sum_congr rfl fun a _ => ?_
    rw [← Finset.sum_add_distrib]
    exact Finset.sum_congr rfl fun b _ => by ring
  rw [Finset.sum_comm_cycle, Finset.sum_congr rfl fun i _ => key i, Finset.sum_comm, Finset.mul_sum]
  refine Finset.sum_congr rfl fun k _ => ?_
  rw [Finset.sum_add_distrib, mul_add]
  simp only [Finset.mul_sum, Finset.sum_mul, mul_assoc]

/-! MMD.  The derivative of a distance is that of `sqrt (Q κ u u)` for a moving `u = (x - y) / N`. -/

theorem hasDerivAt_MMD_div {κ : Fin n → Fin n → ℝ} (hκ : ∀ i j, κ i j = κ j i) {x y : ℝ → Fin n → ℝ}
    {x' y' : Fin n → ℝ} (hx : ∀ i, HasDerivAt (fun t => x t i) (x' i) 0)
    (hy : ∀ i, HasDerivAt (fun t => y t i) (y' i) 0)
    (h0 : 0 < Spec.MMD κ (fun i => x 0 i / n) (fun i => y 0 i / n)) :
    HasDerivAt (fun t => Spec.MMD κ (fun i => x t i / n) (fun i => y t i / n))
      ((∑ i, (x' i - y' i) * ∑ j, κ i j / (n * n) * (x 0 j - y 0 j))
        / Spec.MMD κ (fun i => x 0 i / n) (fun i => y 0 i / n)) 0 := by
  have hu : ∀ i, HasDerivAt (fun t => x t i / n - y t i / n) (x' i / n - y' i / n) 0 := fun i =>
    ((hx i).div_const _).fun_sub ((hy i).div_const _)
  simp only [MMD_eq_sqrt_Q] at h0 ⊢
  refine ((Q_self_hasDerivAt hκ hu).sqrt (Real.sqrt_pos.mp h0).ne').congr_deriv ?_
  simp only [← sub_div, Q_div]
  ring

/-- One-vs-all the MMD needs no quotient rule: by `MMD_div` the term `π_k · MMD(p(x|k), p(x))` is the MMD between the
    column `P[:,k] / N` and the constant `π_k / N`, both linear in `P`. -/
theorem pi_mul_mmdDeltaOva (hn : 0 < n) {ε : ℝ} (hε : 0 < ε) {P : Fin n → Fin K → ℝ} (hI : Interior ε P)
    {κ : Fin n → Fin n → ℝ} (hκ : ∀ i j, κ i j = κ j i) (k : Fin K) :
    Spec.pi P k * mmdDeltaOva ε P κ k = Spec.MMD κ (fun i => P i k / n) (fun _ => Spec.pi P k / n) := by
  rw [mmdDeltaOva_eq hI hκ, pi_mul_dist_ova (fun _ hc => MMD_div hc κ) hn (pi_pos hn (P_pos hε hI) k),
    MMD_div (Nat.cast_pos.2 hn)]

theorem mmdScore_ova_scaled (hn : 0 < n) {ε : ℝ} (hε : 0 < ε) {P : Fin n → Fin K → ℝ} (hI : Interior ε P)
    {κ : Fin n → Fin n → ℝ} (hκ : ∀ i j, κ i j = κ j i) :
    mmdScore ε false P κ = ∑ k, Spec.MMD κ (fun i => P i k / n) (fun _ => Spec.pi P k / n) := by
  simp only [mmdScore_ova, clipP_of_interior hI, mean0_eq_pi, pi_mul_mmdDeltaOva hn hε hI hκ]

theorem mmdDeltaOvo_div {ε : ℝ} {P : Fin n → Fin K → ℝ} (hI : Interior ε P) {κ : Fin n → Fin n → ℝ}
    (hκ : ∀ i j, κ i j = κ j i) (a b : Fin K) :
    mmdDeltaOvo ε P κ a b
      = Spec.MMD κ (fun i => P i a / Spec.pi P a / n) (fun i => P i b / Spec.pi P b / n) := by
  rw [mmdDeltaOvo_eq hI hκ, cond_eq_div, cond_eq_div]

theorem mmdScore_ovo_div {ε : ℝ} {P : Fin n → Fin K → ℝ} (hI : Interior ε P) {κ : Fin n → Fin n → ℝ}
    (hκ : ∀ i j, κ i j = κ j i) :
    mmdScore ε true P κ = ∑ a, Spec.pi P a
      * ∑ b, Spec.MMD κ (fun i => P i a / Spec.pi P a / n) (fun i => P i b / Spec.pi P b / n) * Spec.pi P b := by
  simp only [mmdScore_ovo_interior hI hκ, cond_eq_div]

theorem mmdGrad_ovo_interior {ε : ℝ} {P : Fin n → Fin K → ℝ} (hI : Interior ε P) (κ : Fin n → Fin n → ℝ)
    (i : Fin n) (k : Fin K) :
    mmdGrad ε true P κ i k =
      2 / Spec.pi P k * (mmdGamma ε P κ i k * (∑ a, mmdLam (Spec.pi P) (mmdDeltaOvo ε P κ) a k)
          - ∑ a, mmdGamma ε P κ i a * mmdLam (Spec.pi P) (mmdDeltaOvo ε P κ) a k)
      + 2 * (-(∑ l, P l k / Spec.pi P k * (mmdGamma ε P κ l k * (∑ a, mmdLam (Spec.pi P) (mmdDeltaOvo ε P κ) a k)
          - ∑ a, mmdGamma ε P κ l a * mmdLam (Spec.pi P) (mmdDeltaOvo ε P κ) a k)) / Spec.pi P k
        + ∑ a, Spec.pi P a * mmdDeltaOvo ε P κ a k) / n := by
  simp only [mmdGrad_ovo_eq, clipP_of_interior hI, mean0_eq_pi, meanV_eq, mmdAlpha_eq hI, clipMask_of_interior hI,
    mul_one, Nat.cast_ofNat]
  simp only [mul_sub, Finset.sum_sub_distrib, ← mul_assoc, ← Finset.sum_mul]
  ring

/-- The part of the one-vs-one derivative in which the distances move, for a symmetric `delta` whose off-diagonal
    entries move at rate `(Σ_i (D_ia - D_ib) (g_ia - g_ib)) / delta_ab` (`D = alpha'`), regrouped by cluster. -/
theorem mmd_ovo_algebra (π : Fin K → ℝ) {δ : Fin K → Fin K → ℝ} (hδs : ∀ a b, δ a b = δ b a)
    (D g : Fin n → Fin K → ℝ) :
    ∑ a, ∑ b, π a * π b * (if a = b then 0 else (∑ i, (D i a - D i b) * (g i a - g i b)) / δ a b)
    = ∑ k, 2 * ∑ i, D i k * (g i k * (∑ a, mmdLam π δ a k) - ∑ a, g i a * mmdLam π δ a k) := by
  have hX : ∀ a b, (∑ i, (D i a - D i b) * (g i a - g i b)) / δ a b
      = (∑ i, D i a * (g i a - g i b)) / δ a b + (∑ i, D i b * (g i b - g i a)) / δ b a := fun a b => by
    rw [hδs b a, ← add_div, ← Finset.sum_add_distrib]
    exact congrArg (· / _) (Finset.sum_congr rfl fun i _ => by ring)
  simp only [hX]
  rw [ovo_regroup π fun a b => (∑ i, D i a * (g i a - g i b)) / δ a b]
  refine Finset.sum_congr rfl fun k _ => ?_
  -- the pair `{k, o}` contributes `2 λ[o,k] Σ_i D_ik (g_ik - g_io)` to column `k`
  have hL : ∀ o, (if o = k then 0 else 2 * π o * (π k * ((∑ i, D i k * (g i k - g i o)) / δ k o)))
      = ∑ i, 2 * (D i k * ((g i k - g i o) * mmdLam π δ o k)) := fun o => by
    unfold mmdLam
    split_ifs
    · simp only [mul_zero, Finset.sum_const_zero]
    · rw [hδs k o, Finset.sum_div, Finset.mul_sum, Finset.mul_sum]
      exact Finset.sum_congr rfl fun i _ => by ring
  simp only [hL]
  rw [Finset.sum_comm, Finset.mul_sum]
  refine Finset.sum_congr rfl fun i _ => ?_
  simp only [← Finset.mul_sum, sub_mul, Finset.sum_sub_distrib]

/-! The extra hypotheses of the TV / MMD theorems are satisfiable at `exP`. -/

noncomputable def exK : Fin 2 → Fin 2 → ℝ := fun i j => if i = j then 1 else 0

theorem exK_symm : ∀ i j, exK i j = exK j i := by
  intro i j; simp [exK, eq_comm]

theorem exP_tv_ova : ∀ i k, exP i k ≠ Spec.pi exP k := by
  simp only [Fin.forall_fin_two, exP_pi.1, exP_pi.2]
  simp only [exP, Matrix.cons_val_zero, Matrix.cons_val_one]
  norm_num

theorem exP_tv_ovo : ∀ i a b, a ≠ b → Spec.pi exP a * exP i b ≠ Spec.pi exP b * exP i a := by
  simp only [Fin.forall_fin_two, exP_pi.1, exP_pi.2]
  simp only [exP, Matrix.cons_val_zero, Matrix.cons_val_one]
  norm_num

theorem exP_pi_ne_zero (k : Fin 2) : Spec.pi exP k ≠ 0 :=
  (pi_pos (by norm_num) (P_pos (by norm_num) exP_interior) k).ne'

/- With the identity affinity the MMD distances are Euclidean: they are positive because the conditionals differ in
   their first entry, which is what `exP_tv_ova` / `exP_tv_ovo` say. -/

theorem exP_mmd_ova : ∀ k, 0 < mmdDeltaOva (1 / 10) exP exK k := by
  intro k
  rw [mmdDeltaOva_eq exP_interior exK_symm]
  refine MMD_one_pos (i := 0) fun h => exP_tv_ova 0 k ?_
  have hπ := exP_pi_ne_zero k
  simp only [Spec.cond, Spec.unif] at h
  field_simp at h
  linarith

theorem exP_mmd_ovo : ∀ a b, a ≠ b → 0 < mmdDeltaOvo (1 / 10) exP exK a b := by
  intro a b hab
  rw [mmdDeltaOvo_eq exP_interior exK_symm]
  refine MMD_one_pos (i := 0) fun h => exP_tv_ovo 0 b a (Ne.symm hab) ?_
  have hπa := exP_pi_ne_zero a
  have hπb := exP_pi_ne_zero b
  simp only [Spec.cond] at h
  field_simp at h
  linarith
end GemVerif
