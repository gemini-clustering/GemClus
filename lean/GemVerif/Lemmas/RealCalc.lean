/- Real-analysis facts that the derivative proofs of C02 (GEMINI gradients) and C03 (back-propagation, Douglas tree)
   share: `np.sign`, `|·|`, `np.maximum(·, 0)` and `np.sqrt`, the kink criterion, the line `t ↦ P + t V` through a
   matrix, and the bilinear form `Q` of a square matrix (the affinity of MMD, the training kernel of KernelRIM) with its
   derivative along moving vectors.
   Trap: `Mathlib.Analysis.Calculus.Deriv.Abs` brings `Mathlib.Topology.Algebra.Module.ModuleTopology` into the import
   closure, and that decides the `ContinuousSMul ℝ ℝ` argument a `HasDerivAt` statement elaborates with:
   `IsModuleTopology.toContinuousSMul` above this import, `ContinuousMul.to_continuousSMul` elsewhere.  Every file that
   states a derivative property (C02, C02Wass, C03, C03Douglas) and every GEMINI lemma file (through `Lemmas/Gemini`)
   sits above it; `Lemmas/Mlcl` and `Props/C14` do not.  Moving a statement across the import changes its elaborated
   form (not its meaning). -/
import GemVerif.NumReal
import Mathlib.Analysis.Calculus.Deriv.Abs
import Mathlib.Analysis.Calculus.Deriv.Mul

namespace GemVerif

/-- `np.sqrt(np.maximum(x, 0))` is `Real.sqrt x` (the real square root of a negative number is 0) -/
theorem sqrt_max_zero (x : ℝ) : Real.sqrt (max x 0) = Real.sqrt x := by
  rcases le_total 0 x with h | h
  · rw [max_eq_left h]
  · rw [max_eq_right h, Real.sqrt_zero, Real.sqrt_eq_zero_of_nonpos h]

theorem sign_real_of_pos {x : ℝ} (h : 0 < x) : RealLike.sign x = 1 := by
  simp [RealLike.sign, h]

theorem sign_real_of_neg {x : ℝ} (h : x < 0) : RealLike.sign x = -1 := by
  simp [RealLike.sign, h, not_lt.mpr h.le]

theorem sign_real_zero : RealLike.sign (0 : ℝ) = 0 := by
  simp [RealLike.sign]

theorem sign_real_neg (x : ℝ) : RealLike.sign (-x) = -RealLike.sign x := by
  rcases lt_trichotomy x 0 with h | h | h
  · rw [sign_real_of_neg h, sign_real_of_pos (neg_pos.mpr h), neg_neg]
  · rw [h, neg_zero, sign_real_zero, neg_zero]
  · rw [sign_real_of_pos h, sign_real_of_neg (neg_neg_of_pos h)]

theorem hasDerivAt_abs_sign {f : ℝ → ℝ} {f' x : ℝ} (hf : HasDerivAt f f' x) (h0 : f x ≠ 0) :
    HasDerivAt (fun y => |f y|) (RealLike.sign (f x) * f') x := by
  rcases lt_or_gt_of_ne h0 with h | h
  · rw [sign_real_of_neg h]; exact (hasDerivAt_abs_neg h).comp x hf
  · rw [sign_real_of_pos h]; exact (hasDerivAt_abs_pos h).comp x hf

theorem hasDerivAt_max_zero {f : ℝ → ℝ} {f' x : ℝ} (hf : HasDerivAt f f' x) (h : 0 < f x) :
    HasDerivAt (fun y => max (f y) 0) f' x :=
  hf.congr_of_eventuallyEq
    ((hf.continuousAt.eventually (lt_mem_nhds h)).mono fun _ hy => max_eq_left (le_of_lt hy))

theorem not_differentiableAt_of_sides {f A B : ℝ → ℝ} {a b : ℝ} (hA : HasDerivAt A a 0) (hB : HasDerivAt B b 0)
    (hr : ∀ t, 0 ≤ t → f t = A t) (hl : ∀ t, t ≤ 0 → f t = B t) (hab : a ≠ b) : ¬ DifferentiableAt ℝ f 0 := by
  intro hd
  have hD := hd.hasDerivAt
  have h1 : HasDerivWithinAt f a (Set.Ici 0) 0 :=
    hA.hasDerivWithinAt.congr (fun t ht => hr t (Set.mem_Ici.mp ht)) (hr 0 le_rfl)
  have h2 : HasDerivWithinAt f b (Set.Iic 0) 0 :=
    hB.hasDerivWithinAt.congr (fun t ht => hl t (Set.mem_Iic.mp ht)) (hl 0 le_rfl)
  have e1 := (uniqueDiffWithinAt_Ici (0 : ℝ)).eq_deriv _ hD.hasDerivWithinAt h1
  have e2 := (uniqueDiffWithinAt_Iic (0 : ℝ)).eq_deriv _ hD.hasDerivWithinAt h2
  exact hab (e1 ▸ e2)

theorem not_differentiableAt_comp_relu {φ : ℝ → ℝ} {φ' : ℝ} (hφ : HasDerivAt φ φ' 0) (h0 : φ' ≠ 0) :
    ¬ DifferentiableAt ℝ (fun t : ℝ => φ (max t 0)) 0 :=
  not_differentiableAt_of_sides hφ (hasDerivAt_const 0 (φ 0)) (fun t ht => by rw [max_eq_left ht])
    (fun t ht => by rw [max_eq_right ht]) h0

theorem not_differentiableAt_comp_abs {h : ℝ → ℝ} {a : ℝ} (hh : HasDerivAt h a 0) (ha : a ≠ 0) :
    ¬ DifferentiableAt ℝ (fun t => h |t|) 0 := by
  have hneg : HasDerivAt (fun t => h (-t)) (a * -1) 0 :=
    HasDerivAt.comp (0 : ℝ) (by simpa using hh) (hasDerivAt_neg (0 : ℝ))
  refine not_differentiableAt_of_sides hh hneg (fun t ht => by rw [abs_of_nonneg ht])
    (fun t ht => by rw [abs_of_nonpos ht]) fun e => ha ?_
  linear_combination e / 2

theorem hasDerivAt_lin (a b : ℝ) : HasDerivAt (fun t : ℝ => a + t * b) b 0 :=
  (hasDerivAt_mul_const b).const_add a

variable {n K : ℕ}

def line (P V : Fin n → Fin K → ℝ) (t : ℝ) : Fin n → Fin K → ℝ := fun i k => P i k + t * V i k

@[simp] theorem line_zero (P V : Fin n → Fin K → ℝ) : line P V 0 = P := by
  funext i k
  rw [line, zero_mul, add_zero]

theorem line_apply (P V : Fin n → Fin K → ℝ) (t : ℝ) (i : Fin n) (k : Fin K) :
    line P V t i k = P i k + t * V i k := rfl

theorem hasDerivAt_line (P V : Fin n → Fin K → ℝ) (i : Fin n) (k : Fin K) :
    HasDerivAt (fun t : ℝ => line P V t i k) (V i k) 0 :=
  hasDerivAt_lin (P i k) (V i k)

/-- the bilinear form of a square matrix (the affinity of MMD, the training kernel of KernelRIM) -/
noncomputable def Q (κ : Fin n → Fin n → ℝ) (a b : Fin n → ℝ) : ℝ := ∑ i, ∑ j, a i * κ i j * b j

theorem Q_comm {κ : Fin n → Fin n → ℝ} (hκ : ∀ i j, κ i j = κ j i) (a b : Fin n → ℝ) :
    Q κ a b = Q κ b a := by
  unfold Q
  rw [Finset.sum_comm]
  refine Finset.sum_congr rfl fun i _ => Finset.sum_congr rfl fun j _ => ?_
  rw [hκ j i]; ring

theorem quad_sub {κ : Fin n → Fin n → ℝ} (hκ : ∀ i j, κ i j = κ j i) (a b : Fin n → ℝ) :
    ∑ i, ∑ j, (a i - b i) * κ i j * (a j - b j) = Q κ a a - 2 * Q κ a b + Q κ b b := by
  have h : Q κ a a - 2 * Q κ a b + Q κ b b = Q κ a a - Q κ a b - Q κ b a + Q κ b b := by
    rw [Q_comm hκ b a]; ring
  rw [h]
  unfold Q
  simp only [← Finset.sum_sub_distrib, ← Finset.sum_add_distrib]
  refine Finset.sum_congr rfl fun i _ => Finset.sum_congr rfl fun j _ => ?_
  ring

/-- the bilinear form of vectors scaled by `1 / c`, in the shape in which the MMD code computes it
    (`alpha.T @ (affinity / N**2) @ alpha`) -/
theorem Q_div (κ : Fin n → Fin n → ℝ) (x y : Fin n → ℝ) (c : ℝ) :
    Q κ (fun i => x i / c) (fun j => y j / c) = ∑ i, x i * ∑ j, κ i j / (c * c) * y j := by
  unfold Q
  simp only [Finset.mul_sum]
  refine Finset.sum_congr rfl fun i _ => Finset.sum_congr rfl fun j _ => ?_
  ring

theorem Q_hasDerivAt (q : Fin n → Fin n → ℝ) {a b : ℝ → Fin n → ℝ} {a' b' : Fin n → ℝ} {x : ℝ}
    (ha : ∀ i, HasDerivAt (fun t => a t i) (a' i) x) (hb : ∀ i, HasDerivAt (fun t => b t i) (b' i) x) :
    HasDerivAt (fun t => Q q (a t) (b t)) (Q q a' (b x) + Q q (a x) b') x := by
  unfold Q
  refine (HasDerivAt.fun_sum fun i _ => HasDerivAt.fun_sum fun j _ =>
    ((ha i).mul_const (q i j)).fun_mul (hb j)).congr_deriv ?_
  simp only [Finset.sum_add_distrib]

/-- a symmetric quadratic form along a curve: the two halves of the product rule coincide -/
theorem Q_self_hasDerivAt {q : Fin n → Fin n → ℝ} (hq : ∀ i j, q i j = q j i) {a : ℝ → Fin n → ℝ}
    {a' : Fin n → ℝ} {x : ℝ} (ha : ∀ i, HasDerivAt (fun t => a t i) (a' i) x) :
    HasDerivAt (fun t => Q q (a t) (a t)) (2 * Q q a' (a x)) x :=
  (Q_hasDerivAt q ha ha).congr_deriv (by rw [Q_comm hq (a x), two_mul])

end GemVerif
