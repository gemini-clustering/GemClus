/-
  `find_active_points` of Douglas (C15): the loop is a filter for any test that does not raise, and what the repaired
  test decides.
-/
import GemVerif.NumReal
import GemVerif.Model.Douglas
import GemVerif.Lemmas.Fold

namespace GemVerif.Douglas
open Model.Douglas

theorem minL?_lt {l : List ℝ} {lo : ℝ} (h : minL? l = some lo) (c : ℝ) : lo < c ↔ ∃ v ∈ l, v < c := by
  cases l with
  | nil => simp [minL?] at h
  | cons a l =>
    rw [← Option.some.inj h, List.exists_mem_cons_iff]
    exact foldl_or_iff (P := (· < c)) (fun _ _ => min_lt_iff) l a

theorem lt_maxL? {l : List ℝ} {hi : ℝ} (h : maxL? l = some hi) (c : ℝ) : c < hi ↔ ∃ v ∈ l, c < v := by
  cases l with
  | nil => simp [maxL?] at h
  | cons a l =>
    rw [← Option.some.inj h, List.exists_mem_cons_iff]
    exact foldl_or_iff (P := (c < ·)) (fun _ _ => lt_max_iff) l a

theorem minL?_isSome {l : List ℝ} (h : l ≠ []) : ∃ lo, minL? l = some lo := by
  cases l with
  | nil => exact absurd rfl h
  | cons a l => exact ⟨_, rfl⟩

theorem maxL?_isSome {l : List ℝ} (h : l ≠ []) : ∃ hi, maxL? l = some hi := by
  cases l with
  | nil => exact absurd rfl h
  | cons a l => exact ⟨_, rfl⟩

theorem colAll_eq_false {n : ℕ} (p : ℝ → Bool) (col : Fin n → ℝ) : colAll p col = false ↔ ∃ i, p (col i) = false := by
  simp only [colAll, List.all_eq_false, List.mem_finRange, true_and, Bool.not_eq_true]

theorem testFixed_spec {n : ℕ} (hn : 0 < n) (col : Fin n → ℝ) (cuts : List ℝ) :
    ∃ b, testFixed col cuts = some b ∧ (b = true ↔ ∃ c ∈ cuts, (∃ i, col i < c) ∧ (∃ i, c < col i)) := by
  have hne : List.ofFn col ≠ [] := by
    intro h
    have := congrArg List.length h
    simp at this
    omega
  obtain ⟨lo, hlo⟩ := minL?_isSome hne
  obtain ⟨hi, hhi⟩ := maxL?_isSome hne
  refine ⟨cuts.any fun c => RealLike.lt lo c && RealLike.lt c hi, by simp [testFixed, hlo, hhi], ?_⟩
  simp only [List.any_eq_true, Bool.and_eq_true, RealLike.lt_real, decide_eq_true_eq, minL?_lt hlo, lt_maxL? hhi,
    List.mem_ofFn', Set.exists_range_iff]

/-- generic in the test (the model has `testFixed` and `testCurrent`); used at `testFixed` -/
theorem activeLoop_eq_filter {n d : ℕ} {test : (Fin n → ℝ) → List ℝ → Option Bool} (X : Fin n → Fin d → ℝ)
    (p : ℕ × List ℝ → Bool) : ∀ cl : List (ℕ × List ℝ),
      (∀ z ∈ cl, ∃ h : z.1 < d, test (fun i => X i ⟨z.1, h⟩) z.2 = some (p z)) →
      activeLoop test X cl = some ((cl.filter p).map Prod.fst)
  | [], _ => rfl
  | z :: cl, h => by
    obtain ⟨hz, ht⟩ := h z List.mem_cons_self
    rw [activeLoop, dif_pos hz, ht, activeLoop_eq_filter X p cl fun w hw => h w (List.mem_cons_of_mem _ hw),
      List.filter_cons]
    cases p z <;> rfl

/-- a feature index outside the data makes the loop fail (the source raises `IndexError`) -/
theorem activeLoop_none {n d : ℕ} (test : (Fin n → ℝ) → List ℝ → Option Bool) (X : Fin n → Fin d → ℝ) :
    ∀ cl : List (ℕ × List ℝ), (∃ z ∈ cl, d ≤ z.1) → activeLoop test X cl = none
  | [], h => by simp at h
  | z :: cl, h => by
    unfold activeLoop
    by_cases hz : z.1 < d
    · have : ∃ w ∈ cl, d ≤ w.1 := by
        obtain ⟨w, hw, hd⟩ := h
        rcases List.mem_cons.mp hw with rfl | hw
        · omega
        · exact ⟨w, hw, hd⟩
      rw [dif_pos hz, activeLoop_none test X cl this]
      cases test (fun i => X i ⟨z.1, hz⟩) z.2 <;> rfl
    · rw [dif_neg hz]

end GemVerif.Douglas
