/-
  `_infer` of Douglas over ℝ: the merged leaf, a fold of Kronecker products of the per-feature binnings, in closed form
  (`leaf[l] = ∏ᵢ Bᵢ[digit i l]`, a probability vector); the leaf of the sample's cell; the leaf count of `_init_params`.
-/
import GemVerif.Lemmas.DouglasBins

namespace GemVerif.Douglas
open Model.Douglas

theorem mem_usedFeatures_none {d f : ℕ} : f ∈ List.range d ↔ f < d := List.mem_range

theorem xget_of_lt {α : Type} [RealLike α] {d : ℕ} (x : Fin d → α) {f : ℕ} (h : f < d) : xget x f = x ⟨f, h⟩ :=
  dif_pos h

theorem xget_of_not_lt {α : Type} [RealLike α] {d : ℕ} (x : Fin d → α) {f : ℕ} (h : ¬ f < d) : xget x f = 0 :=
  dif_neg h

theorem usedFeatures_some {m : List Bool} {d : ℕ} {u : List ℕ} (h : usedFeatures (some m) d = some u) :
    m.length = d ∧ u = (List.range d).filter fun i => m.getD i false := by
  unfold usedFeatures at h
  simp only at h
  split at h
  · exact absurd h (by simp)
  · rename_i hlen
    simp only [bne_iff_ne, ne_eq, not_not] at hlen
    exact ⟨hlen, (Option.some.inj h).symm⟩

theorem filter_range_length (m : List Bool) :
    ((List.range m.length).filter fun i => m.getD i false).length = m.count true := by
  conv_rhs => rw [← map_getD_range m false, List.count, List.countP_map]
  rw [← List.countP_eq_length_filter]
  exact List.countP_congr fun i _ => by simp

theorem numLeaf_eq {nCuts d : ℕ} {mask : Option (List Bool)} {u : List ℕ} (h : usedFeatures mask d = some u) :
    numLeaf nCuts mask d = some ((nCuts + 1) ^ u.length) := by
  cases mask with
  | none =>
    simp only [usedFeatures, Option.some.injEq] at h
    subst h
    simp [numLeaf]
  | some m => simp [numLeaf, h]

theorem kron_cons (a : ℝ) (as b : List ℝ) : kron (a :: as) b = (b.map fun bk => a * bk) ++ kron as b := by
  simp [kron]

theorem kron_nil (b : List ℝ) : kron ([] : List ℝ) b = [] := rfl

theorem kron_length (a b : List ℝ) : (kron a b).length = a.length * b.length := by
  simp only [kron, List.length_flatMap, List.length_map, List.map_const', List.sum_replicate, smul_eq_mul]

theorem kron_sum (a b : List ℝ) : (kron a b).sum = a.sum * b.sum := by
  induction a with
  | nil => simp [kron_nil]
  | cons x as ih => rw [kron_cons, List.sum_append, List.sum_map_mul_left, List.map_id', ih, List.sum_cons]; ring

theorem kron_pos {a b : List ℝ} (ha : ∀ p ∈ a, 0 < p) (hb : ∀ p ∈ b, 0 < p) : ∀ p ∈ kron a b, 0 < p := fun p hp => by
  obtain ⟨x, hx, hp⟩ := List.mem_flatMap.mp hp
  obtain ⟨q, hq, rfl⟩ := List.mem_map.mp hp
  exact mul_pos (ha x hx) (hb q hq)

theorem flatMap_map_getD {β γ : Type} (f : β → γ → ℝ) (bs : List γ) : ∀ (as : List β) (i j : ℕ)
    (hi : i < as.length) (hj : j < bs.length),
    (as.flatMap fun a => bs.map (f a)).getD (i * bs.length + j) 0 = f as[i] bs[j]
  | [], i, j, hi, _ => absurd hi (Nat.not_lt_zero i)
  | a :: as, 0, j, _, hj => by
    rw [List.flatMap_cons, Nat.zero_mul, Nat.zero_add, List.getD_eq_getElem?_getD,
      List.getElem?_append_left (by rw [List.length_map]; exact hj), List.getElem?_map, List.getElem?_eq_getElem hj]
    rfl
  | a :: as, i + 1, j, hi, hj => by
    have he : (i + 1) * bs.length + j = (bs.map (f a)).length + (i * bs.length + j) := by
      rw [List.length_map, Nat.succ_mul, Nat.add_comm (i * _), Nat.add_assoc]
    rw [List.flatMap_cons, he, List.getD_eq_getElem?_getD, List.getElem?_append_right (Nat.le_add_right _ _),
      Nat.add_sub_cancel_left, ← List.getD_eq_getElem?_getD,
      flatMap_map_getD f bs as i j (Nat.lt_of_succ_lt_succ hi) hj, List.getElem_cons_succ]

/-- the `einsum(...).reshape` layout -/
theorem kron_getD (a b : List ℝ) {i j : ℕ} (hi : i < a.length) (hj : j < b.length) :
    (kron a b).getD (i * b.length + j) 0 = a.getD i 0 * b.getD j 0 := by
  rw [List.getD_eq_getElem _ _ hi, List.getD_eq_getElem _ _ hj]
  exact flatMap_map_getD (fun x y => x * y) b a i j hi hj

theorem kron_getD_divmod (a c : List ℝ) {l : ℕ} (hl : l < a.length * c.length) :
    (kron a c).getD l 0 = a.getD (l / c.length) 0 * c.getD (l % c.length) 0 := by
  have hc : 0 < c.length := Nat.pos_of_ne_zero fun h => by simp [h] at hl
  have h1 : l / c.length < a.length := Nat.div_lt_of_lt_mul (by rwa [Nat.mul_comm])
  have h2 : l % c.length < c.length := Nat.mod_lt _ hc
  have := kron_getD a c h1 h2
  rwa [Nat.div_add_mod'] at this

theorem digit_cons_zero (r : ℕ) (rs : List ℕ) (l : ℕ) : digit (r :: rs) 0 l = (l / rs.prod) % r := rfl

theorem digit_cons_succ (r : ℕ) (rs : List ℕ) (i l : ℕ) : digit (r :: rs) (i + 1) l = digit rs i l := rfl

theorem foldl_kron_getD_lead : ∀ (bs : List (List ℝ)) (b : List ℝ) (l : ℕ),
    l < b.length * (bs.map List.length).prod →
    (bs.foldl kron b).getD l 0 = b.getD (l / (bs.map List.length).prod) 0 *
      ∏ i ∈ Finset.range bs.length, (bs.getD i []).getD (digit (bs.map List.length) i l) 0
  | [], b, l, _ => by simp
  | c :: bs, b, l, hl => by
    rw [List.map_cons, List.prod_cons, ← Nat.mul_assoc] at hl
    have hlt : l / (bs.map List.length).prod < b.length * c.length :=
      Nat.div_lt_of_lt_mul (by rwa [Nat.mul_comm])
    rw [List.foldl_cons, foldl_kron_getD_lead bs (kron b c) l (by rwa [kron_length]), kron_getD_divmod b c hlt,
      List.length_cons, Finset.prod_range_succ']
    simp only [List.map_cons, List.prod_cons, List.getD_cons_succ, List.getD_cons_zero, digit_cons_succ,
      digit_cons_zero]
    rw [Nat.div_div_eq_div_mul, Nat.mul_comm (bs.map List.length).prod]
    ring

/-- `digit` reads `l` in the C order of a reshape to the per-feature bin counts -/
theorem foldl_kron_getD_digit (b : List ℝ) (bs : List (List ℝ)) (l : ℕ)
    (hl : l < ((b :: bs).map List.length).prod) :
    (bs.foldl kron b).getD l 0
      = ∏ i ∈ Finset.range (bs.length + 1),
          ((b :: bs).getD i []).getD (digit ((b :: bs).map List.length) i l) 0 := by
  rw [List.map_cons, List.prod_cons] at hl
  have hlt : l / (bs.map List.length).prod < b.length := Nat.div_lt_of_lt_mul (by rwa [Nat.mul_comm])
  rw [foldl_kron_getD_lead bs b l hl, Finset.prod_range_succ']
  simp only [List.map_cons, List.getD_cons_succ, List.getD_cons_zero, digit_cons_succ, digit_cons_zero,
    Nat.mod_eq_of_lt hlt]
  ring

theorem IsProb.kron {a b : List ℝ} (ha : IsProb a) (hb : IsProb b) : IsProb (kron a b) :=
  ⟨kron_pos ha.pos hb.pos, by rw [kron_sum, ha.sum_eq, hb.sum_eq, one_mul]⟩

theorem foldl_kron_length : ∀ (bs : List (List ℝ)) (b : List ℝ),
    (bs.foldl kron b).length = b.length * (bs.map List.length).prod
  | [], b => by simp
  | c :: bs, b => by
    rw [List.foldl_cons, foldl_kron_length bs, kron_length, List.map_cons, List.prod_cons]; ring

/-- mixed-radix index: `acc`, then one (digit, radix) pair per further feature -/
def cellIdx (acc : ℕ) : List (ℕ × ℕ) → ℕ
  | [] => acc
  | p :: rest => cellIdx (acc * p.2 + p.1) rest

theorem cellIdx_digit : ∀ (kr : List (ℕ × ℕ)) (a : ℕ), (∀ p ∈ kr, p.1 < p.2) →
    cellIdx a kr / (kr.map Prod.snd).prod = a ∧
      ∀ j (hj : j < kr.length), digit (kr.map Prod.snd) j (cellIdx a kr) = kr[j].1
  | [], a, _ => ⟨by simp [cellIdx], fun j hj => absurd hj (Nat.not_lt_zero j)⟩
  | p :: kr, a, h => by
    obtain ⟨hdiv, hdig⟩ := cellIdx_digit kr (a * p.2 + p.1) fun q hq => h q (List.mem_cons_of_mem _ hq)
    have hp := h p List.mem_cons_self
    simp only [cellIdx, List.map_cons, List.prod_cons]
    refine ⟨?_, fun j hj => ?_⟩
    · rw [Nat.mul_comm p.2, ← Nat.div_div_eq_div_mul, hdiv]
      exact Nat.div_eq_of_lt_le (Nat.le_add_right _ _) (by rw [Nat.succ_mul]; omega)
    · cases j with
      | zero => rw [digit_cons_zero, hdiv, Nat.mul_add_mod', Nat.mod_eq_of_lt hp]; rfl
      | succ j => rw [digit_cons_succ, List.getElem_cons_succ]; exact hdig j (Nat.lt_of_succ_lt_succ hj)

theorem prod_ge_one_sub_sum {ι : Type} (p a : ι → ℝ) : ∀ l : List ι, (∀ i ∈ l, 0 < p i ∧ p i ≤ 1 ∧ 1 - a i ≤ p i) →
    0 < (l.map p).prod ∧ (l.map p).prod ≤ 1 ∧ 1 - (l.map a).sum ≤ (l.map p).prod
  | [], _ => ⟨one_pos, le_rfl, (sub_zero (1 : ℝ)).le⟩
  | i :: l, h => by
    obtain ⟨h0, h1, h2⟩ := prod_ge_one_sub_sum p a l fun r hr => h r (List.mem_cons_of_mem _ hr)
    obtain ⟨q0, q1, q2⟩ := h i List.mem_cons_self
    simp only [List.map_cons, List.prod_cons, List.sum_cons]
    refine ⟨mul_pos q0 h0, mul_le_one₀ q1 h0.le h1, ?_⟩
    -- `p·P ≥ p + P − 1` because `(1 − p)(1 − P) ≥ 0`
    linear_combination q2 + h2 + mul_nonneg (sub_nonneg.mpr q1) (sub_nonneg.mpr h1)

theorem leafRow_eq_foldl {d : ℕ} {T : ℝ} {x : Fin d → ℝ} {cl : List (ℕ × List ℝ)} {leaf : List ℝ}
    (h : leafRow T x cl = some leaf) : ∃ b rest, binnings T x cl = b :: rest ∧ leaf = rest.foldl kron b := by
  rw [leafRow] at h
  split at h
  · cases hb : binnings T x cl with
    | nil => rw [hb] at h; exact absurd h (by simp [mergeAll])
    | cons b rest => rw [hb] at h; exact ⟨b, rest, rfl, (Option.some.inj h).symm⟩
  · exact absurd h (by simp)

theorem leafRow_isSome_iff {d : ℕ} (T : ℝ) (x : Fin d → ℝ) (cl : List (ℕ × List ℝ)) :
    (∃ leaf, leafRow T x cl = some leaf) ↔ cl.map Prod.fst ≠ [] ∧ ∀ f ∈ cl.map Prod.fst, f < d := by
  have hin : inRange d cl = true ↔ ∀ f ∈ cl.map Prod.fst, f < d := by
    simp only [inRange, List.all_eq_true, decide_eq_true_eq, List.forall_mem_map]
  rw [← hin, leafRow]
  cases cl with
  | nil => simp [binnings, mergeAll]
  | cons z cl => cases inRange d (z :: cl) <;> simp [binnings, mergeAll]

theorem leafRow_isSome {d : ℕ} (T : ℝ) (x : Fin d → ℝ) {cl : List (ℕ × List ℝ)} (hne : cl ≠ [])
    (hr : ∀ z ∈ cl, z.1 < d) : ∃ leaf, leafRow T x cl = some leaf :=
  (leafRow_isSome_iff T x cl).mpr ⟨mt List.map_eq_nil_iff.mp hne, List.forall_mem_map.mpr hr⟩

theorem leafRow_isProb {d : ℕ} {T : ℝ} {x : Fin d → ℝ} {cl : List (ℕ × List ℝ)} {leaf : List ℝ}
    (h : leafRow T x cl = some leaf) : IsProb leaf := by
  obtain ⟨b, rest, hb, rfl⟩ := leafRow_eq_foldl h
  have hall : ∀ c ∈ binnings T x cl, IsProb c := by
    intro c hc
    obtain ⟨z, _, rfl⟩ := List.mem_map.mp hc
    exact binning_isProb _ _ _
  rw [hb] at hall
  exact foldl_induction kron IsProb rest (fun _ c hc hb => hb.kron (hall c (List.mem_cons_of_mem _ hc))) b
    (hall b List.mem_cons_self)

theorem radices_eq_map_length {d : ℕ} (T : ℝ) (x : Fin d → ℝ) (cl : List (ℕ × List ℝ)) :
    (binnings T x cl).map List.length = radices cl := by
  simp [binnings, radices, binning_length, Function.comp_def]

theorem leafRow_length {d : ℕ} {T : ℝ} {x : Fin d → ℝ} {cl : List (ℕ × List ℝ)} {leaf : List ℝ}
    (h : leafRow T x cl = some leaf) : leaf.length = (cl.map fun z => z.2.length + 1).prod := by
  obtain ⟨b, rest, hb, rfl⟩ := leafRow_eq_foldl h
  rw [foldl_kron_length, ← List.prod_cons, ← List.map_cons, ← hb, radices_eq_map_length]
  rfl

/-- entry `k` of the row of `_infer`, for a leaf row with one entry per row of `leaf_scores_` -/
theorem inferRow_getD {d L K : ℕ} {T : ℝ} {x : Fin d → ℝ} {cl : List (ℕ × List ℝ)} {leaf : List ℝ}
    (h : leafRow T x cl = some leaf) (hL : leaf.length = L) (S : Fin L → Fin K → ℝ) (k : Fin K) :
    ((inferRow T x cl S).getD []).getD k.val 0
      = Model.Nets.softmaxRow (fun k => ∑ l : Fin L, leaf.getD l.val 0 * S l k) k := by
  simp only [inferRow, h, hL, if_true, Option.getD_some, scoreRow, sumFin_eq_sum]
  exact softmaxRow_ofFn_getD _ k

/-- feature index of slot `i` of `cut_points_list_` -/
def feat (cl : List (ℕ × List ℝ)) (i : ℕ) : ℕ := (cl.getD i (0, [])).1
/-- cut vector of slot `i` of `cut_points_list_` -/
def cutsAt (cl : List (ℕ × List ℝ)) (i : ℕ) : List ℝ := (cl.getD i (0, [])).2

theorem cutsAt_eq_getElem (cl : List (ℕ × List ℝ)) {i : ℕ} (hi : i < cl.length) : cutsAt cl i = cl[i].2 := by
  simp [cutsAt, List.getD_eq_getElem?_getD, List.getElem?_eq_getElem hi]

theorem feat_eq_getElem (cl : List (ℕ × List ℝ)) {i : ℕ} (hi : i < cl.length) : feat cl i = cl[i].1 := by
  simp [feat, List.getD_eq_getElem?_getD, List.getElem?_eq_getElem hi]

theorem binnings_getD {d : ℕ} (T : ℝ) (x : Fin d → ℝ) (cl : List (ℕ × List ℝ)) {i : ℕ} (hi : i < cl.length) :
    (binnings T x cl).getD i [] = binning T (xget x (feat cl i)) (cutsAt cl i) := by
  simp [binnings, feat, cutsAt, List.getD_eq_getElem?_getD, List.getElem?_eq_getElem hi]

theorem radices_getD (cl : List (ℕ × List ℝ)) (dflt : ℕ) {i : ℕ} (hi : i < cl.length) :
    (radices cl).getD i dflt = (cutsAt cl i).length + 1 := by
  simp [radices, cutsAt, List.getD_eq_getElem?_getD, List.getElem?_eq_getElem hi]

theorem digit_lt (cl : List (ℕ × List ℝ)) {i : ℕ} (hi : i < cl.length) (l : ℕ) :
    digit (radices cl) i l < (cutsAt cl i).length + 1 := by
  unfold digit
  rw [radices_getD cl 1 hi]
  exact Nat.mod_lt _ (Nat.succ_pos _)

theorem leafRow_getD_digit {d : ℕ} {T : ℝ} {x : Fin d → ℝ} {cl : List (ℕ × List ℝ)} {leaf : List ℝ}
    (h : leafRow T x cl = some leaf) {l : ℕ} (hl : l < leaf.length) :
    leaf.getD l 0 = ∏ i ∈ Finset.range cl.length,
      memb T (xget x (feat cl i)) (cutsAt cl i) (digit (radices cl) i l) := by
  have hlen := leafRow_length h
  obtain ⟨b, rest, hb, rfl⟩ := leafRow_eq_foldl h
  have hN : rest.length + 1 = cl.length := by
    have := congrArg List.length hb
    simpa [binnings] using this.symm
  have hrad : (b :: rest).map List.length = radices cl := by rw [← hb, radices_eq_map_length]
  rw [foldl_kron_getD_digit b rest l (by rw [hrad]; rw [hlen] at hl; exact hl), hN, hrad, ← hb]
  refine Finset.prod_congr rfl fun i hi => ?_
  rw [binnings_getD T x cl (Finset.mem_range.mp hi)]
  rfl

/-- index of the leaf of the cell of `x`: mixed radix in the per-feature cells -/
noncomputable def leafIndex {d : ℕ} (x : Fin d → ℝ) (cl : List (ℕ × List ℝ)) : ℕ :=
  cellIdx 0 (cl.map fun z => (cell (xget x z.1) z.2, z.2.length + 1))

theorem leafIndex_digits {d : ℕ} (x : Fin d → ℝ) (cl : List (ℕ × List ℝ)) :
    leafIndex x cl / (radices cl).prod = 0 ∧
      ∀ i (hi : i < cl.length), digit (radices cl) i (leafIndex x cl) = cell (xget x cl[i].1) cl[i].2 := by
  have h := cellIdx_digit (cl.map fun z => (cell (xget x z.1) z.2, z.2.length + 1)) 0
    (List.forall_mem_map.mpr fun z _ => Nat.lt_succ_of_le (cell_le_length _ _))
  rw [List.map_map] at h
  exact ⟨h.1, fun i hi => (h.2 i (by rw [List.length_map]; exact hi)).trans (by rw [List.getElem_map])⟩

theorem leafIndex_lt {d : ℕ} (x : Fin d → ℝ) (cl : List (ℕ × List ℝ)) :
    leafIndex x cl < (cl.map fun z => z.2.length + 1).prod :=
  (Nat.div_eq_zero_iff.mp (leafIndex_digits x cl).1).resolve_left
    (List.prod_pos (List.forall_mem_map.mpr fun _ _ => Nat.succ_pos _)).ne'

theorem leafRow_cell {d : ℕ} {T : ℝ} {x : Fin d → ℝ} {cl : List (ℕ × List ℝ)} {leaf : List ℝ}
    (h : leafRow T x cl = some leaf) :
    leaf.getD (leafIndex x cl) 0 = (cl.map fun z => memb T (xget x z.1) z.2 (cell (xget x z.1) z.2)).prod := by
  rw [leafRow_getD_digit h (by rw [leafRow_length h]; exact leafIndex_lt x cl), ← Fin.prod_univ_fun_getElem,
    Finset.prod_range]
  refine Finset.prod_congr rfl fun i _ => ?_
  rw [(leafIndex_digits x cl).2 i i.isLt, feat_eq_getElem cl i.isLt, cutsAt_eq_getElem cl i.isLt]

theorem leafRow_cell_ge {d : ℕ} {T g : ℝ} (hT : 0 < T) (hg0 : 0 ≤ g) {x : Fin d → ℝ} {cl : List (ℕ × List ℝ)}
    (hg : ∀ z ∈ cl, ∀ c ∈ z.2, g ≤ |xget x z.1 - c|) {leaf : List ℝ} (h : leafRow T x cl = some leaf) :
    1 - ((cl.map fun z => z.2.length).sum : ℕ) * Real.exp (-g / T) ≤ leaf.getD (leafIndex x cl) 0 := by
  rw [leafRow_cell h, Nat.cast_list_sum, List.map_map, ← List.sum_map_mul_right]
  exact (prod_ge_one_sub_sum _ _ cl fun z hz =>
    ⟨memb_pos _ _ _ (cell_le_length _ _), memb_le_one _ _ _ _, memb_cell_ge hT (hg z hz) hg0⟩).2.2

end GemVerif.Douglas
