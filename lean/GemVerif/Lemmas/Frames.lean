/-
  Frames → history independence (property C12).  No Mathlib.

  An estimator object is modelled as a store `String → Val` (attribute name ↦ value; absent attributes hold some fixed
  value of `Val`).  A public method `m` is a state transformer `step m : Store → Arg → Store` (`Arg` = the caller's data,
  affinity and keyword arguments; the result is the object's state when the call is over, whether it returned or
  raised) together with a predicate `returns m σ a` ("the call returns normally").  What is assumed about the real
  code — and nothing else — is `Sound`: each method respects its translated frame (`Respects`).  That assumption is the
  soundness of the dataflow extraction of `translator/frames.py` plus determinism of the numeric libraries for an
  integer `random_state`; it is trusted here and validated dynamically by `harness/props/c12.py` (attribute spies,
  state fingerprints, bit-for-bit history differential).

  What is proved: from the Boolean table facts (`noStaleRead`, `netViolations = …`, `allViolations = …`) it follows that
  the configuration of an object after any admissible call history — calls that raise included — is what the
  `set_params` calls of that history alone produce (`config_preserved`), and that a fitting method called after any
  admissible history yields — on everything it definitely writes — the same values as the same call on any object
  holding the same configuration, e.g. a fresh object or a clone (`frame_determinism`).
-/
import GemVerif.Model.Frames

namespace GemVerif.Lemmas.Frames
open GemVerif.Model.Frames

theorem subset_iff {a b : List String} : subset a b = true ↔ ∀ x ∈ a, x ∈ b := by
  simp [subset]

theorem disjoint_iff {a b : List String} : disjoint a b = true ↔ ∀ x ∈ a, x ∉ b := by
  simp [disjoint]

theorem disjoint_spec {a b : List String} (h : disjoint a b = true) : ∀ x ∈ a, x ∉ b :=
  disjoint_iff.1 h

theorem noStaleRead_iff {T : Tables} {m : String} :
    noStaleRead T m = true ↔ ∀ f ∈ T.frames, f.method = m → ∀ x ∈ f.reads, x ∈ config T f.cls := by
  simp [noStaleRead, subset_iff, Classical.or_iff_not_imp_left]

theorem violationsOf_eq_nil_iff {sel : Frame → List String} {T : Tables} :
    violationsOf sel T = [] ↔ ∀ f ∈ T.frames, f.method ≠ "__init__" → ∀ x ∈ sel f, x ∉ config T f.cls := by
  simp only [violationsOf, List.flatMap_eq_nil_iff]
  refine forall₂_congr fun f _ => ?_
  by_cases hi : f.method = "__init__" <;> simp [hi, List.filter_eq_nil_iff]

theorem netViolations_eq_nil {T : Tables} (h : allViolations T = []) : netViolations T = [] :=
  violationsOf_eq_nil_iff.2 fun f hf hi x hx =>
    violationsOf_eq_nil_iff.1 h f hf hi x (List.mem_append_left _ hx)

theorem observersKeepInputs_iff {T : Tables} :
    observersKeepInputs T = true ↔ ∀ f ∈ T.frames, isObserver f.method = true → ∀ g ∈ T.frames, g.cls = f.cls →
      g.method ∈ fittingMethods → ∀ x ∈ f.net, x ∉ g.reads := by
  simp [observersKeepInputs, disjoint_iff, Classical.or_iff_not_imp_left]

/-- an observer leaves the configuration as it found it, and a fitting method reads nothing but the configuration -/
theorem observersKeepInputs_of_config {T : Tables}
    (hr : ∀ f ∈ T.frames, f.method ∈ fittingMethods → ∀ x ∈ f.reads, x ∈ config T f.cls)
    (hv : allViolations T = []) : observersKeepInputs T = true :=
  observersKeepInputs_iff.2 fun f hf hobs g hg hc hm x hx hxg =>
    have hi : f.method ≠ "__init__" := fun h => by simp [isObserver, h] at hobs
    violationsOf_eq_nil_iff.1 hv f hf hi x (List.mem_append_left _ hx) (hc ▸ hr g hg hm x hxg)

theorem observersReadModel_iff {T : Tables} :
    observersReadModel T = true ↔ ∀ f ∈ T.frames, isObserver f.method = true → ∀ g ∈ T.frames, g.cls = f.cls →
      g.method = "fit" → ∀ x ∈ f.reads, x ∈ config T f.cls ++ g.must := by
  simp [observersReadModel, subset_iff, Classical.or_iff_not_imp_left]

theorem stores_of_initIdentity {T : Tables} (h : initIdentity T = true) (hc : ∀ s ∈ T.init, s.cls ∈ T.classes) :
    (∀ c ∈ T.classes, ∀ p ∈ hyperOf T c, (⟨c, p, "param", p⟩ : InitStore) ∈ T.init) ∧
    (∀ s ∈ T.init, s.attr ∈ hyperOf T s.cls → s.kind = "param" ∧ s.src = s.attr) := by
  simp only [initIdentity, List.all_eq_true, Bool.and_eq_true, List.any_eq_true, beq_iff_eq, Bool.or_eq_true,
    List.mem_filter, Bool.not_eq_true', List.contains_eq_mem, decide_eq_true_eq, decide_eq_false_iff_not] at h
  -- `h c _` is the three tests of `initIdentity` as propositions: every parameter of `c` has its store, every store of
  -- `c` is a parameter under its own name or a constant off the parameter names, the `__init__` frame
  constructor
  · intro c hcm p hp
    obtain ⟨⟨hparam, -⟩, -⟩ := h c hcm
    obtain ⟨⟨c', a, k, s⟩, ⟨hs, hc'⟩, ⟨ha, hk⟩, hsrc⟩ := hparam p hp
    simp only at hc' ha hk hsrc
    rwa [hc', ha, hk, hsrc] at hs
  · intro s hs ha
    obtain ⟨⟨-, hstore⟩, -⟩ := h s.cls (hc s hs)
    rcases hstore s ⟨hs, rfl⟩ with ⟨⟨hk, hsrc⟩, _⟩ | ⟨_, hn⟩
    · exact ⟨hk, hsrc.symm⟩
    · exact absurd ha hn

/-! The checkers of `Model/Frames.lean` look a frame's class up again for every frame (`config T f.cls` filters the whole
  constructor table, the two-frame checkers compare every pair of frames).  `byClass` does the look-up once per class;
  the checkers below run the same tests over it, and the `…_of_byClass` lemmas give the checkers of the model back. -/

/-- a class, its configuration, its frames -/
def byClass (T : Tables) : List (String × List String × List Frame) :=
  T.classes.map fun c => (c, config T c, T.frames.filter (·.cls == c))

def allClasses (T : Tables) (P : String → List String → List Frame → Bool) : Bool :=
  (byClass T).all fun (c, cfg, fs) => P c cfg fs

theorem allClasses_iff {T : Tables} {P : String → List String → List Frame → Bool} :
    allClasses T P = true ↔ ∀ c ∈ T.classes, P c (config T c) (T.frames.filter (·.cls == c)) = true := by
  simp [allClasses, byClass]

def allFrames (T : Tables) (φ : List String → Frame → Bool) : Bool :=
  allClasses T fun _ cfg fs => fs.all (φ cfg)

def allFramePairs (T : Tables) (ψ : List String → Frame → Frame → Bool) : Bool :=
  allClasses T fun _ cfg fs => fs.all fun f => fs.all (ψ cfg f)

/-- `rel (sel f) cfg` for every frame `f` of a method selected by `ms`, `cfg` being the configuration of its class -/
def configRel (rel : List String → List String → Bool) (sel : Frame → List String) (ms : String → Bool) (T : Tables) :
    Bool :=
  allFrames T fun cfg f => !ms f.method || rel (sel f) cfg

def observersReadModelByClass (T : Tables) : Bool :=
  allFramePairs T fun cfg f g => !isObserver f.method || !(g.method == "fit") || subset f.reads (cfg ++ g.must)

def completeByClass (T : Tables) : Bool :=
  allClasses T fun c _ fs =>
    (T.hyper.lookup c).isSome && requiredMethods.all (fun m => (fs.filter (·.method == m)).length == 1) &&
    fs.all fun f => (fs.filter (·.method == f.method)).length == 1 &&
      (subset f.net f.writes && subset f.netExc f.writes && subset f.must f.writes)

theorem filter_cls_method (T : Tables) (c m : String) :
    (T.frames.filter fun f => f.cls == c && f.method == m) = (T.frames.filter (·.cls == c)).filter (·.method == m) := by
  simp [List.filter_filter, Bool.and_comm]

section
variable {T : Tables} (hl : ∀ f ∈ T.frames, f.cls ∈ T.classes)
include hl

theorem allFrames_spec {φ : List String → Frame → Bool} (h : allFrames T φ = true) {f : Frame} (hf : f ∈ T.frames) :
    φ (config T f.cls) f = true :=
  List.all_eq_true.1 (allClasses_iff.1 h f.cls (hl f hf)) f (List.mem_filter.2 ⟨hf, beq_self_eq_true _⟩)

theorem allFramePairs_spec {ψ : List String → Frame → Frame → Bool} (h : allFramePairs T ψ = true) {f g : Frame}
    (hf : f ∈ T.frames) (hg : g ∈ T.frames) (hc : g.cls = f.cls) : ψ (config T f.cls) f g = true :=
  List.all_eq_true.1
    (List.all_eq_true.1 (allClasses_iff.1 h f.cls (hl f hf)) f (List.mem_filter.2 ⟨hf, beq_self_eq_true _⟩))
    g (List.mem_filter.2 ⟨hg, beq_iff_eq.2 hc⟩)

theorem configRel_spec {rel : List String → List String → Bool} {sel : Frame → List String} {ms : String → Bool}
    (h : configRel rel sel ms T = true) {f : Frame} (hf : f ∈ T.frames) (hm : ms f.method = true) :
    rel (sel f) (config T f.cls) = true := by
  simpa [hm] using allFrames_spec hl h hf

theorem violationsOf_eq_nil_of_byClass {sel : Frame → List String}
    (h : configRel disjoint sel (· != "__init__") T = true) : violationsOf sel T = [] :=
  violationsOf_eq_nil_iff.2 fun _ hf hi => disjoint_spec (configRel_spec hl h hf (bne_iff_ne.2 hi))

theorem noStaleRead_of_byClass {ms : String → Bool} (h : configRel subset (·.reads) ms T = true) {m : String}
    (hm : ms m = true) : noStaleRead T m = true :=
  noStaleRead_iff.2 fun _ hf hfm => subset_iff.1 (configRel_spec hl h hf (hfm ▸ hm))

theorem observersReadModel_of_byClass (h : observersReadModelByClass T = true) : observersReadModel T = true :=
  observersReadModel_iff.2 fun _ hf hobs _ hg hc hm =>
    subset_iff.1 (by simpa [hobs, hm] using allFramePairs_spec hl h hf hg hc)

theorem complete_of_byClass (h : completeByClass T = true) : complete T = true := by
  have hc := allClasses_iff.1 h
  simp only [Bool.and_eq_true, List.all_eq_true] at hc
  -- `hc c _`: the class test of `complete` on `c`, and for every frame of `c` its uniqueness and its three `subset`s
  have hframe (f : Frame) (hf : f ∈ T.frames) := (hc f.cls (hl f hf)).2 f (List.mem_filter.2 ⟨hf, beq_self_eq_true _⟩)
  simp only [complete, Bool.and_eq_true, List.all_eq_true, filter_cls_method]
  exact ⟨⟨fun c hcm => (hc c hcm).1, fun f hf => ⟨List.contains_iff_mem.2 (hl f hf), (hframe f hf).1⟩⟩,
    fun f hf => (hframe f hf).2⟩

end

/-- the first frame of `(c, m)` in the table -/
def frameOf (T : Tables) (c m : String) : Option Frame :=
  T.frames.find? fun f => f.cls == c && f.method == m

theorem frameOf_spec {T : Tables} {c m : String} {f : Frame} (h : frameOf T c m = some f) :
    f ∈ T.frames ∧ f.cls = c ∧ f.method = m := by
  unfold frameOf at h
  have hm := List.mem_of_find?_eq_some h
  have hp := List.find?_some h
  simp only [Bool.and_eq_true, beq_iff_eq] at hp
  exact ⟨hm, hp.1, hp.2⟩

section
variable {Val Arg : Type}

/-- state of one estimator object -/
abbrev Store (Val : Type) := String → Val

def AgreeOn (S : List String) (σ τ : Store Val) : Prop := ∀ x ∈ S, σ x = τ x

theorem AgreeOn.refl (S : List String) (σ : Store Val) : AgreeOn S σ σ := fun _ _ => rfl

/-- the behaviour of the public methods of one class: state after the call, and whether the call returned normally -/
structure Sem (Val Arg : Type) where
  step : String → Store Val → Arg → Store Val
  returns : String → Store Val → Arg → Prop

/-- method `m` respects frame `f` -/
structure Respects (S : Sem Val Arg) (m : String) (f : Frame) : Prop where
  /-- an attribute outside `net` keeps its entry value when the call returns; outside `net ∪ netExc` also when it raises -/
  keeps : ∀ σ a x, x ∉ f.net → (S.returns m σ a ∨ x ∉ f.netExc) → S.step m σ a x = σ x
  /-- whether the call returns, and what it definitely writes, depend only on the argument and on the attributes read
      before written -/
  dep : ∀ σ τ a, AgreeOn f.reads σ τ → S.returns m σ a →
    S.returns m τ a ∧ AgreeOn f.must (S.step m σ a) (S.step m τ a)

/-- trusted link to the code: `S` describes the public methods of class `c` and respects every translated frame of `c` -/
def Sound (T : Tables) (c : String) (S : Sem Val Arg) : Prop :=
  ∀ m f, frameOf T c m = some f → Respects S m f

/-- a public call: a method with its arguments, or `set_params(p = v)` -/
inductive Call (Val Arg : Type) where
  | meth (m : String) (a : Arg)
  | setParam (p : String) (v : Val)

def setAttr (σ : Store Val) (p : String) (v : Val) : Store Val := fun x => if x = p then v else σ x

def runCall (S : Sem Val Arg) (σ : Store Val) : Call Val Arg → Store Val
  | .meth m a => S.step m σ a
  | .setParam p v => setAttr σ p v

def run (S : Sem Val Arg) (σ : Store Val) (h : List (Call Val Arg)) : Store Val := h.foldl (runCall S) σ

def isSetParam : Call Val Arg → Bool
  | .setParam _ _ => true
  | .meth _ _ => false

def paramsOnly (h : List (Call Val Arg)) : List (Call Val Arg) := h.filter isSetParam

/-- A history is admissible from state `σ` when every method call in it is a public method of the class with a frame,
    other than the constructor, and either the (class, method) pair has no listed deviation at all (`devsAll`), or the
    call returned normally and the pair has no listed normal-exit deviation (`devsRet`).  `set_params` calls are
    unrestricted; calls that raise are allowed. -/
def Admissible (T : Tables) (c : String) (devsRet devsAll : List (String × String × String)) (S : Sem Val Arg) :
    Store Val → List (Call Val Arg) → Prop
  | _, [] => True
  | σ, .setParam p v :: h => Admissible T c devsRet devsAll S (setAttr σ p v) h
  | σ, .meth m a :: h =>
      m ≠ "__init__" ∧ (∃ f, frameOf T c m = some f) ∧
      ((∀ x, (c, m, x) ∉ devsAll) ∨ (S.returns m σ a ∧ ∀ x, (c, m, x) ∉ devsRet)) ∧
      Admissible T c devsRet devsAll S (S.step m σ a) h

theorem sel_avoids_config {T : Tables} {sel : Frame → List String} {devs : List (String × String × String)}
    (hv : violationsOf sel T = devs)
    {f : Frame} (hf : f ∈ T.frames) (hinit : f.method ≠ "__init__") (hdev : ∀ a, (f.cls, f.method, a) ∉ devs) :
    ∀ x ∈ sel f, x ∉ config T f.cls := by
  intro x hx hC
  apply hdev x
  rw [← hv]
  unfold violationsOf
  rw [List.mem_flatMap]
  refine ⟨f, hf, ?_⟩
  have : (f.method == "__init__") = false := beq_eq_false_iff_ne.mpr hinit
  simp only [this, Bool.false_eq_true, if_false, List.mem_map, List.mem_filter]
  exact ⟨x, ⟨hx, List.contains_iff_mem.mpr hC⟩, rfl⟩

theorem agreeOn_setAttr {S : List String} {σ τ : Store Val} (h : AgreeOn S σ τ) (p : String) (v : Val) :
    AgreeOn S (setAttr σ p v) (setAttr τ p v) := by
  intro x hx
  unfold setAttr
  by_cases hxp : x = p
  · simp [hxp]
  · simp [hxp, h x hx]

theorem run_cons (S : Sem Val Arg) (σ : Store Val) (call : Call Val Arg)
    (h : List (Call Val Arg)) : run S σ (call :: h) = run S (runCall S σ call) h := rfl

/-- `config_preserved` with two start states that agree on the configuration, as the induction needs -/
theorem config_preserved_gen {T : Tables} {c : String} {devsRet devsAll : List (String × String × String)}
    {S : Sem Val Arg}
    (hret : netViolations T = devsRet) (hall : allViolations T = devsAll) (hs : Sound T c S) :
    ∀ (h : List (Call Val Arg)) (σ τ : Store Val), Admissible T c devsRet devsAll S σ h →
      AgreeOn (config T c) σ τ → AgreeOn (config T c) (run S σ h) (run S τ (paramsOnly h)) := by
  intro h
  induction h with
  | nil => intro σ τ _ hag; exact hag
  | cons call h ih =>
    intro σ τ hadm hag
    cases call with
    | meth m a =>
      obtain ⟨hinit, ⟨f, hfo⟩, hcase, hrest⟩ := hadm
      obtain ⟨hf, rfl, rfl⟩ := frameOf_spec hfo
      have hpo : paramsOnly (Call.meth f.method a :: h) = paramsOnly h := by
        simp [paramsOnly, isSetParam]
      rw [run_cons, hpo]
      refine ih _ _ hrest fun x hx => ?_
      show S.step f.method σ a x = τ x
      have hkeep : S.step f.method σ a x = σ x := by
        rcases hcase with hnone | ⟨hreturned, hnoret⟩
        · have hnot : x ∉ f.net ++ f.netExc := fun hmem => sel_avoids_config hall hf hinit hnone x hmem hx
          rw [List.mem_append, not_or] at hnot
          exact (hs _ f hfo).keeps σ a x hnot.1 (Or.inr hnot.2)
        · exact (hs _ f hfo).keeps σ a x (fun hmem => sel_avoids_config hret hf hinit hnoret x hmem hx)
            (Or.inl hreturned)
      rw [hkeep]
      exact hag x hx
    | setParam p v =>
      have hpo : paramsOnly (Call.setParam p v :: h) = Call.setParam p v :: paramsOnly h := by
        simp [paramsOnly, List.filter_cons, isSetParam]
      rw [run_cons, hpo, run_cons]
      exact ih _ _ hadm (agreeOn_setAttr hag p v)

/-- The configuration (hyperparameters and constructor literals) of an object after any admissible history of public
    calls is exactly what replaying only the `set_params` calls of that history gives: no `fit`, `predict`, `score`, …
    leaves a trace in it, whether it returned or raised. -/
theorem config_preserved {T : Tables} {c : String} {devsRet devsAll : List (String × String × String)}
    {S : Sem Val Arg}
    (hret : netViolations T = devsRet) (hall : allViolations T = devsAll) (hs : Sound T c S)
    (h : List (Call Val Arg)) (σ : Store Val) (hadm : Admissible T c devsRet devsAll S σ h) :
    AgreeOn (config T c) (run S σ h) (run S σ (paramsOnly h)) :=
  config_preserved_gen hret hall hs h σ σ hadm (AgreeOn.refl _ _)

/-- **History independence from frames.**  Let `m` be a method whose reads-before-write are all configuration
    attributes (`noStaleRead T m`).  After any admissible history `h` on an object that started in state `σ`, if calling
    `m` with argument `a` returns, then it also returns on any object `τ` whose configuration equals the one obtained
    from `σ` by the `set_params` calls of `h` alone — a fresh object built with those hyperparameters, a clone, or the
    same object before the history — and the two results agree on every attribute `m` definitely writes. -/
theorem frame_determinism {T : Tables} {c : String} {devsRet devsAll : List (String × String × String)}
    {S : Sem Val Arg}
    (hret : netViolations T = devsRet) (hall : allViolations T = devsAll) (hs : Sound T c S)
    {m : String} {f : Frame} (hf : frameOf T c m = some f) (hstale : noStaleRead T m = true)
    (h : List (Call Val Arg)) (σ τ : Store Val) (hadm : Admissible T c devsRet devsAll S σ h)
    (hτ : AgreeOn (config T c) (run S σ (paramsOnly h)) τ) (a : Arg)
    (hreturns : S.returns m (run S σ h) a) :
    S.returns m τ a ∧ AgreeOn f.must (S.step m (run S σ h) a) (S.step m τ a) := by
  obtain ⟨hfm, hcls, hmeth⟩ := frameOf_spec hf
  apply (hs m f hf).dep _ _ _ _ hreturns
  intro x hx
  have hxC : x ∈ config T c := hcls ▸ noStaleRead_iff.1 hstale f hfm hmeth x hx
  rw [config_preserved hret hall hs h σ hadm x hxC]
  exact hτ x hxC

/-! Non-vacuity: a concrete semantics that respects every frame of a table. -/

/-- a toy semantics: every call returns, and resets to `0` what its frame says it definitely writes and may change -/
def toySem (T : Tables) (c : String) : Sem Nat Arg where
  step := fun m σ _ x =>
    match frameOf T c m with
    | some f => if x ∈ f.must ∧ x ∈ f.net then 0 else σ x
    | none => σ x
  returns := fun _ _ _ => True

/-- table fact used by the toy semantics: an attribute definitely written but unchanged at exit (saved and restored)
    was read first -/
def restoredAreRead (T : Tables) : Bool :=
  T.frames.all fun f => subset (f.must.filter fun x => !f.net.contains x) f.reads

theorem toySem_sound (T : Tables) (c : String) (hr : restoredAreRead T = true) :
    Sound (Val := Nat) (Arg := Arg) T c (toySem T c) := by
  intro m f hf
  have hfm := (frameOf_spec hf).1
  constructor
  · intro σ a x hx _
    simp [toySem, hf, hx]
  · intro σ τ a hag _
    refine ⟨trivial, ?_⟩
    intro x hx
    simp only [toySem, hf]
    by_cases hn : x ∈ f.net
    · simp [hx, hn]
    · have hxr : x ∈ f.reads :=
        subset_iff.1 (List.all_eq_true.1 hr f hfm) x (List.mem_filter.2 ⟨hx, by simpa using hn⟩)
      simp [hn, hag x hxr]

end

/-- (class, method, configuration attribute) triples for which the source in /repo may leave a configuration
    attribute modified when a public call returns normally.  Empty.
    (Before /repo commit c87cbdb it held `(<sparse class>, "path", "alpha")` five times: `_base_sparse._path` executed
    `clf.set_params(alpha=0)` / `clf.alpha = alpha` and never restored the constructor's `alpha`; DESIGN §8 row 8.) -/
def knownDeviationsOnReturn : List (String × String × String) := []

/-- The same for any exit, normal or exceptional.  Empty.
    (Between /repo commits c87cbdb and 742cea9 `_path` restored `alpha` just before its `return` but not inside a
    `finally`: when it raised — `dynamic=True` and the proximal step removing all remaining features at once — the
    object kept the `alpha` of the interrupted step, and the table had `(<sparse class>, "path", "alpha")` five times
    here.  Reproduced on the real code by `harness/props/c12.py`, keys `path:alpha-mutated`, `path:history`,
    `fit-after-path:history`.)
    `Props.C12.config_untouched_on_return` / `config_untouched_except_known` state that the translated table has
    exactly the listed violations, so a regression of the source makes a theorem fail. -/
def knownDeviations : List (String × String × String) := []

end GemVerif.Lemmas.Frames
