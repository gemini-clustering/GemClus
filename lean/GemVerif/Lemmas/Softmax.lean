/-
  `Model.Nets.softmaxRow` over ℝ is the textbook soft-max: closed form, positivity, rows summing to 1, monotone in
  the logit.  Also the entries of `affine` and the rows of `sparseMlpInfer` with `sumFin` read as `∑`.
-/
import GemVerif.Model.Nets
import GemVerif.NumReal

namespace GemVerif
open Model.Nets

variable {K : ℕ}

theorem sum_exp_pos (z : Fin K → ℝ) (k : Fin K) : 0 < ∑ c, Real.exp (z c) :=
  Finset.sum_pos (fun _ _ => Real.exp_pos _) ⟨k, Finset.mem_univ k⟩

/-- Over ℝ the max-subtraction of `sklearn.utils.extmath.softmax` cancels. -/
theorem softmaxRow_eq (z : Fin K → ℝ) (k : Fin K) :
    softmaxRow z k = Real.exp (z k) / ∑ c, Real.exp (z c) := by
  simp only [softmaxRow, tab_apply, sumFin_eq_sum, RealLike.exp_real, Real.exp_sub, ← Finset.sum_div]
  exact div_div_div_cancel_right₀ (Real.exp_pos _).ne' _ _

theorem softmaxRow_pos (z : Fin K → ℝ) (k : Fin K) : 0 < softmaxRow z k := by
  rw [softmaxRow_eq]
  exact div_pos (Real.exp_pos _) (sum_exp_pos z k)

theorem softmaxRow_sum (z : Fin K → ℝ) (hK : 0 < K) : ∑ k, softmaxRow z k = 1 := by
  simp only [softmaxRow_eq, ← Finset.sum_div]
  exact div_self (sum_exp_pos z ⟨0, hK⟩).ne'

theorem softmaxRow_le_one (z : Fin K → ℝ) (k : Fin K) : softmaxRow z k ≤ 1 := by
  rw [← softmaxRow_sum z (Nat.lt_of_le_of_lt (Nat.zero_le _) k.isLt)]
  exact Finset.single_le_sum (fun c _ => (softmaxRow_pos z c).le) (Finset.mem_univ k)

theorem softmaxRow_lt_one (z : Fin K → ℝ) (k : Fin K) (hK : 1 < K) : softmaxRow z k < 1 := by
  have : Nontrivial (Fin K) := Fin.nontrivial_iff_two_le.mpr hK
  obtain ⟨c, hc⟩ := exists_ne k
  rw [← softmaxRow_sum z (Nat.zero_lt_of_lt hK), ← Finset.add_sum_erase _ _ (Finset.mem_univ k)]
  exact lt_add_of_pos_right _
    (Finset.sum_pos (fun x _ => softmaxRow_pos z x) ⟨c, Finset.mem_erase.mpr ⟨hc, Finset.mem_univ c⟩⟩)

theorem softmaxRow_le_iff (z : Fin K → ℝ) (a b : Fin K) : softmaxRow z a ≤ softmaxRow z b ↔ z a ≤ z b := by
  rw [softmaxRow_eq, softmaxRow_eq, div_le_div_iff_of_pos_right (sum_exp_pos z a), Real.exp_le_exp]

variable {n d h : ℕ}

theorem affine_apply (X : Fin n → Fin d → ℝ) (W : Fin d → Fin K → ℝ) (b : Fin K → ℝ) (i : Fin n) (k : Fin K) :
    affine X W b i k = ∑ j, X i j * W j k + b k := by
  simp only [affine, sumFin_eq_sum]

theorem sparseMlpInfer_row (X : Fin n → Fin d → ℝ) (W1 : Fin d → Fin h → ℝ) (b1 : Fin h → ℝ)
    (W2 : Fin h → Fin K → ℝ) (b2 : Fin K → ℝ) (Ws : Fin d → Fin K → ℝ) (i : Fin n) :
    sparseMlpInfer X W1 b1 W2 b2 Ws i
      = softmaxRow fun k => affine (hidden X W1 b1) W2 b2 i k + ∑ a, X i a * Ws a k := by
  simp only [sparseMlpInfer, tab2_coe, sumFin_eq_sum]

end GemVerif
