/-
  List facts about the sort and the cumulative sums of Model/Prox.lean, for every number type: `sortDesc` is Mathlib's
  insertion sort, `cumsumFrom` adds from the left.  Neither the NumPy DSL nor analysis is imported: the real-number side
  (Lemmas/ProxSort.lean) and the DSL side (Lemmas/Np3.lean) both rest on this file.
-/
import GemVerif.Model.Prox
import Mathlib.Data.List.Sort
import Mathlib.Data.List.GetD

namespace GemVerif
open Model.Prox
variable {α : Type} [RealLike α]

theorem insertDesc_eq_ordered (x : α) (l : List α) :
    insertDesc x l = l.orderedInsert (fun a b => RealLike.le b a = true) x := by
  induction l with
  | nil => rfl
  | cons y ys ih => simp only [insertDesc, List.orderedInsert_cons, ih]

theorem sortDesc_eq_insertionSort (l : List α) :
    sortDesc l = l.insertionSort (fun a b => RealLike.le b a = true) := by
  induction l with
  | nil => rfl
  | cons x xs ih =>
    show insertDesc x (sortDesc xs) = _
    rw [insertDesc_eq_ordered, ih]; rfl

theorem sortDesc_perm (l : List α) : (sortDesc l).Perm l := by
  rw [sortDesc_eq_insertionSort]; exact List.perm_insertionSort _ l

theorem uAbsSorted_length {h : Nat} (u : Fin h → α) : (uAbsSorted u).length = h := by
  unfold uAbsSorted; rw [(sortDesc_perm _).length_eq, List.length_ofFn]

def accTo (acc : α) (f : Nat → α) : Nat → α
  | 0 => acc + f 0
  | j + 1 => accTo acc f j + f (j + 1)

theorem accTo_shift (acc : α) (f : Nat → α) (j : Nat) :
    accTo (acc + f 0) (fun l => f (l + 1)) j = accTo acc f (j + 1) := by
  induction j with
  | zero => rfl
  | succ j ih => show accTo _ _ j + f (j + 1 + 1) = _; rw [ih]; rfl

theorem cumsumFrom_getD (L : List α) : ∀ (acc : α) (j : Nat), j < L.length →
    (cumsumFrom acc L).getD j 0 = accTo acc (fun l => L.getD l 0) j := by
  induction L with
  | nil => intro acc j hj; exact absurd hj (by simp)
  | cons x xs ih =>
    intro acc j hj
    cases j with
    | zero => rfl
    | succ j =>
      rw [cumsumFrom, List.getD_cons_succ, ih _ _ (Nat.lt_of_succ_lt_succ hj)]
      exact accTo_shift acc (fun l => (x :: xs).getD l 0) j

/-- `np.concatenate([f(L), zeros])`, any entry -/
theorem map_append_zero_getD (L : List α) (f : α → α) (s : Nat) :
    ((L.map f) ++ [0]).getD s 0 = if s < L.length then f (L.getD s 0) else 0 := by
  by_cases hs : s < L.length
  · rw [if_pos hs, List.getD_append _ _ _ _ (by simpa using hs), List.getD_eq_getElem _ _ (by simpa using hs),
      List.getD_eq_getElem _ _ hs, List.getElem_map]
  · rw [if_neg hs, List.getD_append_right _ _ _ _ (by simpa using hs)]
    cases s - (L.map f).length with
    | zero => rfl
    | succ m => rfl

end GemVerif
