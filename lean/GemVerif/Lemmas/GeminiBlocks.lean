/-
  How the clipping, the mask and the column means behave when samples and clusters are relabelled, when a column is
  constant, and when an empty cluster (a column of zeros) is appended; the sums `Σ_k π_k d_k`, `πᵀ W π` that the MMD and the
  Wasserstein score both are, for variable `π`, `d`, `W`.  The invariance theorems of every GEMINI (C13: the
  f-divergences and the MMD in GeminiC13, the Wasserstein GEMINI in GeminiWassC13) are assembled from these blocks.
-/
import GemVerif.Lemmas.Gemini

namespace GemVerif.C13
open Model

variable {n K : ℕ}

theorem clipP_reindex (ε : ℝ) (P : Fin n → Fin K → ℝ) (σ : Equiv.Perm (Fin n)) (τ : Equiv.Perm (Fin K)) :
    clipP ε (fun i k => P (σ i) (τ k)) = fun i k => clipP ε P (σ i) (τ k) := rfl

theorem clipMask_reindex (ε : ℝ) (P : Fin n → Fin K → ℝ) (σ : Equiv.Perm (Fin n)) (τ : Equiv.Perm (Fin K)) :
    clipMask ε (fun i k => P (σ i) (τ k)) = fun i k => clipMask ε P (σ i) (τ k) := rfl

theorem meanV_sperm (v : Fin n → ℝ) (σ : Equiv.Perm (Fin n)) :
    meanV (fun i => v (σ i)) = meanV v := by
  simp only [meanV, sumFin_eq_sum, Equiv.sum_comp σ v]

theorem mean0_reindex (P : Fin n → Fin K → ℝ) (σ : Equiv.Perm (Fin n)) (τ : Equiv.Perm (Fin K)) :
    mean0 (fun i k => P (σ i) (τ k)) = fun k => mean0 P (τ k) :=
  funext fun k => meanV_sperm (fun i => P i (τ k)) σ

theorem clipP_indep {ε : ℝ} {P : Fin n → Fin K → ℝ} (h : ∀ i j k, P i k = P j k) :
    ∀ i j k, clipP ε P i k = clipP ε P j k := by
  intro i j k; simp only [clipP]; rw [h i j k]

theorem indep_eq_const (hn : 0 < n) {p : Fin n → Fin K → ℝ} (h : ∀ i j k, p i k = p j k) :
    p = fun _ k => p ⟨0, hn⟩ k := by
  funext i k; exact h i _ k

theorem mean0_const (hn : 0 < n) (c : Fin K → ℝ) : mean0 (fun (_ : Fin n) k => c k) = c :=
  funext fun _ => mean0_of_const hn (fun _ _ => rfl) ⟨0, hn⟩

/-! The MMD and the Wasserstein GEMINI are `Σ_k π_k d_k` one-vs-all and `πᵀ W π` one-vs-one, for their distances `d`, `W`:
  a cluster of proportion 0 contributes nothing, whatever its distance. -/

theorem sum_pi_mul_eq_zero {π d : Fin K → ℝ} (h : ∀ k, π k ≠ 0 → d k = 0) : ∑ k, π k * d k = 0 :=
  Finset.sum_eq_zero fun k _ => mul_eq_zero_of_ne_zero_imp_eq_zero (h k)

theorem sum_pi_mul_sum_eq_zero {π : Fin K → ℝ} {w : Fin K → Fin K → ℝ}
    (h : ∀ a b, π a ≠ 0 → π b ≠ 0 → w a b = 0) : ∑ a, π a * ∑ b, w a b * π b = 0 :=
  sum_pi_mul_eq_zero fun a ha => Finset.sum_eq_zero fun b _ => by
    rw [mul_comm]
    exact mul_eq_zero_of_ne_zero_imp_eq_zero (h a b ha)

/-- `P` with an extra last column of zeros (an empty cluster). -/
def addEmpty (P : Fin n → Fin K → ℝ) : Fin n → Fin (K + 1) → ℝ := fun i => Fin.snoc (P i) 0

@[simp] theorem addEmpty_castSucc (P : Fin n → Fin K → ℝ) (i : Fin n) (k : Fin K) :
    addEmpty P i k.castSucc = P i k := by simp [addEmpty]

@[simp] theorem addEmpty_last (P : Fin n → Fin K → ℝ) (i : Fin n) :
    addEmpty P i (Fin.last K) = 0 := by simp [addEmpty]

theorem clipP_addEmpty_castSucc (ε : ℝ) (P : Fin n → Fin K → ℝ) (i : Fin n) (k : Fin K) :
    clipP ε (addEmpty P) i k.castSucc = clipP ε P i k := by simp [clipP]

theorem clipP_addEmpty_last (ε : ℝ) (P : Fin n → Fin K → ℝ) (i : Fin n) :
    clipP ε (addEmpty P) i (Fin.last K) = RealLike.clip 0 ε (1 - ε) := by simp [clipP]

theorem mean0_addEmpty_castSucc (ε : ℝ) (P : Fin n → Fin K → ℝ) (k : Fin K) :
    mean0 (clipP ε (addEmpty P)) k.castSucc = mean0 (clipP ε P) k := by
  simp only [mean0, clipP_addEmpty_castSucc]

theorem mean0_addEmpty_last (hn : 0 < n) (ε : ℝ) (P : Fin n → Fin K → ℝ) :
    mean0 (clipP ε (addEmpty P)) (Fin.last K) = RealLike.clip 0 ε (1 - ε) :=
  (mean0_of_const hn (fun _ _ => by rw [clipP_addEmpty_last, clipP_addEmpty_last]) ⟨0, hn⟩).trans
    (clipP_addEmpty_last ε P _)

theorem clipMask_addEmpty_castSucc (ε : ℝ) (P : Fin n → Fin K → ℝ) (i : Fin n) (k : Fin K) :
    clipMask ε (addEmpty P) i k.castSucc = clipMask ε P i k := by simp [clipMask]

theorem clipMask_addEmpty_last {ε : ℝ} (hε : 0 ≤ ε) (P : Fin n → Fin K → ℝ) (i : Fin n) :
    clipMask ε (addEmpty P) i (Fin.last K) = 0 :=
  clipMask_of_clipped (Or.inl ((addEmpty_last P i).trans_le hε))

/-- one-vs-one after appending a cluster of proportion `e` that lies at the one-vs-all distance `U a` from cluster `a` and
    at distance 0 from itself (MMD and Wasserstein): each old cluster meets the new one twice -/
theorem ovo_addEmpty_algebra (π U : Fin K → ℝ) (X : Fin K → ℝ) (e : ℝ) :
    ∑ a, π a * (X a + U a * e) + e * ∑ b, U b * π b
      = ∑ a, π a * X a + 2 * e * ∑ a, π a * U a := by
  have e1 : ∑ a, π a * (X a + U a * e) = (∑ a, π a * X a) + e * ∑ a, π a * U a := by
    rw [Finset.mul_sum, ← Finset.sum_add_distrib]
    exact Finset.sum_congr rfl fun a _ => by ring
  have e2 : ∑ b, U b * π b = ∑ a, π a * U a := Finset.sum_congr rfl fun a _ => mul_comm _ _
  rw [e1, e2]
  ring

theorem clip_zero {ε : ℝ} (h0 : 0 ≤ ε) (h1 : ε ≤ 1 / 2) : RealLike.clip 0 ε (1 - ε) = ε := by
  rw [RealLike.clip_real, max_eq_right h0, min_eq_left (by linarith)]

end GemVerif.C13
