/-
  Rules for the `List.foldl`s that Python `for` loops and reductions (`min`, `max`) become, and for the lists that
  comprehensions become (`[f(i) for i in range(j, j+m)]`, `[g(x) for x in L][j]`).  Facts about `List` only, no imports.
-/

namespace GemVerif

theorem foldl_induction {β γ : Type} (f : β → γ → β) (P : β → Prop) (l : List γ)
    (hstep : ∀ b x, x ∈ l → P b → P (f b x)) (init : β) (h0 : P init) : P (l.foldl f init) := by
  induction l generalizing init with
  | nil => exact h0
  | cons x xs ih =>
    rw [List.foldl_cons]
    exact ih (fun b y hy hb => hstep b y (List.mem_cons_of_mem _ hy) hb) _
      (hstep init x List.mem_cons_self h0)

theorem foldl_range_inv {σ : Type} (Inv : Nat → σ → Prop) (K : Nat) (f : σ → Nat → σ) (init : σ)
    (h0 : Inv 0 init) (hstep : ∀ k st, k < K → Inv k st → Inv (k + 1) (f st k)) :
    Inv K ((List.range K).foldl f init) := by
  induction K with
  | zero => exact h0
  | succ K ih =>
    rw [List.range_succ, List.foldl_append, List.foldl_cons, List.foldl_nil]
    exact hstep K _ (Nat.lt_succ_self K) (ih fun k st hk => hstep k st (Nat.lt_succ_of_lt hk))

/-- instances: `min` with `· < c`, `max` with `c ≤ ·` -/
theorem foldl_or_iff {α : Type _} {op : α → α → α} {P : α → Prop} (hop : ∀ a b, P (op a b) ↔ P a ∨ P b)
    (l : List α) (a : α) : P (l.foldl op a) ↔ P a ∨ ∃ v ∈ l, P v := by
  induction l generalizing a with
  | nil => simp
  | cons b l ih => simp only [List.foldl_cons, ih, hop, List.mem_cons, exists_eq_or_imp, or_assoc]

/-- `[f(i) for i in range(j, j+m)]` where `f` reads `X` at `i`, by whatever accessor: the slice `X[j:j+m]`, mapped -/
theorem map_range'_eq {β γ : Type} (X : List β) (f : Nat → γ) (g : β → γ) (j m : Nat) (h : j + m ≤ X.length)
    (hf : ∀ i (hi : i < X.length), f i = g X[i]) : (List.range' j m).map f = ((X.drop j).take m).map g := by
  induction m generalizing j with
  | zero => rfl
  | succ m ih =>
    have hj : j < X.length := by omega
    rw [List.range'_succ, List.map_cons, ih (j + 1) (by omega), hf j hj, List.drop_eq_getElem_cons hj,
      List.take_succ_cons, List.map_cons]

theorem map_range_eq {β γ : Type} (X : List β) (f : Nat → γ) (g : β → γ) (m : Nat) (h : m ≤ X.length)
    (hf : ∀ i (hi : i < X.length), f i = g X[i]) : (List.range m).map f = (X.take m).map g := by
  rw [List.range_eq_range', map_range'_eq X f g 0 m (by omega) hf, List.drop_zero]

end GemVerif

namespace GemVerif.Np

/-- `[g(x) for x in L][j]` -/
theorem getD_map_of_lt {β γ : Type} (L : List β) (g : β → γ) (d : β) (e : γ) {j : Nat} (hj : j < L.length) :
    (L.map g).getD j e = g (L.getD j d) := by
  simp [List.getD_eq_getElem?_getD, hj]

end GemVerif.Np
