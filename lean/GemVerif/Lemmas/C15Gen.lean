/-
  Steps of the proofs of Props/C15Gen.lean: every NumPy expression of `_leaf_binning`, `_merge_leaf`, `_infer`
  described by the corresponding list of Model/Douglas.lean.  Over ℝ, except the order, the sorted cut points and the
  bias (every number type).  The weights are described in both spellings (`isWeights_linspace`, the present source;
  `isWeights_arangeFrom`, a respelling of DESIGN.md §21 that the text generated from the present source does not use).
-/
import GemVerif.Lemmas.Np5
import GemVerif.Lemmas.DouglasGrad

namespace GemVerif.Np
open RealLike Model.Douglas GemVerif.Douglas

namespace Arr

/-! `_leaf_binning`, expression by expression -/

section generic
variable {α : Type} [RealLike α]

/-- `np.argsort(cut_points)` -/
theorem IsVec.argsort1 {ca : Arr α} {cuts : List α} (hc : IsVec ca cuts) : IsVecN (argsort1 ca) (argsort cuts) := by
  obtain ⟨hok, hr, hcc, hget⟩ := hc
  refine ⟨by simp only [np, hok, hr], rfl, by rw [argsort_length]; exact hcc, fun j _ => ?_⟩
  rw [argsort1_get, hcc, ← argsortBy_eq_argsort]
  congr 1
  exact argsortBy_congr fun a b ha hb => by rw [hget a ha, hget b hb]

/-- `cut_points[order]` -/
theorem IsVec.take1_argsort {ca : Arr α} {I : Arr ℕ} {cuts : List α} (hc : IsVec ca cuts) (hI : IsVecN I (argsort cuts)) :
    IsVec (take1 ca I) (sortedCuts cuts) :=
  isVec_take1 hc hI fun _ hj => argsort_getD_lt cuts (argsort_length cuts ▸ hj)

/-- `np.cumsum(np.concatenate([np.zeros(1), -sorted_cut_points])).reshape((1, -1))` -/
theorem IsVec.bias {sa : Arr α} {cuts : List α} (hs : IsVec sa (sortedCuts cuts)) :
    IsVec (reshapeRow (cumsumAxis1 (concat1 (zeros 1 1) (neg sa)))) (Model.Douglas.bias cuts) := by
  obtain ⟨hok, hr, hcc, hget⟩ := hs
  have hlen : (Model.Douglas.bias cuts).length = (sortedCuts cuts).length + 1 := by
    simp [Model.Douglas.bias, cumsum_length]
  refine ⟨by simp only [np, hok, hr], by simp, by rw [hlen]; simp only [np, hcc]; exact Nat.add_comm _ _, fun j hj => ?_⟩
  rw [hlen] at hj
  simp only [reshapeRow_get, cumsumAxis1_get, Model.Douglas.bias]
  rw [douglas_cumsum_getD _ j (by simpa using hj)]
  refine cumsumTo_congr fun l hl => ?_
  cases l with
  | zero => simp only [concat1_get, zeros_c, zeros_get, Nat.zero_lt_one, if_true, List.getD_cons_zero]
  | succ l =>
    have hl' : l < (sortedCuts cuts).length := Nat.lt_of_lt_of_le hl (Nat.le_of_lt_succ hj)
    have h1 : ¬ (l + 1 < 1) := Nat.not_lt.mpr (Nat.succ_le_succ (Nat.zero_le l))
    simp only [concat1_get, zeros_c, h1, if_false, neg_get, Nat.add_sub_cancel, hget l hl', List.getD_cons_succ]
    exact (getD_map_of_lt _ _ 0 0 hl').symm

end generic

theorem logits_getD' (x : ℝ) (cuts : List ℝ) {j : ℕ} (hj : j < cuts.length + 1) :
    (logits x cuts).getD j 0 = x * ((j : ℝ) + 1) + (Model.Douglas.bias cuts).getD j 0 := by
  have hb : (Model.Douglas.bias cuts).length = cuts.length + 1 := bias_length cuts
  have h1 : j < (logits x cuts).length := by rw [logits_length]; exact hj
  rw [List.getD_eq_getElem _ _ h1, List.getD_eq_getElem _ _ (by rw [hb]; exact hj)]
  simp only [logits, List.getElem_zipWith, linspaceW, List.getElem_map, List.getElem_range, nat_real]
  push_cast
  ring

/-- `np.expand_dims(np.linspace(1, n + 1, n + 1), axis=0)`: the row of the bin weights `1, 2, …, m + 1` -/
theorem isWeights_linspace (m : ℕ) :
    IsRow (reshapeRow (linspace (1 : ℝ) ((nat m : ℝ) + 1) (m + 1))) (fun j : Fin (m + 1) => (j.val : ℝ) + 1) := by
  refine ⟨by simp, by simp, by simp, fun j => ?_⟩
  rw [reshapeRow_get, linspace_get]
  simp only [nat_real, Nat.add_sub_cancel]
  by_cases hm : m = 0
  · subst hm
    rw [Fin.val_eq_zero j]
    simp
  · rw [if_neg fun h => hm (Nat.succ.inj h)]
    by_cases hjm : j.val + 1 = m + 1
    · rw [if_pos hjm, Nat.succ.inj hjm]
    · rw [if_neg hjm, add_sub_cancel_right, div_self (Nat.cast_ne_zero.mpr hm), mul_one]

/-- `np.arange(1, n + 2, dtype=np.float64).reshape((1, -1))`: the same row -/
theorem isWeights_arangeFrom (m : ℕ) :
    IsRow (reshapeRow (arangeFrom 1 (m + 2) : Arr ℝ)) (fun j : Fin (m + 1) => (j.val : ℝ) + 1) := by
  refine ⟨by simp, by simp, by simp, fun j => ?_⟩
  rw [reshapeRow_get, arangeFrom_get]
  simp only [nat_real]
  split
  · next h => rw [h]; simp
  · split
    · next h => rw [h]; norm_num
    · push_cast; ring

/-- `softmax((X @ W + b) / self.temperature)`, row `i`, for any spelling of the row `W` of the weights `1, …, n + 1` -/
theorem softmax_logits_get_of_weights (T : ℝ) {n : ℕ} {Xa Wa ba : Arr ℝ} {x : Fin n → ℝ} {cuts : List ℝ}
    (hW : IsRow Wa (fun j : Fin (cuts.length + 1) => (j.val : ℝ) + 1)) (hX : IsMat Xa (fun i (_ : Fin 1) => x i))
    (hb : IsVec ba (Model.Douglas.bias cuts))
    (i : Fin n) {j : ℕ} (hj : j < cuts.length + 1) :
    (softmax (divs (add (matmul Xa Wa) ba) T)).get i.val j = (binning T (x i) cuts).getD j 0 := by
  obtain ⟨-, hXr, hXc, hXget⟩ := hX
  obtain ⟨-, hbr, hbc, hbget⟩ := hb
  rw [bias_length] at hbc hbget
  have hrow : ∀ k : Fin (cuts.length + 1),
      (divs (add (matmul Xa Wa) ba) T).get i.val k.val = (logits (x i) cuts).getD k.val 0 / T := by
    intro k
    have hx0 : Xa.get i.val 0 = x i := hXget i ⟨0, Nat.one_pos⟩
    simp only [divs_get, add, zipWith_get, matmul_get, matmul_r, matmul_c, hW.c,
      hXr, hXc, hbr, hbc, bidx_val, bidx_one, sumTo_def, sumFin_eq_sum, Fin.sum_univ_one, Fin.val_zero, hx0]
    rw [hW.get k, hbget k.val k.isLt, logits_getD' _ _ k.isLt]
  simp only [add] at hrow ⊢
  simp only [softmax_get, divs_c, zipWith_c, matmul_c, hW.c, hbc, bdim_self]
  rw [softmaxRowN_val (K := cuts.length + 1) _ ⟨j, hj⟩, ← softmaxRow_ofFn_getD]
  simp only [binning]
  congr 2
  apply List.ext_getElem
  · rw [List.length_ofFn, List.length_map, logits_length]
  · intro k h1 h2
    have hk : k < cuts.length + 1 := by rwa [List.length_ofFn] at h1
    simp only [List.getElem_ofFn, List.getElem_map]
    rw [hrow ⟨k, hk⟩, List.getD_eq_getElem _ _ (by rw [logits_length]; exact hk)]

/-- `softmax((X @ W + b) / self.temperature)`, row `i`, with `W` spelled `np.linspace` -/
theorem softmax_logits_get (T : ℝ) {n : ℕ} {Xa ba : Arr ℝ} {x : Fin n → ℝ} {cuts : List ℝ}
    (hX : IsMat Xa (fun i (_ : Fin 1) => x i)) (hb : IsVec ba (Model.Douglas.bias cuts)) (i : Fin n) {j : ℕ}
    (hj : j < cuts.length + 1) :
    (softmax (divs (add (matmul Xa (reshapeRow (linspace 1 ((nat cuts.length : ℝ) + 1) (cuts.length + 1)))) ba) T)).get i.val j
      = (binning T (x i) cuts).getD j 0 :=
  softmax_logits_get_of_weights T (isWeights_linspace cuts.length) hX hb i hj

/-! `_merge_leaf` and the `reduce` -/

/-- what Props/C15Gen.lean proves about the generated `_leaf_binning` (with the temperature applied) -/
def LeafBinningSpec (T : ℝ) (lb : Arr ℝ → Arr ℝ → Arr ℝ × Arr ℕ) : Prop :=
  ∀ {n : ℕ} {Xa ca : Arr ℝ} {x : Fin n → ℝ} {cuts : List ℝ}, IsMat Xa (fun i (_ : Fin 1) => x i) → IsVec ca cuts →
    IsRows (lb Xa ca).1 (fun i => binning T (x i) cuts) (cuts.length + 1) ∧ IsVecN (lb Xa ca).2 (argsort cuts)

/-- what Props/C15Gen.lean proves about the generated `_merge_leaf` -/
def MergeLeafSpec (ml : Arr ℝ → Arr ℝ → Arr ℝ) : Prop :=
  ∀ {n la lb : ℕ} {A B : Arr ℝ} {ra rb : Fin n → List ℝ}, IsRows A ra la → IsRows B rb lb → la * lb ≠ 0 →
    IsRows (ml A B) (fun i => kron (ra i) (rb i)) (la * lb)

theorem foldl_mul_prod (l : List ℕ) (a : ℕ) : l.foldl (fun acc q => acc * q) a = a * l.prod := by
  induction l generalizing a with
  | nil => simp
  | cons x l ih => rw [List.foldl_cons, ih, List.prod_cons, Nat.mul_assoc]

/-- `reduce(self._merge_leaf, …)` after its first element: a left fold of `kron` on every row -/
theorem foldl_merge_leaf_spec {ml : Arr ℝ → Arr ℝ → Arr ℝ} (hml : MergeLeafSpec ml) {n : ℕ} {Bs : List (Arr ℝ)}
    {qs : List ((Fin n → List ℝ) × ℕ)}
    (h : List.Forall₂ (fun (B : Arr ℝ) (q : (Fin n → List ℝ) × ℕ) => IsRows B q.1 (q.2 + 1)) Bs qs) :
    ∀ {A : Arr ℝ} {ra : Fin n → List ℝ} {la : ℕ}, IsRows A ra la → la ≠ 0 →
      IsRows (Bs.foldl ml A) (fun i => (qs.map fun q => q.1 i).foldl kron (ra i))
        (la * (qs.map fun q => q.2 + 1).prod) := by
  induction h with
  | nil => intro A ra la hA _; simpa using hA
  | @cons B q Bs qs hB _ ih =>
    intro A ra la hA hla
    have h0 : la * (q.2 + 1) ≠ 0 := Nat.mul_ne_zero hla (Nat.succ_ne_zero _)
    have := ih (hml hA hB h0) h0
    simpa [List.foldl_cons, List.map_cons, List.prod_cons, Nat.mul_assoc] using this

/-! `_infer` -/

/-- the arrays of `cut_points_list_` hold the feature indices and the cut-point lists of the model's `cl` -/
def CplIs (clA : List (ℕ × Arr ℝ)) (cl : List (ℕ × List ℝ)) : Prop :=
  List.Forall₂ (fun (a : ℕ × Arr ℝ) (z : ℕ × List ℝ) => a.1 = z.1 ∧ IsVec a.2 z.2) clA cl

/-- the `cut_points_list_` built from the model's list -/
noncomputable def cplOf (cl : List (ℕ × List ℝ)) : List (ℕ × Arr ℝ) := cl.map fun z => (z.1, ofList z.2)

theorem cplIs_cplOf (cl : List (ℕ × List ℝ)) : CplIs (cplOf cl) cl := by
  unfold CplIs cplOf
  rw [List.forall₂_map_left_iff]
  exact List.forall₂_same.mpr fun z _ => ⟨rfl, isVec_ofList z.2⟩

/-- the trailing axes `(len(c) + 1 for c in cut_points_list_)` of the reshapes in `_compute_grads` -/
theorem axes_eq_radices {clA : List (ℕ × Arr ℝ)} {cl : List (ℕ × List ℝ)} (hcl : CplIs clA cl) :
    clA.map (fun x => x.2.c + 1) = radices cl := by
  unfold CplIs at hcl
  induction hcl with
  | nil => rfl
  | cons h _ ih => simp only [List.map_cons, radices] at ih ⊢; rw [ih, h.2.c]

/-- `X[:, f:f + 1]` for a column `f` of the data -/
theorem IsMat.colSlice {n d : ℕ} {Xa : Arr ℝ} {X : Fin n → Fin d → ℝ} (hX : IsMat Xa X) {f : ℕ} (hf : f < d) :
    IsMat (colSlice Xa f (f + 1)) (fun i (_ : Fin 1) => xget (X i) f) := by
  obtain ⟨hok, hr, hc, hget⟩ := hX
  refine ⟨hok, hr, ?_, fun i j => ?_⟩
  · rw [colSlice_c, hc]
    have h1 : Nat.min (f + 1) d = f + 1 := Nat.min_eq_left (Nat.succ_le_of_lt hf)
    have h2 : Nat.min f d = f := Nat.min_eq_left (Nat.le_of_lt hf)
    rw [h1, h2, Nat.add_sub_cancel_left]
  · have hj : j.val = 0 := Nat.lt_one_iff.mp j.isLt
    simp only [colSlice_get, hj, Nat.add_zero, xget, dif_pos hf]
    exact hget i ⟨f, hf⟩

/-- the list `all_binnings_results` of `_infer`: one `_leaf_binning` per entry of `cut_points_list_` -/
theorem binnings_results_spec {T : ℝ} {lb : Arr ℝ → Arr ℝ → Arr ℝ × Arr ℕ} (hlb : LeafBinningSpec T lb) {n d : ℕ} {Xa : Arr ℝ} {X : Fin n → Fin d → ℝ} (hX : IsMat Xa X)
    {clA : List (ℕ × Arr ℝ)} {cl : List (ℕ × List ℝ)} (hcl : CplIs clA cl) (hin : ∀ z ∈ cl, z.1 < d) :
    List.Forall₂ (fun (P : Arr ℝ × Arr ℕ) (z : ℕ × List ℝ) =>
        IsRows P.1 (fun i => binning T (xget (X i) z.1) z.2) (z.2.length + 1) ∧ IsVecN P.2 (argsort z.2))
      (clA.map fun a => lb (Arr.colSlice Xa a.1 (a.1 + 1)) a.2) cl := by
  unfold CplIs at hcl
  induction hcl with
  | nil => exact List.Forall₂.nil
  | @cons a z as zs haz _ ih =>
    rw [List.map_cons]
    refine List.Forall₂.cons ?_ (ih fun z hz => hin z (List.mem_cons_of_mem _ hz))
    have hf : z.1 < d := hin z List.mem_cons_self
    rw [haz.1]
    exact hlb (hX.colSlice hf) haz.2

/-- `reduce(self._merge_leaf, all_binnings)`: row `i` is the model's `leafRow` of sample `i` -/
theorem leaf_spec {T : ℝ} {lb : Arr ℝ → Arr ℝ → Arr ℝ × Arr ℕ} (hlb : LeafBinningSpec T lb) {ml : Arr ℝ → Arr ℝ → Arr ℝ}
    (hml : MergeLeafSpec ml) {n d L : ℕ} {Xa : Arr ℝ} {X : Fin n → Fin d → ℝ} (hX : IsMat Xa X)
    {clA : List (ℕ × Arr ℝ)} {cl : List (ℕ × List ℝ)} (hcl : CplIs clA cl) (hne : cl ≠ []) (hin : ∀ z ∈ cl, z.1 < d)
    (hL : (radices cl).prod = L) :
    IsRows (reduce1 ml
        ((clA.map fun a => lb (Arr.colSlice Xa a.1 (a.1 + 1)) a.2).map fun x => x.1))
      (fun i => (leafRow T (X i) cl).getD []) L := by
  have hres := binnings_results_spec hlb hX hcl hin
  have hinR : inRange d cl = true := List.all_eq_true.mpr fun z hz => decide_eq_true (hin z hz)
  cases cl with
  | nil => exact absurd rfl hne
  | cons z0 rest =>
    cases clA with
    | nil => cases hcl
    | cons a0 restA =>
      rw [List.map_cons] at hres
      obtain ⟨h0, hrest⟩ := List.forall₂_cons.mp hres
      rw [List.map_cons, List.map_cons, reduce1_cons]
      have hF : List.Forall₂ (fun (B : Arr ℝ) (q : (Fin n → List ℝ) × ℕ) => IsRows B q.1 (q.2 + 1))
          ((restA.map fun a => lb (Arr.colSlice Xa a.1 (a.1 + 1)) a.2).map fun x => x.1)
          (rest.map fun z => ((fun i => binning T (xget (X i) z.1) z.2), z.2.length)) := by
        rw [List.forall₂_map_left_iff, List.forall₂_map_right_iff]
        exact hrest.imp fun P z h => h.1
      have := foldl_merge_leaf_spec hml hF h0.1 (Nat.succ_ne_zero _)
      have hlen : (z0.2.length + 1) * ((rest.map fun z => ((fun i => binning T (xget (X i) z.1) z.2), z.2.length)).map
          fun q => q.2 + 1).prod = L := by
        rw [← hL]; simp [radices, Function.comp_def]
      rw [hlen] at this
      have hrow : ∀ i : Fin n, (leafRow T (X i) (z0 :: rest)).getD [] =
          ((rest.map fun z => ((fun i => binning T (xget (X i) z.1) z.2), z.2.length)).map fun q => q.1 i).foldl kron
            (binning T (xget (X i) z0.1) z0.2) := by
        intro i
        simp [leafRow, hinR, binnings, mergeAll, Function.comp_def]
      simpa only [hrow] using this

theorem forall₂_getD {β γ : Type} {R : β → γ → Prop} {l1 : List β} {l2 : List γ} (h : List.Forall₂ R l1 l2) (d1 : β) (d2 : γ)
    {i : ℕ} (hi : i < l2.length) : R (l1.getD i d1) (l2.getD i d2) := by
  rw [List.getD_eq_getElem _ _ (h.length_eq ▸ hi), List.getD_eq_getElem _ _ hi]
  exact h.get _ hi

theorem reduce1_ok_false {ml : Arr ℝ → Arr ℝ → Arr ℝ} (hl : ∀ A B, A.ok = false → (ml A B).ok = false)
    (hr : ∀ A B, B.ok = false → (ml A B).ok = false) {Bs : List (Arr ℝ)} (h : ∃ B ∈ Bs, B.ok = false) :
    (reduce1 ml Bs).ok = false := by
  -- once the flag is down it stays down (`hl`); the first failed operand takes it down (`hr`)
  have hstay : ∀ (Bs : List (Arr ℝ)) (A : Arr ℝ), A.ok = false → (Bs.foldl ml A).ok = false := fun Bs A h =>
    foldl_induction ml (·.ok = false) Bs (fun A B _ hA => hl A B hA) A h
  obtain ⟨B, hB, hok⟩ := h
  cases Bs with
  | nil => rfl
  | cons A Bs =>
    rw [reduce1_cons]
    rcases List.mem_cons.mp hB with rfl | hmem
    · exact hstay Bs B hok
    · obtain ⟨pre, post, rfl⟩ := List.append_of_mem hmem
      rw [List.foldl_append, List.foldl_cons]
      exact hstay post _ (hr _ B hok)

/-- `X[:, f:f + 1]` for a column index outside the data is an empty slice -/
theorem colSlice_c_of_le {Xa : Arr ℝ} {d f : ℕ} (hc : Xa.c = d) (hf : d ≤ f) : (colSlice Xa f (f + 1)).c = 0 := by
  rw [colSlice_c, hc]
  have h1 : Nat.min (f + 1) d = d := Nat.min_eq_right (Nat.le_succ_of_le hf)
  have h2 : Nat.min f d = d := Nat.min_eq_right hf
  rw [h1, h2, Nat.sub_self]

end Arr
end GemVerif.Np
