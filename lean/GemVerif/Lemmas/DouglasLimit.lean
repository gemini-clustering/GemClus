/-
  As the temperature goes to `0⁺` the prediction of `_infer` tends to the soft-max of the score row of the leaf of the
  sample's cell.
-/
import GemVerif.Lemmas.DouglasTree

namespace GemVerif.Douglas
open scoped Topology
open Model.Douglas Filter

theorem exists_gap_all {d : ℕ} (x : Fin d → ℝ) : ∀ cl : List (ℕ × List ℝ),
    (∀ z ∈ cl, ∀ c ∈ z.2, xget x z.1 ≠ c) → ∃ g : ℝ, 0 < g ∧ ∀ z ∈ cl, ∀ c ∈ z.2, g ≤ |xget x z.1 - c|
  | [], _ => ⟨1, one_pos, by simp⟩
  | z :: cl, h => by
    obtain ⟨g, hg0, hg⟩ := exists_gap_all x cl fun w hw => h w (List.mem_cons_of_mem _ hw)
    obtain ⟨g', hg0', hg'⟩ := exists_gap (xget x z.1) z.2 (h z List.mem_cons_self)
    refine ⟨min g g', lt_min hg0 hg0', fun w hw c hc => ?_⟩
    rcases List.mem_cons.mp hw with rfl | hw
    · exact le_trans (min_le_right _ _) (hg' c hc)
    · exact le_trans (min_le_left _ _) (hg w hw c hc)

theorem IsProb.getD_le_one_sub {l : List ℝ} (h : IsProb l) {i j : ℕ} (hi : i < l.length) (hj : j < l.length)
    (hne : i ≠ j) : l.getD i 0 ≤ 1 - l.getD j 0 := by
  have := Finset.sum_le_sum_of_subset_of_nonneg (f := fun k => l.getD k 0) (s := {i, j}) (t := Finset.range l.length)
    (by simp [Finset.insert_subset_iff, hi, hj]) fun k _ _ => h.getD_nonneg k
  rw [Finset.sum_pair hne, ← sum_eq_sum_range, h.sum_eq] at this
  linear_combination this

section limit
variable {d L K : ℕ} (x : Fin d → ℝ) {cl : List (ℕ × List ℝ)} (S : Fin L → Fin K → ℝ)
  {leaf : ℝ → List ℝ} (hleaf : ∀ T, leafRow T x cl = some (leaf T))
  (hx : ∀ z ∈ cl, ∀ c ∈ z.2, xget x z.1 ≠ c)
include hleaf hx

theorem leaf_cell_tendsto : Tendsto (fun T => (leaf T).getD (leafIndex x cl) 0) (𝓝[>] 0) (𝓝 1) := by
  obtain ⟨g, hg0, hg⟩ := exists_gap_all x cl hx
  exact tendsto_one_of_exp_bound hg0 (fun T hT => leafRow_cell_ge hT hg0.le hg (hleaf T))
    fun T => (leafRow_isProb (hleaf T)).getD_le_one _

theorem leaf_other_tendsto {l : ℕ} (hl : l < (cl.map fun z => z.2.length + 1).prod) (hlne : l ≠ leafIndex x cl) :
    Tendsto (fun T => (leaf T).getD l 0) (𝓝[>] 0) (𝓝 0) := by
  have hup : Tendsto (fun T => 1 - (leaf T).getD (leafIndex x cl) 0) (𝓝[>] 0) (𝓝 0) := by
    have := (leaf_cell_tendsto x hleaf hx).const_sub 1
    simpa using this
  refine squeeze_zero (fun T => (leafRow_isProb (hleaf T)).getD_nonneg _) (fun T => ?_) hup
  have hlen := leafRow_length (hleaf T)
  exact (leafRow_isProb (hleaf T)).getD_le_one_sub (hlen ▸ hl) (hlen ▸ leafIndex_lt x cl) hlne

/-- `leaf @ leaf_scores_` tends to the score row of the leaf of the cell -/
theorem score_tendsto (hL : L = (cl.map fun z => z.2.length + 1).prod) (k : Fin K) :
    Tendsto (fun T => ∑ l : Fin L, (leaf T).getD l.val 0 * S l k) (𝓝[>] 0)
      (𝓝 (S ⟨leafIndex x cl, hL ▸ leafIndex_lt x cl⟩ k)) := by
  have hterm : ∀ l : Fin L, Tendsto (fun T => (leaf T).getD l.val 0 * S l k) (𝓝[>] 0)
      (𝓝 ((if l.val = leafIndex x cl then 1 else 0) * S l k)) := by
    intro l
    refine Tendsto.mul_const _ ?_
    by_cases h : l.val = leafIndex x cl
    · rw [if_pos h, h]; exact leaf_cell_tendsto x hleaf hx
    · rw [if_neg h]; exact leaf_other_tendsto x hleaf hx (hL ▸ l.isLt) h
  have := tendsto_finsetSum Finset.univ fun l _ => hterm l
  rwa [Finset.sum_eq_single_of_mem (⟨leafIndex x cl, hL ▸ leafIndex_lt x cl⟩ : Fin L) (Finset.mem_univ _)
    fun l _ hl => by rw [if_neg fun h => hl (Fin.ext h), zero_mul], if_pos rfl, one_mul] at this

end limit

end GemVerif.Douglas
