/-
  C05 — `Model/Prox.lean` (`_prox_grad.py`) at ℝ against the specification of Lemmas/ProxSpec.lean: a row is a point of
  Euclidean space (`toE`), a group is its flattened rows, and on a partition the sequential group loop writes each group's
  result (`scatter_cover`).
-/
import GemVerif.NumReal
import GemVerif.Model.Prox
import GemVerif.Lemmas.ProxSpec
import Mathlib.Analysis.InnerProductSpace.PiL2

namespace GemVerif
open Model.Prox Spec.Prox

/-- a row of weights as a point of Euclidean space (norm = the 2-norm) -/
noncomputable abbrev toE {n : ℕ} (v : Fin n → ℝ) : EuclideanSpace ℝ (Fin n) := WithLp.toLp 2 v

theorem toE_norm_rowNorm {n : ℕ} (z : Fin n → ℝ) : ‖toE z‖ = rowNorm z := by
  rw [EuclideanSpace.norm_eq]
  exact congrArg Real.sqrt (Finset.sum_congr rfl fun k _ => by rw [Real.norm_eq_abs, sq_abs])

theorem sumL_eq (l : List ℝ) : sumL l = l.sum := by
  unfold sumL
  rw [List.sum_eq_foldl]

theorem norm2_eq_sqrt {n : ℕ} (v : Fin n → ℝ) : norm2 v = Real.sqrt (∑ k, v k ^ 2) := by
  unfold norm2
  rw [sumL_eq, List.sum_ofFn]
  exact congrArg _ (Finset.sum_congr rfl fun k _ => (pow_two _).symm)

theorem norm2_eq {n : ℕ} (v : Fin n → ℝ) : norm2 v = ‖toE v‖ :=
  (norm2_eq_sqrt v).trans (toE_norm_rowNorm v).symm

theorem norm2_nonneg {n : ℕ} (v : Fin n → ℝ) : 0 ≤ norm2 v := by
  rw [norm2_eq]; exact norm_nonneg _

theorem norm2_eq_zero {n : ℕ} {v : Fin n → ℝ} : norm2 v = 0 ↔ v = 0 := by
  rw [norm2_eq, norm_eq_zero, WithLp.toLp_eq_zero]

theorem softThreshold_zero_of_nonneg {x : ℝ} (hx : 0 ≤ x) : softThreshold (0 : ℝ) x = x := by
  unfold softThreshold RealLike.sign
  rcases hx.lt_or_eq with h | h
  · simp [h, abs_of_pos h, h.le]
  · subst h; simp

theorem signPM_real (x : ℝ) : signPM x = if 0 ≤ x then 1 else -1 := by
  unfold signPM; simp

theorem linearProxRow_apply {h : ℕ} (w : Fin h → ℝ) (α : ℝ) (j : Fin h) :
    linearProxRow w α j = max (norm2 w - α) 0 / (if norm2 w = 0 then 1 else norm2 w) * w j := by
  unfold linearProxRow
  simp only [RealLike.max_real, RealLike.beq_real, decide_eq_true_eq]
  rw [mul_div_right_comm]

/-- The row formula of `linear_prox_grad`, with its `W_norms == 0 ↦ 1` guard, is the group
    soft-threshold `glProx` of the row (for every `α`, every row, zero rows included). -/
theorem linearProxRow_eq {h : ℕ} (w : Fin h → ℝ) (α : ℝ) :
    toE (linearProxRow w α) = glProx (toE w) α := by
  rw [glProx_eq_smul]
  ext j
  show linearProxRow w α j = max (‖toE w‖ - α) 0 / ‖toE w‖ * w j
  rw [linearProxRow_apply, norm2_eq]
  split_ifs with h0
  · -- the guard only fires on a zero row, where both sides are `0`
    rw [congrFun (norm2_eq_zero.mp ((norm2_eq w).trans h0)) j]
    exact (mul_zero _).trans (mul_zero _).symm
  · rfl

theorem unflat_eq {m h : ℕ} (p : Fin (m * h)) : unflat p = finProdFinEquiv.symm p :=
  Prod.ext (Fin.ext rfl) (Fin.ext rfl)

theorem flatIdx_eq {m h : ℕ} (q : Fin m) (j : Fin h) : flatIdx q j = finProdFinEquiv (q, j) := by
  apply Fin.ext
  simp [flatIdx, finProdFinEquiv, Nat.mul_comm, Nat.add_comm]

theorem unflat_flatIdx {m h : ℕ} (q : Fin m) (j : Fin h) : unflat (flatIdx q j) = (q, j) := by
  rw [unflat_eq, flatIdx_eq, Equiv.symm_apply_apply]

theorem flatIdx_unflat {m h : ℕ} (p : Fin (m * h)) : flatIdx (unflat p).1 (unflat p).2 = p := by
  rw [flatIdx_eq, unflat_eq]; exact Equiv.apply_symm_apply _ _

theorem sum_flat {m h : ℕ} (F : Fin m → Fin h → ℝ) :
    ∑ p : Fin (m * h), F (unflat p).1 (unflat p).2 = ∑ q, ∑ j, F q j := by
  rw [← Fintype.sum_prod_type']
  refine Fintype.sum_equiv finProdFinEquiv.symm _ _ fun p => ?_
  rw [unflat_eq]

theorem flatGroup_flatIdx {α : Type} [RealLike α] {d h : ℕ} (W : Fin d → Fin h → α) (g : List (Fin d))
    (q : Fin g.length) (j : Fin h) : flatGroup W g (flatIdx q j) = W (g.get q) j := by
  unfold flatGroup; rw [unflat_flatIdx]

theorem flatGroup_eq_zero_iff {d h : ℕ} (W : Fin d → Fin h → ℝ) (g : List (Fin d)) :
    flatGroup W g = 0 ↔ ∀ i ∈ g, W i = 0 := by
  refine ⟨fun h0 i hi => ?_, fun hz => funext fun p => congrFun (hz _ (List.get_mem g _)) _⟩
  obtain ⟨q, rfl⟩ := List.mem_iff_get.mp hi
  funext j
  rw [← flatGroup_flatIdx W g q j, h0]
  rfl

/-- one step of the sequential `for g in groups:` loop, as seen from row `i` -/
def locStep {d : ℕ} (i : Fin d) (acc : Option ((g : List (Fin d)) × Fin g.length)) (g : List (Fin d)) :
    Option ((g : List (Fin d)) × Fin g.length) :=
  match g.finIdxOf? i with
  | some q => some ⟨g, q⟩
  | none => acc

theorem locate_eq_foldl {d : ℕ} (groups : List (List (Fin d))) (i : Fin d) :
    locate groups i = groups.foldl (locStep i) none := rfl

/-- the loop is sequential: the last group decides -/
theorem locate_concat {d : ℕ} (groups : List (List (Fin d))) (g : List (Fin d)) (i : Fin d) :
    locate (groups ++ [g]) i = locStep i (locate groups i) g := by
  simp only [locate_eq_foldl, List.foldl_append, List.foldl_cons, List.foldl_nil]

theorem locate_spec {d : ℕ} (groups : List (List (Fin d))) (i : Fin d) :
    (locate groups i = none → ∀ g ∈ groups, i ∉ g) ∧
    ∀ r, locate groups i = some r → r.1 ∈ groups ∧ r.1.get r.2 = i := by
  induction groups using List.reverseRecOn with
  | nil => exact ⟨fun _ _ hg => (nomatch hg), nofun⟩
  | append_singleton gs g0 ih =>
    rw [locate_concat, locStep]
    cases hq : g0.finIdxOf? i with
    | some q =>
      refine ⟨nofun, fun r h => ?_⟩
      obtain rfl := Option.some.inj h
      exact ⟨List.mem_append_right _ (List.mem_singleton_self g0), (List.finIdxOf?_eq_some_iff.mp hq).1⟩
    | none =>
      refine ⟨fun h g hg => ?_, fun r h => ⟨List.mem_append_left _ (ih.2 r h).1, (ih.2 r h).2⟩⟩
      rcases List.mem_append.mp hg with hg | hg
      · exact ih.1 h g hg
      · rw [List.mem_singleton.mp hg]
        exact List.finIdxOf?_eq_none_iff.mp hq

/-- a partition of (part of) the features into groups, as produced by `check_groups`:
    no feature twice in a group, no feature in two groups -/
structure IsPartition {d : ℕ} (groups : List (List (Fin d))) : Prop where
  nodup : ∀ g ∈ groups, g.Nodup
  disjoint : groups.Pairwise List.Disjoint

theorem IsPartition.eq_of_mem {d : ℕ} {groups : List (List (Fin d))} (hp : IsPartition groups)
    {g g' : List (Fin d)} (hg : g ∈ groups) (hg' : g' ∈ groups) {i : Fin d} (hi : i ∈ g) (hi' : i ∈ g') :
    g = g' := by
  by_contra hne
  have : Std.Symm (List.Disjoint (α := Fin d)) := ⟨fun _ _ h => h.symm⟩
  exact hp.disjoint.forall hg hg' hne hi hi'

theorem isPartition_singletons (d : ℕ) : IsPartition ((List.finRange d).map fun i => [i]) := by
  refine ⟨fun g hg => ?_, ?_⟩
  · obtain ⟨i, _, rfl⟩ := List.mem_map.mp hg
    exact List.nodup_singleton i
  · rw [List.pairwise_map]
    exact (List.nodup_finRange d).imp fun {a b} hab => by simp [List.Disjoint, hab]

theorem locate_partition {d : ℕ} {groups : List (List (Fin d))} (hp : IsPartition groups)
    {g : List (Fin d)} (hg : g ∈ groups) (q : Fin g.length) :
    locate groups (g.get q) = some ⟨g, q⟩ := by
  cases hloc : locate groups (g.get q) with
  | none => exact absurd (List.get_mem g q) ((locate_spec _ _).1 hloc g hg)
  | some r =>
    obtain ⟨g', q'⟩ := r
    obtain ⟨hm, hget⟩ := (locate_spec _ _).2 _ hloc
    simp only at hm hget
    have hgg : g' = g := hp.eq_of_mem hm hg (by rw [← hget]; exact List.get_mem _ _) (List.get_mem g q)
    subst hgg
    have : q' = q := (hp.nodup g' hg).get_inj_iff.mp hget
    rw [this]

theorem scatter_partition {d h : ℕ} {groups : List (List (Fin d))} (hp : IsPartition groups)
    (res : (g : List (Fin d)) → Fin (g.length * h) → ℝ) {g : List (Fin d)} (hg : g ∈ groups)
    (q : Fin g.length) : scatter groups res (g.get q) = some fun j => res g (flatIdx q j) := by
  unfold scatter
  rw [locate_partition hp hg q]

theorem scatter_isSome {d h : ℕ} {groups : List (List (Fin d))}
    (res : (g : List (Fin d)) → Fin (g.length * h) → ℝ) {i : Fin d} (hc : ∃ g ∈ groups, i ∈ g) :
    ∃ z, scatter groups res i = some z := by
  unfold scatter
  cases hloc : locate groups i with
  | none => obtain ⟨g, hg, hi⟩ := hc; exact absurd hi ((locate_spec _ _).1 hloc g hg)
  | some r => exact ⟨_, rfl⟩

theorem scatter_eq_none {d h : ℕ} {groups : List (List (Fin d))}
    (res : (g : List (Fin d)) → Fin (g.length * h) → ℝ) {i : Fin d} (hi : ∀ g ∈ groups, i ∉ g) :
    scatter groups res i = none := by
  unfold scatter
  cases hloc : locate groups i with
  | none => rfl
  | some r =>
    obtain ⟨hm, hget⟩ := (locate_spec _ _).2 r hloc
    exact absurd (hget ▸ List.get_mem _ _) (hi r.1 hm)

theorem flatGroup_scatter {d n : ℕ} {groups : List (List (Fin d))} (hp : IsPartition groups)
    (res : (g : List (Fin d)) → Fin (g.length * n) → ℝ) (Zs : Fin d → Fin n → ℝ)
    (hZ : ∀ i, scatter groups res i = some (Zs i)) {g : List (Fin d)} (hg : g ∈ groups) :
    flatGroup Zs g = res g := by
  funext p
  have h1 := scatter_partition hp res hg (unflat p).1
  rw [hZ] at h1
  have h2 := congrFun (Option.some.inj h1) (unflat p).2
  unfold flatGroup
  rw [h2, flatIdx_unflat]

theorem scatter_cover {d n : ℕ} {groups : List (List (Fin d))} (hp : IsPartition groups)
    (hcov : ∀ i : Fin d, ∃ g ∈ groups, i ∈ g) (res : (g : List (Fin d)) → Fin (g.length * n) → ℝ) :
    ∃ Zs : Fin d → Fin n → ℝ, (∀ i, scatter groups res i = some (Zs i)) ∧ ∀ g ∈ groups, flatGroup Zs g = res g := by
  obtain ⟨Zs, hZ⟩ := Classical.skolem.mp fun i => scatter_isSome res (hcov i)
  exact ⟨Zs, hZ, fun g hg => flatGroup_scatter hp res Zs hZ hg⟩

theorem toE_sub_sq {n : ℕ} (a b : Fin n → ℝ) : ‖toE a - toE b‖ ^ 2 = ∑ j, (a j - b j) ^ 2 := by
  rw [EuclideanSpace.real_norm_sq_eq]
  rfl

theorem glObj_toE {n : ℕ} (w z : Fin n → ℝ) (α : ℝ) :
    glObj (toE w) α (toE z) = 1 / 2 * ∑ j, (z j - w j) ^ 2 + α * rowNorm z := by
  unfold glObj; rw [toE_sub_sq, toE_norm_rowNorm]

theorem hObj_toE {n m : ℕ} (v β : Fin n → ℝ) (u θ : Fin m → ℝ) (α : ℝ) :
    hObj (toE v) u α (toE β) θ
      = 1 / 2 * ∑ c, (β c - v c) ^ 2 + 1 / 2 * ∑ j, (θ j - u j) ^ 2 + α * rowNorm β := by
  unfold hObj; rw [toE_sub_sq, toE_norm_rowNorm]

theorem rowNorm_flatGroup {d h : ℕ} (Z : Fin d → Fin h → ℝ) (g : List (Fin d)) :
    rowNorm (flatGroup Z g) = blockNorm Z g := by
  unfold rowNorm blockNorm flatGroup
  rw [sum_flat (fun q j => Z (g.get q) j ^ 2)]

theorem dist_flatGroup {d h : ℕ} (Z W : Fin d → Fin h → ℝ) (g : List (Fin d)) :
    ∑ p, (flatGroup Z g p - flatGroup W g p) ^ 2 = blockDist Z W g := by
  unfold blockDist flatGroup
  rw [sum_flat (fun q j => (Z (g.get q) j - W (g.get q) j) ^ 2)]

theorem glGroupObj_eq {d h : ℕ} (W Z : Fin d → Fin h → ℝ) (α : ℝ) (g : List (Fin d)) :
    glGroupObj W α Z g = glObj (toE (flatGroup W g)) α (toE (flatGroup Z g)) := by
  rw [glObj_toE, dist_flatGroup, rowNorm_flatGroup]; rfl

theorem hGroupObj_eq {d k h : ℕ} (Ws B : Fin d → Fin k → ℝ) (W1 T : Fin d → Fin h → ℝ) (α : ℝ)
    (g : List (Fin d)) :
    hGroupObj Ws W1 α B T g
      = hObj (toE (flatGroup Ws g)) (flatGroup W1 g) α (toE (flatGroup B g)) (flatGroup T g) := by
  rw [hObj_toE, dist_flatGroup, dist_flatGroup, rowNorm_flatGroup]; rfl

theorem groupFeasible_iff {d k h : ℕ} (M : ℝ) (B : Fin d → Fin k → ℝ) (T : Fin d → Fin h → ℝ)
    (g : List (Fin d)) :
    GroupFeasible M B T g ↔ Feasible M (toE (flatGroup B g)) (flatGroup T g) := by
  unfold GroupFeasible Feasible
  rw [toE_norm_rowNorm, rowNorm_flatGroup]
  constructor
  · intro hf p; exact hf (unflat p).1 (unflat p).2
  · intro hf q j
    have := hf (flatIdx q j)
    rwa [flatGroup_flatIdx] at this

end GemVerif
