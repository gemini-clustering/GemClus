/-
  C05 — list lemmas for the model of `mlp_prox_grad` over ℝ: the insertion sort is the
  non-increasing rearrangement, cumulative sums are prefix sums, the breakpoint count of a
  downward-closed predicate is its first failure.
-/
import GemVerif.Lemmas.ProxModel
import GemVerif.Lemmas.ProxList

namespace GemVerif
open Model.Prox

theorem sortDesc_eq (l : List ℝ) : sortDesc l = l.insertionSort (· ≥ ·) := by
  rw [sortDesc_eq_insertionSort]
  simp only [RealLike.le_real, decide_eq_true_eq, ge_iff_le]

theorem sortDesc_pairwise (l : List ℝ) : (sortDesc l).Pairwise (· ≥ ·) := by
  rw [sortDesc_eq]; exact List.pairwise_insertionSort _ l

theorem sortDesc_length (l : List ℝ) : (sortDesc l).length = l.length := (sortDesc_perm l).length_eq

noncomputable def seqOf (L : List ℝ) (i : ℕ) : ℝ := L.getD i 0

theorem seqOf_of_lt {L : List ℝ} {i : ℕ} (hi : i < L.length) : seqOf L i = L[i] := by
  unfold seqOf; rw [List.getD_eq_getElem _ _ hi]

theorem seqOf_of_ge {L : List ℝ} {i : ℕ} (hi : L.length ≤ i) : seqOf L i = 0 := by
  unfold seqOf; exact List.getD_eq_default _ _ hi

theorem seqOf_nonneg {L : List ℝ} (hnn : ∀ x ∈ L, 0 ≤ x) (i : ℕ) : 0 ≤ seqOf L i := by
  rcases lt_or_ge i L.length with hi | hi
  · rw [seqOf_of_lt hi]; exact hnn _ (List.getElem_mem hi)
  · rw [seqOf_of_ge hi]

theorem seqOf_antitone {L : List ℝ} (hs : L.Pairwise (· ≥ ·)) (hnn : ∀ x ∈ L, 0 ≤ x) :
    Antitone (seqOf L) := by
  intro i j hij
  rcases lt_or_ge j L.length with hj | hj
  · have hi : i < L.length := lt_of_le_of_lt hij hj
    rw [seqOf_of_lt hi, seqOf_of_lt hj]
    rcases hij.lt_or_eq with h | h
    · exact List.pairwise_iff_getElem.mp hs i j hi hj h
    · subst h; exact le_refl _
  · rw [seqOf_of_ge hj]; exact seqOf_nonneg hnn i

theorem sum_map_eq_range (L : List ℝ) (f : ℝ → ℝ) :
    (L.map f).sum = ∑ i ∈ Finset.range L.length, f (seqOf L i) := by
  induction L with
  | nil => rw [List.map_nil, List.sum_nil, List.length_nil, Finset.sum_range_zero]
  | cons x xs ih =>
    rw [List.map_cons, List.sum_cons, List.length_cons, Finset.sum_range_succ', ih]
    exact add_comm _ _

theorem cumsumFrom_prefix (L : List ℝ) : ∀ (acc : ℝ) (s : ℕ), s ≤ L.length →
    (acc :: cumsumFrom acc L).getD s 0 = acc + ∑ t ∈ Finset.range s, seqOf L t := by
  induction L with
  | nil =>
    intro acc s hs
    rw [Nat.le_zero.mp hs, List.getD_cons_zero, Finset.sum_range_zero, add_zero]
  | cons x xs ih =>
    intro acc s hs
    cases s with
    | zero => rw [List.getD_cons_zero, Finset.sum_range_zero, add_zero]
    | succ s =>
      rw [List.getD_cons_succ, cumsumFrom, ih _ s (Nat.le_of_succ_le_succ hs), Finset.sum_range_succ', add_assoc, add_comm x]
      rfl

/-- `np.concatenate([zeros, np.cumsum(L)])[s]` is the sum of the first `s` entries -/
theorem prefix_getD (L : List ℝ) (s : ℕ) (hs : s ≤ L.length) :
    (0 :: cumsum L).getD s 0 = ∑ t ∈ Finset.range s, seqOf L t := by
  have h0 : cumsum L = cumsumFrom 0 L := by
    cases L with
    | nil => rfl
    | cons x xs => rw [cumsum, cumsumFrom, zero_add]
  rw [h0, cumsumFrom_prefix L 0 s hs, zero_add]

/-- `lower` of the model is the sorted list extended by zeros (its entries are absolute values) -/
theorem lowerS_eq {L : List ℝ} (hnn : ∀ x ∈ L, 0 ≤ x) (s : ℕ) : lowerS L s = seqOf L s := by
  unfold lowerS
  rw [map_append_zero_getD]
  split_ifs with hs
  · rw [seqOf_of_lt hs, List.getD_eq_getElem _ _ hs]
    exact softThreshold_zero_of_nonneg (hnn _ (List.getElem_mem hs))
  · rw [seqOf_of_ge (not_lt.mp hs)]

/-- `np.sum(mask)` of a mask that is a prefix: the count is the first index where the mask fails -/
theorem prefix_count {P : ℕ → Prop} [DecidablePred P] :
    ∀ n, (∀ s, s + 1 < n → P (s + 1) → P s) →
      (∀ s < ((List.range n).filter (P ·)).length, P s) ∧
      ∀ s, ((List.range n).filter (P ·)).length ≤ s → s < n → ¬ P s := by
  intro n
  induction n with
  | zero => exact fun _ => ⟨fun s hs => absurd hs (Nat.not_lt_zero s), fun s _ hs => absurd hs (Nat.not_lt_zero s)⟩
  | succ n ih =>
    intro hdown
    obtain ⟨ih1, ih2⟩ := ih fun s hs => hdown s (Nat.lt_succ_of_lt hs)
    have hle : ((List.range n).filter (P ·)).length ≤ n :=
      (List.length_filter_le _ _).trans_eq List.length_range
    rw [List.range_succ, List.filter_append, List.length_append]
    by_cases hpn : P n
    · -- the mask holds at `n`, hence just below `n`: no index below `n` has been counted out
      have hk : ((List.range n).filter (P ·)).length = n := by
        by_contra hne
        have hlt := lt_of_le_of_ne hle hne
        obtain ⟨m, rfl⟩ := Nat.exists_eq_succ_of_ne_zero (Nat.ne_of_gt (Nat.zero_lt_of_lt hlt))
        exact ih2 m (Nat.le_of_lt_succ hlt) (Nat.lt_succ_self m) (hdown m (Nat.lt_succ_self _) hpn)
      rw [List.filter_singleton, decide_eq_true hpn, hk]
      refine ⟨fun s hs => ?_, fun s h1 h2 => absurd h2 (Nat.not_lt.mpr h1)⟩
      rcases (Nat.lt_succ_iff.mp hs).lt_or_eq with h | h
      · exact ih1 s (lt_of_lt_of_eq h hk.symm)
      · exact h ▸ hpn
    · rw [List.filter_singleton, decide_eq_false hpn]
      refine ⟨ih1, fun s h1 h2 => ?_⟩
      rcases (Nat.lt_succ_iff.mp h2).lt_or_eq with h | h
      · exact ih2 s h1 h
      · exact h ▸ hpn

end GemVerif
