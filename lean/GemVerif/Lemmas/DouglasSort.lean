/-
  The list algorithms of Model/Douglas.lean for every number type: the insertion sort is Mathlib's, `argsort` and
  `argsortNat` return permutations of the positions (`perm_range_*`: what reading such a list by position gives), lengths
  of `cumsum`, `sortedCuts`, `bias`, entries of `sortedCuts`.  Light imports: shared by the
  theorems over ℝ (Lemmas/Douglas.lean) and by the reading rules of the array language (Lemmas/Np5.lean).
-/
import GemVerif.Model.Douglas
import GemVerif.Lemmas.Fold
import Mathlib.Data.List.Sort
import Mathlib.Data.List.GetD

namespace GemVerif.Douglas
open Model.Douglas

section generic
variable {β : Type}

theorem insertBy_eq (le : β → β → Bool) (a : β) (l : List β) :
    insertBy le a l = List.orderedInsert (fun p q => le p q = true) a l := by
  induction l with
  | nil => rfl
  | cons b l ih => simp only [insertBy, List.orderedInsert_cons, ih]

theorem isort_eq (le : β → β → Bool) (l : List β) :
    isort le l = List.insertionSort (fun p q => le p q = true) l := by
  induction l with
  | nil => rfl
  | cons a l ih => simp only [isort, List.insertionSort_cons, ih, insertBy_eq]

theorem isort_perm (le : β → β → Bool) (l : List β) : (isort le l).Perm l := by
  rw [isort_eq]; exact List.perm_insertionSort _ _

theorem isort_sorted {le : β → β → Bool} (htot : ∀ a b, le a b = true ∨ le b a = true)
    (htr : ∀ a b c, le a b = true → le b c = true → le a c = true) (l : List β) :
    (isort le l).Pairwise fun a b => le a b = true := by
  rw [isort_eq]
  have : Std.Total fun a b => le a b = true := ⟨htot⟩
  have : IsTrans β fun a b => le a b = true := ⟨htr⟩
  exact List.pairwise_insertionSort _ _

theorem isort_zipIdx_snd_perm (cmp : β × ℕ → β × ℕ → Bool) (l : List β) :
    ((isort cmp l.zipIdx).map Prod.snd).Perm (List.range l.length) := by
  have h := (isort_perm cmp l.zipIdx).map Prod.snd
  rwa [List.zipIdx_map_snd, ← List.range_eq_range'] at h

theorem map_getD_range (l : List β) (d : β) : ((List.range l.length).map fun p => l.getD p d) = l :=
  (map_range_eq l _ id _ (Nat.le_refl _) fun _ hi => List.getD_eq_getElem _ _ hi).trans
    (by rw [List.take_length, List.map_id])

theorem perm_range_length {σ : List ℕ} {m : ℕ} (hσ : σ.Perm (List.range m)) : σ.length = m :=
  hσ.length_eq.trans List.length_range

theorem perm_range_getD_lt {σ : List ℕ} {m : ℕ} (hσ : σ.Perm (List.range m)) {a : ℕ} (ha : a < m) : σ.getD a 0 < m := by
  have hlen := perm_range_length hσ
  rw [List.getD_eq_getElem _ _ (by rw [hlen]; exact ha)]
  exact List.mem_range.mp (hσ.mem_iff.mp (List.getElem_mem _))

theorem perm_range_getD_inj {σ : List ℕ} {m : ℕ} (hσ : σ.Perm (List.range m)) {a b : ℕ} (ha : a < m) (hb : b < m)
    (h : σ.getD a 0 = σ.getD b 0) : a = b := by
  have hlen := perm_range_length hσ
  have hnd : σ.Nodup := hσ.nodup_iff.mpr List.nodup_range
  rw [List.getD_eq_getElem _ _ (by rw [hlen]; exact ha), List.getD_eq_getElem _ _ (by rw [hlen]; exact hb)] at h
  exact (List.Nodup.getElem_inj_iff hnd).mp h

variable {α : Type} [RealLike α]

theorem argsort_perm (cuts : List α) : (argsort cuts).Perm (List.range cuts.length) :=
  isort_zipIdx_snd_perm pairLe cuts

theorem argsort_length (cuts : List α) : (argsort cuts).length = cuts.length :=
  perm_range_length (argsort_perm cuts)

theorem argsort_mem_lt (cuts : List α) {p : ℕ} (hp : p ∈ argsort cuts) : p < cuts.length :=
  List.mem_range.mp ((argsort_perm cuts).mem_iff.mp hp)

theorem argsort_getD_lt (cuts : List α) {q : ℕ} (hq : q < cuts.length) : (argsort cuts).getD q 0 < cuts.length :=
  perm_range_getD_lt (argsort_perm cuts) hq

theorem argsortNat_perm (σ : List ℕ) : (argsortNat σ).Perm (List.range σ.length) :=
  isort_zipIdx_snd_perm _ σ

theorem argsortNat_length (σ : List ℕ) : (argsortNat σ).length = σ.length :=
  perm_range_length (argsortNat_perm σ)

theorem sortedCuts_length (cuts : List α) : (sortedCuts cuts).length = cuts.length := by
  simp [sortedCuts, takeIdx, argsort_length]

/-- `cut_points[order]`, entry by entry -/
theorem sortedCuts_getD (cuts : List α) {q : ℕ} (hq : q < cuts.length) :
    (sortedCuts cuts).getD q 0 = cuts.getD ((argsort cuts).getD q 0) 0 :=
  Np.getD_map_of_lt _ _ 0 0 ((argsort_length cuts).symm ▸ hq)

theorem cumsumAux_length (acc : α) (l : List α) : (cumsumAux acc l).length = l.length := by
  induction l generalizing acc with
  | nil => rfl
  | cons a l ih => simp [cumsumAux, ih]

theorem cumsum_length (l : List α) : (cumsum l).length = l.length := by
  cases l with
  | nil => rfl
  | cons a l => simp [cumsum, cumsumAux_length]

theorem bias_length (cuts : List α) : (bias cuts).length = cuts.length + 1 := by
  simp [bias, cumsum_length, sortedCuts_length]

end generic

end GemVerif.Douglas
