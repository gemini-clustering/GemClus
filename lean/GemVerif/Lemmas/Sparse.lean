/-
  C06 — `Model/Sparse.lean` over ℝ: a row is selected iff it is non-zero; columns of the data at zero weight rows are
  inert; an invariant that every proximal step establishes holds in every state that a history of updates, snapshots and
  restores can reach (`runEvs_inv`); the Boolean tests of `check_groups` as propositions about `all_indices`
  (`checkAll_eval`), from which acceptance and completion are read.  This model of `check_groups`
  equals the one of `Model/Constraints.lean` (`checkGroups_eq_constraints`: same result, same failure); the pigeonhole
  step and the partition property of the completion are taken from Lemmas/Constraints.lean.
-/
import GemVerif.Model.Sparse
import GemVerif.Lemmas.ProxHier
import GemVerif.Lemmas.Constraints
import GemVerif.Lemmas.Softmax

namespace GemVerif.Model.Sparse
open GemVerif RealLike GemVerif.Model.Prox GemVerif.Model.Nets

variable {d h K n : ℕ}

theorem rowSelected_iff (W : Fin d → Fin h → ℝ) (i : Fin d) : rowSelected W i = true ↔ W i ≠ 0 := by
  unfold rowSelected
  simp only [beq_real, Bool.not_eq_true', decide_eq_false_iff_not]
  exact not_congr norm2_eq_zero

theorem mem_getSelection_iff (W : Fin d → Fin h → ℝ) (i : Fin d) : i ∈ getSelection W ↔ W i ≠ 0 := by
  unfold getSelection
  rw [List.mem_filter, rowSelected_iff]
  exact and_iff_right (List.mem_finRange i)

theorem sum_indicator_eq_length_filter {ι : Type} (p : ι → Bool) (l : List ι) :
    (l.map fun i => if p i then 1 else 0).sum = (l.filter p).length := by
  induction l with
  | nil => rfl
  | cons a l ih =>
    rw [List.map_cons, List.sum_cons, ih, List.filter_cons]
    by_cases ha : p a = true
    · rw [if_pos ha, if_pos ha, List.length_cons, Nat.add_comm]
    · rw [if_neg ha, if_neg ha, Nat.zero_add]

theorem sum_mul_congr_of_zero_rows (X X' : Fin n → Fin d → ℝ) (W : Fin d → Fin K → ℝ)
    (hX : ∀ r j, W j ≠ 0 → X r j = X' r j) (r : Fin n) (k : Fin K) :
    ∑ j, X r j * W j k = ∑ j, X' r j * W j k := by
  refine Finset.sum_congr rfl fun j _ => ?_
  by_cases hj : W j = 0
  · rw [hj]; simp
  · rw [hX r j hj]

theorem affine_congr_of_zero_rows (X X' : Fin n → Fin d → ℝ) (W : Fin d → Fin K → ℝ) (b : Fin K → ℝ)
    (hX : ∀ r j, W j ≠ 0 → X r j = X' r j) : affine X W b = affine X' W b := by
  funext r k
  rw [affine_apply, affine_apply, sum_mul_congr_of_zero_rows X X' W hX r k]

theorem LinW.predictProba_congr (w : LinW ℝ d K) (X X' : Fin n → Fin d → ℝ)
    (hX : ∀ r j, w.W j ≠ 0 → X r j = X' r j) : w.predictProba X = w.predictProba X' := by
  unfold LinW.predictProba linearInfer
  rw [affine_congr_of_zero_rows X X' w.W w.b hX]

theorem MlpW.predictProba_congr (w : MlpW ℝ d h K) (X X' : Fin n → Fin d → ℝ)
    (h1 : ∀ r j, w.W1 j ≠ 0 → X r j = X' r j) (hs : ∀ r j, w.Ws j ≠ 0 → X r j = X' r j) :
    w.predictProba X = w.predictProba X' := by
  have hH : hidden X w.W1 w.b1 = hidden X' w.W1 w.b1 := by
    unfold Model.Nets.hidden
    rw [affine_congr_of_zero_rows X X' w.W1 w.b1 h1]
  unfold MlpW.predictProba
  funext r
  rw [sparseMlpInfer_row, sparseMlpInfer_row, hH]
  congr 1
  funext k
  rw [sum_mul_congr_of_zero_rows X X' w.Ws hs r k]

theorem rows_smul_all_or_nothing {W W' : Fin d → Fin K → ℝ} {g : List (Fin d)} {x : ℝ}
    (hrow : ∀ i ∈ g, ∀ c, W' i c = x * W i c) (hnz : ∀ i ∈ g, W i ≠ 0) :
    (∀ i ∈ g, W' i = 0) ∨ (∀ i ∈ g, W' i ≠ 0) := by
  by_cases hx : x = 0
  · exact Or.inl fun i hi => funext fun c => by rw [hrow i hi c, hx, zero_mul]; rfl
  · refine Or.inr fun i hi h0 => hnz i hi (funext fun c => ?_)
    have := congrFun h0 c
    rw [hrow i hi c] at this
    exact (mul_eq_zero.mp this).resolve_left hx

def HierInv (w : MlpW ℝ d h K) : Prop := ∀ i, w.Ws i = 0 → w.W1 i = 0

def GroupHierInv (groups : List (List (Fin d))) (w : MlpW ℝ d h K) : Prop :=
  ∀ g ∈ groups, (∀ i ∈ g, w.Ws i = 0) → ∀ i ∈ g, w.W1 i = 0

theorem collectRows_some {m : ℕ} {f : Fin d → Option (Fin m → ℝ)} {F : Fin d → Fin m → ℝ}
    (hc : collectRows f = some F) : ∀ i, f i = some (F i) := by
  unfold collectRows at hc
  split at hc
  · rename_i hall
    injection hc with hc
    intro i
    have hi : (f i).isSome = true := List.all_eq_true.mp hall i (List.mem_finRange i)
    obtain ⟨z, hz⟩ := Option.isSome_iff_exists.mp hi
    rw [← hc]; simp [hz]
  · cases hc

theorem proxMlp_group_rows {gs : List (List (Fin d))} {M al lr : ℝ} {w w' : MlpW ℝ d h K}
    (hp : proxMlp (some gs) M al lr w = some w') :
    (∀ i, (groupMlpProx gs w.Ws w.W1 (threshold al lr) M).1 i = some (w'.Ws i)) ∧
    (∀ i, (groupMlpProx gs w.Ws w.W1 (threshold al lr) M).2 i = some (w'.W1 i)) ∧
    w'.W2 = w.W2 ∧ w'.b1 = w.b1 ∧ w'.b2 = w.b2 := by
  unfold proxMlp at hp
  simp only at hp
  split at hp
  · rename_i Ws' W1' h1 h2
    injection hp with hp
    subst hp
    exact ⟨collectRows_some h1, collectRows_some h2, rfl, rfl, rfl⟩
  · cases hp

theorem proxLinear_group_rows {gs : List (List (Fin d))} {al lr : ℝ} {w w' : LinW ℝ d K}
    (hp : proxLinear (some gs) al lr w = some w') :
    (∀ i, groupLinearProx gs w.W (threshold al lr) i = some (w'.W i)) ∧ w'.b = w.b := by
  unfold proxLinear at hp
  simp only [Option.map_eq_some_iff] at hp
  obtain ⟨W', hW, rfl⟩ := hp
  exact ⟨collectRows_some hW, rfl⟩

theorem runEvs_cons_eq_some {W : Type} {prox : ℝ → ℝ → W → Option W} {s s' : HState W} {e : Ev W ℝ}
    {es : List (Ev W ℝ)} :
    runEvs prox s (e :: es) = some s' ↔ ∃ s₁, stepEv prox s e = some s₁ ∧ runEvs prox s₁ es = some s' :=
  Option.bind_eq_some_iff

/-- one event: the new current weights come from `prox` or from the old snapshot, the new snapshot is the old one or the
    old current weights -/
theorem stepEv_inv {W : Type} {prox : ℝ → ℝ → W → Option W} {Inv : W → Prop}
    (hprox : ∀ a lr w w', prox a lr w = some w' → Inv w') {s s' : HState W} {e : Ev W ℝ}
    (hc : ∀ w, s.cur = some w → Inv w) (hs : ∀ w, s.snap = some w → Inv w) (h : stepEv prox s e = some s') :
    (∀ w, s'.cur = some w → Inv w) ∧ (∀ w, s'.snap = some w → Inv w) := by
  cases e with
  | update init opt a lr =>
    simp only [stepEv] at h
    split at h
    · cases h
    · obtain ⟨w', hw', rfl⟩ := Option.map_eq_some_iff.mp h
      exact ⟨fun w hw => Option.some.inj hw ▸ hprox _ _ _ _ hw', hs⟩
  | snapshot =>
    obtain ⟨w', hw', rfl⟩ := Option.map_eq_some_iff.mp h
    exact ⟨hc, fun w hw => Option.some.inj hw ▸ hc _ hw'⟩
  | restore =>
    obtain ⟨w', hw', rfl⟩ := Option.map_eq_some_iff.mp h
    exact ⟨fun w hw => Option.some.inj hw ▸ hs _ hw', hs⟩

theorem runEvs_inv {W : Type} (prox : ℝ → ℝ → W → Option W) (Inv : W → Prop)
    (hprox : ∀ a lr w w', prox a lr w = some w' → Inv w') :
    ∀ (evs : List (Ev W ℝ)) (s s' : HState W), (∀ w, s.cur = some w → Inv w) → (∀ w, s.snap = some w → Inv w) →
      runEvs prox s evs = some s' → (∀ w, s'.cur = some w → Inv w) ∧ (∀ w, s'.snap = some w → Inv w) := by
  intro evs
  induction evs with
  | nil => intro s s' hc hs hr; cases hr; exact ⟨hc, hs⟩
  | cons e evs ih =>
    intro s s' hc hs hr
    obtain ⟨s₁, h1, h2⟩ := runEvs_cons_eq_some.mp hr
    obtain ⟨hc₁, hs₁⟩ := stepEv_inv hprox hc hs h1
    exact ih s₁ s' hc₁ hs₁ h2

theorem runEvs_append {W : Type} (prox : ℝ → ℝ → W → Option W) (evs₁ evs₂ : List (Ev W ℝ)) (s s' : HState W)
    (h : runEvs prox s (evs₁ ++ evs₂) = some s') : ∃ s₁, runEvs prox s evs₁ = some s₁ ∧ runEvs prox s₁ evs₂ = some s' := by
  induction evs₁ generalizing s with
  | nil => exact ⟨s, rfl, h⟩
  | cons e evs ih =>
    obtain ⟨s₁, h1, h2⟩ := runEvs_cons_eq_some.mp h
    obtain ⟨s₂, h3, h4⟩ := ih s₁ h2
    exact ⟨s₂, runEvs_cons_eq_some.mpr ⟨s₁, h1, h3⟩, h4⟩

theorem hasDup_iff (l : List Int) : hasDup l = true ↔ ¬ l.Nodup := by
  induction l with
  | nil => simp [hasDup]
  | cons x xs ih =>
    unfold hasDup
    rw [Bool.or_eq_true, ih, List.nodup_cons, List.contains_iff_mem, not_and_or, not_not]

/-- pigeonhole -/
theorem covers_iff_nodup (l : List Int) (n : ℕ) (hlen : l.length = n) (hr : ∀ i ∈ l, 0 ≤ i ∧ i < n) :
    (∀ i : ℕ, i < n → (i : Int) ∈ l) ↔ l.Nodup := by
  have hcov : (∀ y ∈ Model.Constraints.pyRange n, y ∈ l) ↔ ∀ i : ℕ, i < n → (i : Int) ∈ l := by
    simp only [Model.Constraints.pyRange, List.mem_map, List.mem_range, forall_exists_index, and_imp,
      forall_apply_eq_imp_iff₂]
    rfl
  rw [← hcov]
  exact ⟨fun h => Lemmas.Constraints.nodup_of_covers_length l n h hlen,
    fun h => Lemmas.Constraints.covers_of_legal_length l n hr h hlen⟩

/-- `min(all_indices) < 0 or max(all_indices) >= n` as a statement about every index -/
theorem anyOutOfRange_iff (all : List Int) (n : ℕ) :
    (all.any (fun i => decide (i < 0)) || all.any fun i => decide (i ≥ (n : Int))) = true ↔
      ¬ ∀ i ∈ all, 0 ≤ i ∧ i < n := by
  rw [Bool.or_eq_true, List.any_eq_true, List.any_eq_true, not_forall]
  constructor
  · rintro (⟨i, hi, h⟩ | ⟨i, hi, h⟩)
    · exact ⟨i, fun hr => absurd (of_decide_eq_true h) (not_lt.mpr (hr hi).1)⟩
    · exact ⟨i, fun hr => absurd (hr hi).2 (not_lt.mpr (of_decide_eq_true h))⟩
  · rintro ⟨i, hi⟩
    obtain ⟨hmem, hbad⟩ := Classical.not_imp.mp hi
    by_cases h0 : i < 0
    · exact Or.inl ⟨i, hmem, decide_eq_true h0⟩
    · exact Or.inr ⟨i, hmem, decide_eq_true (not_lt.mp fun h1 => hbad ⟨not_lt.mp h0, h1⟩)⟩

/-- `set(all_indices) == set(range(n))` for `n` indices in range: no duplicate -/
theorem coversAll_iff (all : List Int) (n : ℕ) (hlen : all.length = n) (hr : ∀ i ∈ all, 0 ≤ i ∧ i < n) :
    ((List.range n).all fun i : ℕ => all.contains (Int.ofNat i)) = true ↔ all.Nodup := by
  rw [← covers_iff_nodup all n hlen hr, List.all_eq_true]
  exact forall_congr' fun i => by rw [List.mem_range, List.contains_iff_mem]; rfl

theorem mem_singletons {all : List Int} {n : ℕ} {g : List Int} :
    g ∈ singletons all n ↔ ∃ i : ℕ, i < n ∧ (i : Int) ∉ all ∧ g = [(i : Int)] := by
  unfold singletons
  simp only [List.mem_map, List.mem_filter, List.mem_range, Bool.not_eq_true', List.contains_eq_mem,
    decide_eq_false_iff_not]
  exact ⟨fun ⟨i, ⟨hi, hni⟩, e⟩ => ⟨i, hi, hni, e.symm⟩, fun ⟨i, hi, hni, e⟩ => ⟨i, ⟨hi, hni⟩, e.symm⟩⟩

theorem singletons_eq_nil {all : List Int} {n : ℕ} (hcov : ∀ i : ℕ, i < n → (i : Int) ∈ all) :
    singletons all n = [] :=
  List.eq_nil_iff_forall_not_mem.2 fun _ hg =>
    let ⟨i, hi, hni, _⟩ := mem_singletons.1 hg
    hni (hcov i hi)

/-- `check_groups` evaluated, the Boolean tests of the code read as propositions about `all_indices`: accepted exactly
    on the documented precondition (indices in range, none twice), and then completed by singletons -/
theorem checkAll_eval (gs : List (List Int)) (all : List Int) (n : ℕ) :
    checkAll gs all n =
      if (∀ i ∈ all, 0 ≤ i ∧ i < n) ∧ all.Nodup then .ok (some (gs ++ singletons all n))
      else .error (if ¬ ∀ i ∈ all, 0 ≤ i ∧ i < n then .outOfRange
        else if all.length = n then .notPartition else .duplicate) := by
  unfold checkAll
  by_cases hr : ∀ i ∈ all, 0 ≤ i ∧ i < n
  · rw [if_neg (mt (anyOutOfRange_iff all n).mp (not_not.mpr hr))]
    by_cases hnd : all.Nodup
    · rw [if_pos (⟨hr, hnd⟩ : _ ∧ _)]
      by_cases hlen : all.length = n
      · -- a full-length legal list already mentions every feature: the code returns `gs`, and nothing is appended
        rw [if_pos (beq_iff_eq.mpr hlen), if_pos ((coversAll_iff all n hlen hr).mpr hnd),
          singletons_eq_nil ((covers_iff_nodup all n hlen hr).mpr hnd), List.append_nil]
      · rw [if_neg (mt beq_iff_eq.mp hlen), if_neg (mt (hasDup_iff all).mp (not_not.mpr hnd))]
    · rw [if_neg (fun h : _ ∧ _ => hnd h.2), if_neg (not_not.mpr hr)]
      by_cases hlen : all.length = n
      · rw [if_pos (beq_iff_eq.mpr hlen), if_neg (mt (coversAll_iff all n hlen hr).mp hnd), if_pos hlen]
      · rw [if_neg (mt beq_iff_eq.mp hlen), if_pos ((hasDup_iff all).mpr hnd), if_neg hlen]
  · rw [if_pos ((anyOutOfRange_iff all n).mpr hr), if_neg (fun h : _ ∧ _ => hr h.1), if_pos hr]

theorem checkGroups_ok_iff (gs : List (List Int)) (n : ℕ) (res : Option (List (List Int))) :
    checkGroups (some gs) n = .ok res ↔
      ((∀ i ∈ gs.flatten, 0 ≤ i ∧ i < n) ∧ gs.flatten.Nodup) ∧ res = some (completeGroups gs n) := by
  show checkAll gs gs.flatten n = .ok res ↔ _
  rw [checkAll_eval]
  by_cases hl : (∀ i ∈ gs.flatten, 0 ≤ i ∧ i < n) ∧ gs.flatten.Nodup
  · rw [if_pos hl]
    exact ⟨fun e => ⟨hl, (Except.ok.inj e).symm⟩, fun ⟨_, e⟩ => by rw [e]; rfl⟩
  · rw [if_neg hl]
    exact ⟨nofun, fun ⟨hl', _⟩ => absurd hl' hl⟩

theorem prefix_completeGroups (gs : List (List Int)) (n : ℕ) : gs <+: completeGroups gs n :=
  List.prefix_append _ _

theorem completeGroups_drop (gs : List (List Int)) (n : ℕ) :
    (completeGroups gs n).drop gs.length = singletons gs.flatten n :=
  List.drop_left

/-- `Model/Constraints.lean` models the same `check_groups` through the Python primitives: the two completions agree -/
theorem completeGroups_eq (gs : List (List Int)) (n : ℕ) :
    completeGroups gs n = Lemmas.Constraints.completion gs n := by
  simp only [completeGroups, singletons, Lemmas.Constraints.completion, Model.Constraints.pyRange,
    Lemmas.Constraints.flat_eq_flatten, List.filter_map, List.map_map, Model.Constraints.pyIn]
  rfl

/-- the prefix of the message that `Model/Constraints.lean` keeps for each failure -/
def GroupsErr.msg : GroupsErr → String
  | .outOfRange => "ValueError:Indices passed to"
  | .notPartition => "ValueError:Groups must form"
  | .duplicate => "ValueError:There cannot be"

/-- The two models of `check_groups` agree altogether: same acceptance, same result, same failure. -/
theorem checkGroups_eq_constraints (gs : Option (List (List Int))) (n : ℕ) :
    Model.Constraints.checkGroups gs n = (checkGroups gs n).mapError GroupsErr.msg := by
  cases gs with
  | none => rfl
  | some gs =>
    show _ = (checkAll gs gs.flatten n).mapError GroupsErr.msg
    rw [Lemmas.Constraints.checkGroups_eq, checkAll_eval, Lemmas.Constraints.flat_eq_flatten, ← completeGroups_eq,
      completeGroups]
    have hL : Lemmas.Constraints.Legal gs n ↔ (∀ i ∈ gs.flatten, 0 ≤ i ∧ i < n) ∧ gs.flatten.Nodup :=
      Lemmas.Constraints.legal_iff gs n
    by_cases hl : Lemmas.Constraints.Legal gs n
    · rw [if_pos hl, if_pos (hL.mp hl)]; rfl
    · rw [if_neg hl, if_neg (mt hL.mpr hl)]
      unfold Lemmas.Constraints.InRange
      split_ifs <;> rfl

theorem completeGroups_perm (gs : List (List Int)) (n : ℕ) (hr : ∀ i ∈ gs.flatten, 0 ≤ i ∧ i < n)
    (hnd : gs.flatten.Nodup) : (completeGroups gs n).flatten.Perm ((List.range n).map Int.ofNat) := by
  rw [completeGroups_eq]
  exact Lemmas.Constraints.completion_partition gs n ((Lemmas.Constraints.legal_iff gs n).mpr ⟨hr, hnd⟩)

end GemVerif.Model.Sparse
