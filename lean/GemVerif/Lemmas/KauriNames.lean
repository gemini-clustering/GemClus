/-
  The validation of `feature_names` in `print_kauri_tree` (`Model/KauriNames.lean`): when it accepts and which exception
  it raises (`validateNames_cases`, `validate_ok_iff`), and that the partial printer is then `Tree.printNode` and raises
  nothing.  No Mathlib.
-/
import GemVerif.Model.KauriNames
import GemVerif.Lemmas.KauriC19
import GemVerif.Lemmas.KauriC09

namespace GemVerif.KauriNames
open Model.Kauri KauriC19

variable {α : Type} [RealLike α]
set_option linter.unusedSectionVars false

/-- the code's test `len(feature_names) <= max(used)`, entry by entry -/
theorem le_pyMax_iff {l : List Int} (hl : l ≠ []) (m : Int) : m ≤ pyMax l ↔ ∃ x ∈ l, m ≤ x := by
  cases l with
  | nil => exact absurd rfl hl
  | cons x xs =>
    rw [pyMax, foldl_or_iff (P := fun v => m ≤ v) (fun a b => by omega)]
    simp only [List.mem_cons, exists_eq_or_imp]

theorem mem_usedFeatures {t : Tree α} {f : Int} :
    f ∈ usedFeatures t ↔ ∃ n, n < t.feat.size ∧ t.feat[n]! = some f := by
  simp only [usedFeatures, List.mem_filterMap, id]
  constructor
  · rintro ⟨o, ho, rfl⟩
    obtain ⟨n, hn, h⟩ := List.mem_iff_getElem.mp ho
    have hn' : n < t.feat.size := by simpa using hn
    exact ⟨n, hn', by rw [getElem!_pos t.feat n hn']; simpa using h⟩
  · rintro ⟨n, hn, h⟩
    refine ⟨some f, ?_, rfl⟩
    rw [getElem!_pos t.feat n hn] at h
    rw [← h]
    exact List.mem_iff_getElem.mpr ⟨n, by simpa using hn, by simp⟩

/-- the three ways the validation of a `feature_names` that is not `None` ends, each with its condition -/
theorem validateNames_cases (t : Tree α) (a : NamesArg) :
    (a.ndim ≠ 1 ∧ validateNames t (some a) = .error .notOneDim) ∨
    (a.ndim = 1 ∧ (∃ f ∈ usedFeatures t, (a.items.size : Int) ≤ f) ∧ validateNames t (some a) = .error .tooFew) ∨
    (a.ndim = 1 ∧ (∀ f ∈ usedFeatures t, f < (a.items.size : Int)) ∧ validateNames t (some a) = .ok ()) := by
  unfold validateNames
  by_cases hd : a.ndim = 1
  · have hmax : (0 < (usedFeatures t).length ∧ (a.items.size : Int) ≤ pyMax (usedFeatures t)) ↔
        ∃ f ∈ usedFeatures t, (a.items.size : Int) ≤ f := by
      by_cases hu : usedFeatures t = []
      · simp [hu]
      · simp only [List.length_pos_iff, ne_eq, hu, not_false_eq_true, true_and, le_pyMax_iff hu]
    simp only [hd, bne_self_eq_false, Bool.false_eq_true, if_false, ne_eq, not_true_eq_false, gt_iff_lt,
      Bool.and_eq_true, decide_eq_true_eq, hmax, false_and, true_and, false_or]
    by_cases h : ∃ f ∈ usedFeatures t, (a.items.size : Int) ≤ f
    · exact .inl ⟨h, if_pos h⟩
    · exact .inr ⟨fun f hf => Int.not_le.mp fun hle => h ⟨f, hf, hle⟩, if_neg h⟩
  · exact .inl ⟨hd, by simp [hd]⟩

theorem validate_ok_iff (t : Tree α) (a : NamesArg) :
    validateNames t (some a) = .ok () ↔ a.ndim = 1 ∧ ∀ f ∈ usedFeatures t, f < (a.items.size : Int) := by
  rcases validateNames_cases t a with ⟨hd, e⟩ | ⟨_, ⟨f, hf, hle⟩, e⟩ | ⟨hd, h, e⟩
  · rw [e]; exact ⟨nofun, fun h => absurd h.1 hd⟩
  · rw [e]; exact ⟨nofun, fun h => absurd (h.2 f hf) (Int.not_lt.mpr hle)⟩
  · rw [e]; exact ⟨fun _ => ⟨hd, h⟩, fun _ => rfl⟩

/-- every leaf has `features[node] = None` (`Tree.__init__` and `_add_child` write `None` for the new nodes) -/
def LeavesNoFeature (t : Tree α) : Prop := ∀ n, n < t.nNodes → t.left[n]! = -1 → t.feat[n]! = none

/-- the trees of the fit loop have it: `TreeWF` is part of the loop invariant `KauriC09.FullInv` -/
theorem leavesNoFeature_of_treeWF {t : Tree α} (h : KauriC09.TreeWF t) : LeavesNoFeature t :=
  fun n hn hl => (h.leaf n hn hl).2.2

/-- the names cover the tree: every internal node's feature index is a valid position of a list of `m` names -/
def Covers (t : Tree α) (m : Nat) : Prop :=
  ∀ n, n < t.nNodes → t.left[n]! ≠ -1 → 0 ≤ featAt t n ∧ (featAt t n).toNat < m

theorem featAt_mem_used {t : Tree α} (ht : WellFormed t) {n : Nat} (hn : n < t.nNodes) (hleaf : t.left[n]! ≠ -1) :
    0 ≤ featAt t n ∧ featAt t n ∈ usedFeatures t ∧ t.feat[n]! = some (featAt t n) := by
  obtain ⟨f, hf, h0⟩ := (ht.internal n hn hleaf).feat_some
  have e : featAt t n = f := by simp [featAt, hf]
  rw [e]
  exact ⟨h0, mem_usedFeatures.mpr ⟨n, by rw [ht.size_feat]; exact hn, hf⟩, hf⟩

theorem covers_of_ok {t : Tree α} (ht : WellFormed t) {a : NamesArg} (h : validateNames t (some a) = .ok ()) :
    Covers t a.items.size := by
  intro n hn hleaf
  obtain ⟨h0, hmem, _⟩ := featAt_mem_used ht hn hleaf
  have := ((validate_ok_iff t a).mp h).2 _ hmem
  omega

theorem ok_of_covers {t : Tree α} (ht : WellFormed t) (hl : LeavesNoFeature t) {a : NamesArg} (hd : a.ndim = 1)
    (hc : Covers t a.items.size) : validateNames t (some a) = .ok () := by
  refine (validate_ok_iff t a).mpr ⟨hd, ?_⟩
  intro f hf
  obtain ⟨n, hn, hfn⟩ := mem_usedFeatures.mp hf
  rw [ht.size_feat] at hn
  have hleaf : t.left[n]! ≠ -1 := by
    intro h
    rw [hl n hn h] at hfn
    exact absurd hfn (by simp)
  have := hc n hn hleaf
  have e : featAt t n = f := by simp [featAt, hfn]
  rw [e] at this
  omega

theorem pyIndex_of_lt (a : Array String) {i : Int} (h0 : 0 ≤ i) (h1 : i.toNat < a.size) :
    pyIndex a i = some a[i.toNat]! := by
  simp [pyIndex, h0, h1]

/-- when the lookup `feature_names[feature]` succeeds with `nm f` at every internal node, `print_node` never raises and
    prints what the total printer prints with `nm` -/
theorem printNodeNamed_eq_of_nameAt {t : Tree α} (ht : WellFormed t) (sh : α → String) (names : Option NamesArg)
    (nm : Int → String)
    (hname : ∀ n, n < t.nNodes → t.left[n]! ≠ -1 → nameAt names (t.feat[n]!) = some (nm (featAt t n))) :
    ∀ (k node : Nat), node < t.nNodes → t.nNodes ≤ k + node →
      t.printNodeNamed sh names k node = ⟨t.printNode sh nm k node, none⟩ := by
  refine ht.fuel_induction ?_ ?_
  · intro k n _ hleaf
    rw [printNode_leaf t sh nm k hleaf]
    simp only [Tree.printNodeNamed, hleaf, beq_self_eq_true, if_true, Line.render]
  · intro k n hn hleaf _ ihL ihR
    rw [printNode_node t sh nm k hleaf]
    simp only [Tree.printNodeNamed, beq_iff_eq, hleaf, if_false, hname n hn hleaf, ihL, ihR]
    rfl  -- the threshold text: `thrStr` against the `match` inside `printNodeNamed`

theorem printKauriTree_of_ok {t : Tree α} (sh : α → String) {names : Option NamesArg} (fuel : Nat)
    (h : validateNames t names = .ok ()) : printKauriTree t sh names fuel = t.printNodeNamed sh names fuel 0 := by
  simp only [printKauriTree, h]

def Line.mapName (g : String → String) : Line → Line
  | .le d n th => .le d (g n) th
  | .gt d n th => .gt d (g n) th
  | l => l

theorem printLines_mapName {t : Tree α} (ht : WellFormed t) (sh : α → String) (nm nm' : Int → String)
    (g : String → String)
    (hg : ∀ n, n < t.nNodes → t.left[n]! ≠ -1 → nm' (featAt t n) = g (nm (featAt t n))) :
    ∀ (k node : Nat), node < t.nNodes →
      printLines t sh nm' k node = (printLines t sh nm k node).map (Line.mapName g) := by
  refine ht.any_fuel_induction ?_ ?_ ?_
  · intro n _; rfl
  · intro k n _ hleaf
    rw [printLines_leaf t sh nm' k hleaf, printLines_leaf t sh nm k hleaf]
    rfl
  · intro k n hn hleaf _ ihL ihR
    simp only [printLines_node _ sh _ k hleaf, List.map_append, List.map_cons, List.map_nil, Line.mapName, ihL, ihR,
      hg n hn hleaf]

namespace Example
open KauriC19.Example

theorem right_eq : tree.right = #[2, -1, -1] := rfl
theorem depths_eq : tree.depths = #[0, 1, 1] := rfl
theorem target_eq : tree.target = #[0, 0, 1] := rfl

theorem ok_abc : validateNames tree (some ⟨1, #["a", "b", "c"]⟩) = .ok () := by
  refine (validate_ok_iff _ _).mpr ⟨rfl, ?_⟩
  simp [usedFeatures, feat_eq]

theorem thrDistinct : ThrDistinct tree sh := by
  intro n m hn hm hln hlm _
  rw [internal_zero hn hln, internal_zero hm hlm]

end Example

end GemVerif.KauriNames
