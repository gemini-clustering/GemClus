/-
  For Props/C05Gen.lean, without mention of the generated file.  The group loop `for g in groups: W_star[g] = …` on the
  invariant `RowsAre` (a row of the array being filled holds the result of the last group containing it — the model's
  `locate` — or the uninitialised memory), with its fold rule.  ℝ satisfies the order laws the sort needs, and over ℝ with
  `M ≥ 0` the breakpoint count of `mlp_prox_grad` never reaches the last column (no IndexError in `np.take_along_axis`).
-/
import GemVerif.Lemmas.Np3
import GemVerif.Lemmas.ProxHier

set_option linter.unusedSectionVars false

namespace GemVerif.Np
open Model.Prox

section generic
variable {α : Type} [RealLike α] {d n : Nat}

namespace Arr

/-- The rows of the array a `for g in groups:` loop fills: row `i` holds the slice of `res g` of the group recorded in
    `loc i` (at the position of `i` in it), or the uninitialised memory `junk` when no group has written it yet. -/
def RowsAre (junk : Nat → Nat → α) (res : (g : List (Fin d)) → Fin (g.length * n) → α) (A : Arr α)
    (loc : Fin d → Option ((g : List (Fin d)) × Fin g.length)) : Prop :=
  A.ok = true ∧ A.r = d ∧ A.c = n ∧ ∀ (i : Fin d) (j : Fin n),
    A.get i.val j.val = match loc i with
      | some r => res r.1 (flatIdx r.2 j)
      | none => junk i.val j.val

section projections
variable {junk : Nat → Nat → α} {res : (g : List (Fin d)) → Fin (g.length * n) → α} {A : Arr α}
  {loc : Fin d → Option ((g : List (Fin d)) × Fin g.length)}

theorem RowsAre.ok (h : RowsAre junk res A loc) : A.ok = true := h.1
theorem RowsAre.r (h : RowsAre junk res A loc) : A.r = d := h.2.1
theorem RowsAre.c (h : RowsAre junk res A loc) : A.c = n := h.2.2.1
theorem RowsAre.get (h : RowsAre junk res A loc) (i : Fin d) (j : Fin n) :
    A.get i.val j.val = match loc i with
      | some r => res r.1 (flatIdx r.2 j)
      | none => junk i.val j.val := h.2.2.2 i j

end projections

theorem RowsAre.empty (junk : Nat → Nat → α) (res : (g : List (Fin d)) → Fin (g.length * n) → α) :
    RowsAre junk res (Arr.empty junk d n) (fun _ => none) :=
  ⟨rfl, rfl, rfl, fun _ _ => rfl⟩

theorem RowsAre.checked {junk : Nat → Nat → α} {res : (g : List (Fin d)) → Fin (g.length * n) → α} {A : Arr α} {loc}
    (h : RowsAre junk res A loc) {b : Bool} (hb : b = true) : RowsAre junk res (checked b A) loc := by
  subst hb
  exact ⟨by simp [h.ok], h.r, h.c, h.get⟩

/-- one `W_star[g] = R`: the rows of `g` now hold the slices of `R`, the others are unchanged.  `g` may repeat an index
    provided the slices written to the same row coincide (`hres`): then the order in which NumPy performs the writes —
    which it does not specify — is irrelevant (the DSL takes the last write, the model `List.finIdxOf?` the first). -/
theorem RowsAre.setRows {junk : Nat → Nat → α} {res : (g : List (Fin d)) → Fin (g.length * n) → α} {A : Arr α} {loc}
    (hA : RowsAre junk res A loc) {g : List (Fin d)}
    (hres : ∀ (q q' : Fin g.length) (j : Fin n), g.get q = g.get q' → res g (flatIdx q j) = res g (flatIdx q' j))
    {R : Arr α} (hR : IsMat R (fun (q : Fin g.length) (j : Fin n) => res g (flatIdx q j))) :
    RowsAre junk res (Arr.setRows A (g.map Fin.val) R) (fun i => locStep i (loc i) g) := by
  obtain ⟨hok, hr, hc, hget⟩ := hA
  obtain ⟨hRok, hRr, hRc, hRget⟩ := hR
  refine ⟨?_, hr, hc, fun i j => ?_⟩
  · rw [setRows_ok, hok, hRok, all_val_lt g hr, hRr, hRc, hc, List.length_map]
    simp only [beq_self_eq_true, Bool.true_or, Bool.and_self]
  · show _ = match locStep i (loc i) g with
      | some r => res r.1 (flatIdx r.2 j)
      | none => junk i.val j.val
    unfold locStep
    rcases setRows_get_fin A g R i j.val with ⟨hni, e⟩ | ⟨r, hgr, e⟩
    · rw [e, List.finIdxOf?_eq_none_iff.mpr hni]
      exact hget i j
    · cases hq : g.finIdxOf? i with
      | none => exact absurd (hgr ▸ List.get_mem g r) (List.finIdxOf?_eq_none_iff.mp hq)
      | some q =>
        have hgq : g.get q = i := (List.finIdxOf?_eq_some_iff.mp hq).1
        rw [e, hRr, hRc, bidx_of_lt r.isLt, bidx_val]
        exact (hRget r j).trans (hres r q j (hgr.trans hgq.symm))

/-- `for g in groups:` carries an invariant of the state relative to what `locate` has recorded so far -/
theorem foldl_groups {σ : Type} (P : σ → (Fin d → Option ((g : List (Fin d)) × Fin g.length)) → Prop)
    (body : σ → List Nat → σ) :
    ∀ (groups : List (List (Fin d))),
      (∀ st loc g, g ∈ groups → P st loc → P (body st (g.map Fin.val)) (fun i => locStep i (loc i) g)) →
      ∀ st loc, P st loc →
        P ((groups.map (List.map Fin.val)).foldl body st) (fun i => groups.foldl (locStep i) (loc i)) := by
  intro groups
  induction groups with
  | nil => intro _ st loc h; exact h
  | cons g gs ih =>
    intro hstep st loc h
    simp only [List.map_cons, List.foldl_cons]
    exact ih (fun st loc g' hg' hP => hstep st loc g' (List.mem_cons_of_mem _ hg') hP) _ _
      (hstep st loc g List.mem_cons_self h)

theorem RowsAre.scatter {junk : Nat → Nat → α} {res : (g : List (Fin d)) → Fin (g.length * n) → α} {A : Arr α}
    {groups : List (List (Fin d))} (h : RowsAre junk res A (fun i => groups.foldl (locStep i) none)) (i : Fin d) :
    match Model.Prox.scatter groups res i with
    | some f => ∀ j : Fin n, A.get i.val j.val = f j
    | none => ∀ j : Fin n, A.get i.val j.val = junk i.val j.val := by
  have hg : ∀ j : Fin n, A.get i.val j.val = match groups.foldl (locStep i) none with
      | some r => res r.1 (flatIdx r.2 j)
      | none => junk i.val j.val := h.get i
  unfold Model.Prox.scatter
  rw [locate_eq_foldl]
  cases hl : groups.foldl (locStep i) none with
  | none => intro j; have := hg j; rw [hl] at this; exact this
  | some r => intro j; have := hg j; rw [hl] at this; exact this

/-- `R` is without error a `d × n` array whose row `i` is `rows i` when the model says `some f`, and is still the
    uninitialised memory `junk` when the model says `none` (a row no group covers) -/
def IsPartialMat (junk : Nat → Nat → α) (R : Arr α) (rows : Fin d → Option (Fin n → α)) : Prop :=
  R.ok = true ∧ R.r = d ∧ R.c = n ∧ ∀ i : Fin d,
    match rows i with
    | some f => ∀ j : Fin n, R.get i.val j.val = f j
    | none => ∀ j : Fin n, R.get i.val j.val = junk i.val j.val

theorem RowsAre.isPartialMat {junk : Nat → Nat → α} {res : (g : List (Fin d)) → Fin (g.length * n) → α} {A : Arr α}
    {groups : List (List (Fin d))} (h : RowsAre junk res A (fun i => groups.foldl (locStep i) none)) :
    IsPartialMat junk A (Model.Prox.scatter groups res) :=
  ⟨h.ok, h.r, h.c, fun i => h.scatter i⟩

theorem IsPartialMat.checked {junk : Nat → Nat → α} {R : Arr α} {rows : Fin d → Option (Fin n → α)}
    (h : IsPartialMat junk R rows) {b : Bool} (hb : b = true) : IsPartialMat junk (checked b R) rows := by
  subst hb
  obtain ⟨hok, hr, hc, hget⟩ := h
  exact ⟨by simp [hok], hr, hc, hget⟩

end Arr
end generic

theorem orderLaws_real : OrderLaws ℝ :=
  ⟨fun a b => by simpa using le_total a b, fun a b c h1 h2 => by simp at *; exact h1.trans h2,
   fun a b h1 h2 => by simp at *; exact le_antisymm h1 h2⟩

/-- Over ℝ with `M ≥ 0`, `idx = np.sum(lower > w)` never counts the last of the `h + 1` columns (`lower = 0 ≤ w` there):
    `idx ≤ h`, a valid column for `np.take_along_axis`. -/
theorem hierIdx_le_real (L : List ℝ) (al : ℝ) {M : ℝ} (hM : 0 ≤ M) {Nv : ℝ} (hN : 0 ≤ Nv) :
    hierIdx L al M Nv ≤ L.length := by
  unfold hierIdx
  refine countTo_succ_le ?_
  have hl : lowerS L L.length = 0 := by
    unfold lowerS; rw [map_append_zero_getD]; simp
  have hw : 0 ≤ wS L al M Nv L.length := by
    unfold wS
    exact mul_nonneg (mul_nonneg hM (xS_nonneg _ _ _ _ _)) hN
  simp [hl, not_lt.mpr hw]

end GemVerif.Np
