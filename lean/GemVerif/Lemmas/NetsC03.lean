/-
  C03: the hand-written back-propagation is the exact parameter gradient.  Everything is proved along arbitrary
  differentiable parameter curves `t ↦ θ t` (entrywise `HasDerivAt` at `t₀`); `Props/C03.lean` specialises to lines
  `θ + t·E` at `t₀ = 0`.
-/
import GemVerif.Lemmas.Softmax
import GemVerif.Lemmas.RealCalc
import Mathlib.Analysis.Calculus.Deriv.Inv
import Mathlib.Analysis.SpecialFunctions.ExpDeriv

namespace GemVerif
open Model.Nets

variable {n m d h K : ℕ}

theorem tauHat_apply (y g : Fin n → Fin K → ℝ) (i : Fin n) (k : Fin K) :
    tauHat y g i k = y i k * (g i k - ∑ c, y i c * g i c) := by
  simp only [tauHat, sumFin_eq_sum]

theorem hasDerivAt_softmaxRow {u : ℝ → Fin K → ℝ} {v : Fin K → ℝ} {t₀ : ℝ}
    (hu : ∀ k, HasDerivAt (fun t => u t k) (v k) t₀) (k : Fin K) :
    HasDerivAt (fun t => softmaxRow (u t) k)
      (softmaxRow (u t₀) k * (v k - ∑ c, softmaxRow (u t₀) c * v c)) t₀ := by
  have hD : HasDerivAt (fun t => ∑ c, Real.exp (u t c)) (∑ c, Real.exp (u t₀ c) * v c) t₀ :=
    HasDerivAt.fun_sum fun c _ => (hu c).exp
  have hD0 := (sum_exp_pos (u t₀) k).ne'
  simp only [softmaxRow_eq]
  refine ((hu k).exp.fun_div hD hD0).congr_deriv ?_
  simp only [div_mul_eq_mul_div, ← Finset.sum_div]
  -- the quotient rule gives `(a·x·D − a·S) / D²`; wanted is `a·(x − S/D) / D`
  rw [sub_div, sq, mul_div_mul_right _ _ hD0, mul_sub, sub_div, ← mul_div_assoc, div_div]

/-- pairing with the soft-max Jacobian can be moved to the other side -/
theorem sum_mul_sub_sum {m : ℕ} (w a B : Fin m → ℝ) :
    ∑ j, w j * (a j - ∑ j', B j' * a j') = ∑ j, (w j - B j * ∑ j', w j') * a j := by
  simp only [mul_sub, sub_mul, Finset.sum_sub_distrib, ← Finset.sum_mul]
  rw [Finset.mul_sum]
  exact congrArg _ (Finset.sum_congr rfl fun j _ => by ring)

theorem hasDerivAt_softmaxRow_pairing {u : ℝ → Fin K → ℝ} {v : Fin K → ℝ} {t₀ : ℝ}
    (hu : ∀ k, HasDerivAt (fun t => u t k) (v k) t₀) (g : Fin K → ℝ) :
    HasDerivAt (fun t => ∑ k, g k * softmaxRow (u t) k)
      (∑ l, softmaxRow (u t₀) l * (g l - ∑ k, softmaxRow (u t₀) k * g k) * v l) t₀ := by
  refine (HasDerivAt.fun_sum fun k _ => (hasDerivAt_softmaxRow hu k).const_mul (g k)).congr_deriv ?_
  generalize softmaxRow (u t₀) = y
  calc ∑ k, g k * (y k * (v k - ∑ c, y c * v c))
      = ∑ k, y k * g k * (v k - ∑ c, y c * v c) :=
        Finset.sum_congr rfl fun k _ => by rw [mul_left_comm, ← mul_assoc]
    _ = ∑ l, (y l * g l - y l * ∑ k, y k * g k) * v l := sum_mul_sub_sum _ v y
    _ = _ := Finset.sum_congr rfl fun l _ => by rw [mul_sub]

theorem sum_ind2 {r s : ℕ} (F : Fin r → Fin s → ℝ) (a : Fin r) (c : Fin s) :
    ∑ j, ∑ k, F j k * (if j = a ∧ k = c then 1 else 0) = F a c := by
  simp only [ite_and, mul_ite, mul_one, mul_zero, Finset.sum_ite_irrel, Finset.sum_const_zero, Finset.sum_ite_eq',
    Finset.mem_univ, if_true]

theorem sum_ind1 {s : ℕ} (F : Fin s → ℝ) (c : Fin s) :
    ∑ k, F k * (if k = c then 1 else 0) = F c := by
  simp only [mul_ite, mul_one, mul_zero, Finset.sum_ite_eq', Finset.mem_univ, if_true]

theorem softmax_jacobian (z g : Fin K → ℝ) (l : Fin K) :
    HasDerivAt (fun t => ∑ k, g k * softmaxRow (Function.update z l t) k)
      (softmaxRow z l * (g l - ∑ k, softmaxRow z k * g k)) (z l) := by
  have hu : ∀ k, HasDerivAt (fun t => Function.update z l t k) (if k = l then 1 else 0) (z l) := fun k => by
    by_cases hk : k = l
    · subst hk
      rw [if_pos rfl]
      simpa only [Function.update_self] using hasDerivAt_id' (z k)
    · simpa only [Function.update_of_ne hk, if_neg hk] using hasDerivAt_const (z l) (z k)
  have h := hasDerivAt_softmaxRow_pairing hu g
  simpa only [Function.update_eq_self, sum_ind1] using h

theorem hasDerivAt_softmax_rows {Z : ℝ → Fin n → Fin K → ℝ} {Z' : Fin n → Fin K → ℝ} {t₀ : ℝ}
    (hZ : ∀ i k, HasDerivAt (fun t => Z t i k) (Z' i k) t₀) (g : Fin n → Fin K → ℝ) :
    HasDerivAt (fun t => ∑ i, ∑ k, g i k * softmaxRow (Z t i) k)
      (∑ i, ∑ k, tauHat (fun i => softmaxRow (Z t₀ i)) g i k * Z' i k) t₀ := by
  simp only [tauHat_apply]
  exact HasDerivAt.fun_sum fun i _ => hasDerivAt_softmaxRow_pairing (hZ i) (g i)

theorem hidden_apply (X : Fin n → Fin d → ℝ) (W1 : Fin d → Fin h → ℝ) (b1 : Fin h → ℝ) (i : Fin n) (j : Fin h) :
    hidden X W1 b1 i j = max (affine X W1 b1 i j) 0 := rfl

theorem linearInfer_row (X : Fin n → Fin d → ℝ) (W : Fin d → Fin K → ℝ) (b : Fin K → ℝ) (i : Fin n) :
    linearInfer X W b i = softmaxRow (affine X W b i) := rfl

theorem mlpInfer_eq_sparse (X : Fin n → Fin d → ℝ) (W1 : Fin d → Fin h → ℝ) (b1 : Fin h → ℝ)
    (W2 : Fin h → Fin K → ℝ) (b2 : Fin K → ℝ) :
    mlpInfer X W1 b1 W2 b2 = sparseMlpInfer X W1 b1 W2 b2 (fun _ _ => 0) := by
  funext i
  simp only [sparseMlpInfer_row, mlpInfer, tab2_coe, mul_zero, Finset.sum_const_zero, add_zero]

theorem linearGradW_apply (X : Fin n → Fin d → ℝ) (y g : Fin n → Fin K → ℝ) (j : Fin d) (k : Fin K) :
    linearGradW X y g j k = -(∑ i, X i j * tauHat y g i k) := by
  simp only [linearGradW, tab2_apply, sumFin_eq_sum]

theorem linearGradB_apply (y g : Fin n → Fin K → ℝ) (k : Fin K) :
    linearGradB y g k = -(∑ i, tauHat y g i k) := by
  simp only [linearGradB, tab2_apply, sumFin_eq_sum]

/-- `(∑ k, τ i k * W2 j k) * [H i j > 0]` is `backprop_grad` of the source -/
theorem mlpGrads_eq (X : Fin n → Fin d → ℝ) (H : Fin n → Fin h → ℝ) (W2 : Fin h → Fin K → ℝ)
    (y g : Fin n → Fin K → ℝ) :
    mlpGrads X H W2 y g =
      { W1 := fun a j => -(∑ i, X i a * ((∑ k, tauHat y g i k * W2 j k) * RealLike.ofBool (RealLike.lt 0 (H i j)))),
        W2 := fun j k => -(∑ i, H i j * tauHat y g i k),
        b1 := fun j => -(∑ i, (∑ k, tauHat y g i k * W2 j k) * RealLike.ofBool (RealLike.lt 0 (H i j))),
        b2 := fun k => -(∑ i, tauHat y g i k),
        Ws := fun a k => -(∑ i, X i a * tauHat y g i k) } := by
  simp only [mlpGrads, tab2_apply, sumFin_eq_sum]

theorem hasDerivAt_affine {Xc : ℝ → Fin n → Fin d → ℝ} {X' : Fin n → Fin d → ℝ}
    {Wc : ℝ → Fin d → Fin K → ℝ} {W' : Fin d → Fin K → ℝ} {bc : ℝ → Fin K → ℝ} {b' : Fin K → ℝ} {t₀ : ℝ}
    (hX : ∀ i j, HasDerivAt (fun t => Xc t i j) (X' i j) t₀)
    (hW : ∀ j k, HasDerivAt (fun t => Wc t j k) (W' j k) t₀)
    (hb : ∀ k, HasDerivAt (fun t => bc t k) (b' k) t₀) (i : Fin n) (k : Fin K) :
    HasDerivAt (fun t => affine (Xc t) (Wc t) (bc t) i k)
      (∑ j, (X' i j * Wc t₀ j k + Xc t₀ i j * W' j k) + b' k) t₀ := by
  simp only [affine_apply]
  exact (HasDerivAt.fun_sum fun j _ => (hX i j).fun_mul (hW j k)).fun_add (hb k)

theorem hasDerivAt_affine_const (X : Fin n → Fin d → ℝ)
    {Wc : ℝ → Fin d → Fin K → ℝ} {W' : Fin d → Fin K → ℝ} {bc : ℝ → Fin K → ℝ} {b' : Fin K → ℝ} {t₀ : ℝ}
    (hW : ∀ j k, HasDerivAt (fun t => Wc t j k) (W' j k) t₀)
    (hb : ∀ k, HasDerivAt (fun t => bc t k) (b' k) t₀) (i : Fin n) (k : Fin K) :
    HasDerivAt (fun t => affine X (Wc t) (bc t) i k) (∑ j, X i j * W' j k + b' k) t₀ := by
  simp only [affine_apply]
  exact (HasDerivAt.fun_sum fun j _ => (hW j k).const_mul (X i j)).fun_add (hb k)

/-- `max(·, 0)` away from the kink, with the mask written as the code writes it (`H > 0`) -/
theorem hasDerivAt_relu {f : ℝ → ℝ} {f' x : ℝ} (hf : HasDerivAt f f' x) (h : f x ≠ 0) :
    HasDerivAt (fun y => max (f y) 0) (RealLike.ofBool (RealLike.lt 0 (max (f x) 0)) * f') x := by
  rcases lt_or_gt_of_ne h with hneg | hpos
  · rw [max_eq_right hneg.le, RealLike.lt_real, decide_eq_false (lt_irrefl 0), RealLike.ofBool,
      if_neg Bool.false_ne_true, zero_mul]
    exact (hasDerivAt_const x (0 : ℝ)).congr_of_eventuallyEq
      ((hf.continuousAt.eventually (gt_mem_nhds hneg)).mono fun _ hy => max_eq_right hy.le)
  · rw [max_eq_left hpos.le, RealLike.lt_real, decide_eq_true hpos, RealLike.ofBool, if_pos rfl, one_mul]
    exact hasDerivAt_max_zero hf hpos

theorem pull_W (τ : Fin n → Fin K → ℝ) (X : Fin n → Fin d → ℝ) (E : Fin d → Fin K → ℝ) :
    ∑ i, ∑ k, τ i k * ∑ j, X i j * E j k = ∑ j, ∑ k, (∑ i, X i j * τ i k) * E j k := by
  simp only [Finset.mul_sum, Finset.sum_mul]
  rw [Finset.sum_comm_cycle]
  exact Finset.sum_congr rfl fun j _ => Finset.sum_comm.trans <|
    Finset.sum_congr rfl fun k _ => Finset.sum_congr rfl fun i _ => by ring

theorem pull_b (τ : Fin n → Fin K → ℝ) (e : Fin K → ℝ) :
    ∑ i, ∑ k, τ i k * e k = ∑ k, (∑ i, τ i k) * e k := by
  rw [Finset.sum_comm]
  exact Finset.sum_congr rfl fun k _ => by rw [Finset.sum_mul]

theorem pull_H (τ : Fin n → Fin K → ℝ) (M : Fin n → Fin h → ℝ) (W2 : Fin h → Fin K → ℝ) :
    ∑ i, ∑ k, τ i k * ∑ j, M i j * W2 j k = ∑ i, ∑ j, (∑ k, τ i k * W2 j k) * M i j := by
  refine Finset.sum_congr rfl fun i _ => ?_
  simp only [Finset.mul_sum, Finset.sum_mul]
  rw [Finset.sum_comm]
  exact Finset.sum_congr rfl fun j _ => Finset.sum_congr rfl fun k _ => by ring

/-- LinearModel: `[-X.T @ tau, -tau.sum(0)]` is minus the gradient of `⟨g, infer⟩`, along any curve of `(W, b)`. -/
theorem linear_hasDerivAt_curve (X : Fin n → Fin d → ℝ)
    {Wc : ℝ → Fin d → Fin K → ℝ} {E : Fin d → Fin K → ℝ} {bc : ℝ → Fin K → ℝ} {e : Fin K → ℝ} {t₀ : ℝ}
    (hW : ∀ j k, HasDerivAt (fun t => Wc t j k) (E j k) t₀)
    (hb : ∀ k, HasDerivAt (fun t => bc t k) (e k) t₀) (g : Fin n → Fin K → ℝ) :
    HasDerivAt (fun t => ∑ i, ∑ k, g i k * linearInfer X (Wc t) (bc t) i k)
      (∑ j, ∑ k, -(linearGradW X (linearInfer X (Wc t₀) (bc t₀)) g j k) * E j k
        + ∑ k, -(linearGradB (linearInfer X (Wc t₀) (bc t₀)) g k) * e k) t₀ := by
  simp only [linearInfer_row]
  refine (hasDerivAt_softmax_rows (fun i k => hasDerivAt_affine_const X hW hb i k) g).congr_deriv ?_
  simp only [linearGradW_apply, linearGradB_apply, neg_neg, mul_add, Finset.sum_add_distrib, pull_W, pull_b]
  rfl

/-- CategoricalModel: `[-tau]` is minus the gradient of `⟨g, softmax(logits)⟩`. -/
theorem categorical_hasDerivAt_curve {Lc : ℝ → Fin n → Fin K → ℝ} {E : Fin n → Fin K → ℝ} {t₀ : ℝ}
    (hL : ∀ i k, HasDerivAt (fun t => Lc t i k) (E i k) t₀) (g : Fin n → Fin K → ℝ) :
    HasDerivAt (fun t => ∑ i, ∑ k, g i k * categoricalInfer (Lc t) i k)
      (∑ i, ∑ k, -(categoricalGrad (categoricalInfer (Lc t₀)) g i k) * E i k) t₀ := by
  simp only [categoricalInfer, categoricalGrad, neg_neg]
  exact hasDerivAt_softmax_rows hL g

/-- the l2 penalty of RIM -/
theorem hasDerivAt_sq_penalty {Wc : ℝ → Fin d → Fin K → ℝ} {E : Fin d → Fin K → ℝ} {t₀ : ℝ}
    (hW : ∀ j k, HasDerivAt (fun t => Wc t j k) (E j k) t₀) :
    HasDerivAt (fun t => ∑ j, ∑ k, Wc t j k ^ 2) (∑ j, ∑ k, 2 * Wc t₀ j k * E j k) t₀ :=
  HasDerivAt.fun_sum fun j _ => HasDerivAt.fun_sum fun k _ => by
    simpa using (hW j k).fun_pow 2

/-- the kernel-weighted l2 penalty `tr(Wᵀ κ W)` of KernelRIM, for a symmetric kernel -/
theorem hasDerivAt_kernel_penalty (κ : Fin n → Fin n → ℝ) (hκ : ∀ j l, κ j l = κ l j)
    {Wc : ℝ → Fin n → Fin K → ℝ} {E : Fin n → Fin K → ℝ} {t₀ : ℝ}
    (hW : ∀ j k, HasDerivAt (fun t => Wc t j k) (E j k) t₀) :
    HasDerivAt (fun t => ∑ k, ∑ j, ∑ l, Wc t j k * κ j l * Wc t l k)
      (∑ j, ∑ k, 2 * (∑ l, κ j l * Wc t₀ l k) * E j k) t₀ := by
  -- column `k` contributes the quadratic form `Q κ (W · k) (W · k)`
  refine (HasDerivAt.fun_sum fun k _ => Q_self_hasDerivAt hκ fun j => hW j k).congr_deriv ?_
  rw [Finset.sum_comm]
  refine Finset.sum_congr rfl fun k _ => ?_
  rw [Q, Finset.mul_sum]
  refine Finset.sum_congr rfl fun j _ => ?_
  rw [Finset.mul_sum, Finset.mul_sum, Finset.sum_mul]
  exact Finset.sum_congr rfl fun l _ => by ring

theorem rimGradW_apply (reg : ℝ) (X : Fin n → Fin d → ℝ) (W : Fin d → Fin K → ℝ) (y g : Fin n → Fin K → ℝ)
    (j : Fin d) (k : Fin K) : rimGradW reg X W y g j k = linearGradW X y g j k + reg * 2 * W j k := by
  simp only [rimGradW, RealLike.nat_real, Nat.cast_ofNat]

theorem kernelRimGradW_apply (reg : ℝ) (κ : Fin n → Fin n → ℝ) (Xb : Fin m → Fin n → ℝ) (W : Fin n → Fin K → ℝ)
    (y g : Fin m → Fin K → ℝ) (j : Fin n) (k : Fin K) :
    kernelRimGradW reg κ Xb W y g j k = linearGradW Xb y g j k + 2 * reg * ∑ l, κ j l * W l k := by
  simp only [kernelRimGradW, sumFin_eq_sum, RealLike.nat_real, Nat.cast_ofNat]

/-- Subtracting `reg * p` from an objective adds `reg * P` to every entry of the direction, `P` the gradient of the
    penalty `p`; `B` is the part of the derivative that belongs to unpenalised parameters. -/
theorem hasDerivAt_sub_penalty {r s : ℕ} {f p : ℝ → ℝ} {G P E : Fin r → Fin s → ℝ} {B t₀ : ℝ}
    (hf : HasDerivAt f (∑ j, ∑ k, -(G j k) * E j k + B) t₀) (hp : HasDerivAt p (∑ j, ∑ k, P j k * E j k) t₀)
    (reg : ℝ) :
    HasDerivAt (fun t => f t - reg * p t) (∑ j, ∑ k, -(G j k + reg * P j k) * E j k + B) t₀ := by
  refine (hf.fun_sub (hp.const_mul reg)).congr_deriv ?_
  rw [add_sub_right_comm, Finset.mul_sum, ← Finset.sum_sub_distrib]
  refine congrArg (· + B) (Finset.sum_congr rfl fun j _ => ?_)
  rw [Finset.mul_sum, ← Finset.sum_sub_distrib]
  exact Finset.sum_congr rfl fun k _ => by ring

/-- RIM: after `_update_weights` the direction is minus the gradient of `⟨g, infer⟩ - reg * ‖W‖²`. -/
theorem rim_hasDerivAt_curve (reg : ℝ) (X : Fin n → Fin d → ℝ)
    {Wc : ℝ → Fin d → Fin K → ℝ} {E : Fin d → Fin K → ℝ} {bc : ℝ → Fin K → ℝ} {e : Fin K → ℝ} {t₀ : ℝ}
    (hW : ∀ j k, HasDerivAt (fun t => Wc t j k) (E j k) t₀)
    (hb : ∀ k, HasDerivAt (fun t => bc t k) (e k) t₀) (g : Fin n → Fin K → ℝ) :
    HasDerivAt (fun t => (∑ i, ∑ k, g i k * linearInfer X (Wc t) (bc t) i k) - reg * ∑ j, ∑ k, Wc t j k ^ 2)
      (∑ j, ∑ k, -(rimGradW reg X (Wc t₀) (linearInfer X (Wc t₀) (bc t₀)) g j k) * E j k
        + ∑ k, -(linearGradB (linearInfer X (Wc t₀) (bc t₀)) g k) * e k) t₀ := by
  simp only [rimGradW_apply, mul_assoc reg]
  exact hasDerivAt_sub_penalty (linear_hasDerivAt_curve X hW hb g) (hasDerivAt_sq_penalty hW) reg

/-- KernelRIM: the direction is minus the gradient of `⟨g, infer⟩ - reg * tr(Wᵀ κ W)` (symmetric `κ`), whatever
    rows `Xb` of the kernel form the batch. -/
theorem kernelRim_hasDerivAt_curve (reg : ℝ) (κ : Fin n → Fin n → ℝ) (hκ : ∀ j l, κ j l = κ l j)
    (Xb : Fin m → Fin n → ℝ)
    {Wc : ℝ → Fin n → Fin K → ℝ} {E : Fin n → Fin K → ℝ} {bc : ℝ → Fin K → ℝ} {e : Fin K → ℝ} {t₀ : ℝ}
    (hW : ∀ j k, HasDerivAt (fun t => Wc t j k) (E j k) t₀)
    (hb : ∀ k, HasDerivAt (fun t => bc t k) (e k) t₀) (g : Fin m → Fin K → ℝ) :
    HasDerivAt (fun t => (∑ i, ∑ k, g i k * linearInfer Xb (Wc t) (bc t) i k)
        - reg * ∑ k, ∑ j, ∑ l, Wc t j k * κ j l * Wc t l k)
      (∑ j, ∑ k, -(kernelRimGradW reg κ Xb (Wc t₀) (linearInfer Xb (Wc t₀) (bc t₀)) g j k) * E j k
        + ∑ k, -(linearGradB (linearInfer Xb (Wc t₀) (bc t₀)) g k) * e k) t₀ := by
  simp only [kernelRimGradW_apply, mul_comm 2 reg, mul_assoc reg]
  exact hasDerivAt_sub_penalty (linear_hasDerivAt_curve Xb hW hb g) (hasDerivAt_kernel_penalty κ hκ hW) reg

/-- Output layer of the (sparse) MLP fed by an arbitrary differentiable hidden curve `Hc`. -/
theorem sparse_output_hasDerivAt_curve (X : Fin n → Fin d → ℝ)
    {Hc : ℝ → Fin n → Fin h → ℝ} {H' : Fin n → Fin h → ℝ}
    {W2c : ℝ → Fin h → Fin K → ℝ} {E2 : Fin h → Fin K → ℝ} {b2c : ℝ → Fin K → ℝ} {e2 : Fin K → ℝ}
    {Wsc : ℝ → Fin d → Fin K → ℝ} {Es : Fin d → Fin K → ℝ} {t₀ : ℝ}
    (hH : ∀ i j, HasDerivAt (fun t => Hc t i j) (H' i j) t₀)
    (hW2 : ∀ j k, HasDerivAt (fun t => W2c t j k) (E2 j k) t₀)
    (hb2 : ∀ k, HasDerivAt (fun t => b2c t k) (e2 k) t₀)
    (hWs : ∀ a k, HasDerivAt (fun t => Wsc t a k) (Es a k) t₀)
    (g : Fin n → Fin K → ℝ) {y : Fin n → Fin K → ℝ}
    (hy : y = fun i => softmaxRow fun k => affine (Hc t₀) (W2c t₀) (b2c t₀) i k + ∑ a, X i a * Wsc t₀ a k) :
    HasDerivAt
      (fun t => ∑ i, ∑ k, g i k *
        softmaxRow (fun k => affine (Hc t) (W2c t) (b2c t) i k + ∑ a, X i a * Wsc t a k) k)
      (∑ i, ∑ j, (∑ k, tauHat y g i k * W2c t₀ j k) * H' i j
        + ∑ j, ∑ k, (∑ i, Hc t₀ i j * tauHat y g i k) * E2 j k
        + ∑ k, (∑ i, tauHat y g i k) * e2 k
        + ∑ a, ∑ k, (∑ i, X i a * tauHat y g i k) * Es a k) t₀ := by
  have hZ : ∀ i k, HasDerivAt (fun t => affine (Hc t) (W2c t) (b2c t) i k + ∑ a, X i a * Wsc t a k)
      (∑ j, (H' i j * W2c t₀ j k + Hc t₀ i j * E2 j k) + e2 k + ∑ a, X i a * Es a k) t₀ := fun i k =>
    (hasDerivAt_affine hH hW2 hb2 i k).fun_add (HasDerivAt.fun_sum fun a _ => (hWs a k).const_mul (X i a))
  subst hy
  refine (hasDerivAt_softmax_rows (Z := fun t i k => affine (Hc t) (W2c t) (b2c t) i k + ∑ a, X i a * Wsc t a k)
    hZ g).congr_deriv ?_
  generalize tauHat _ g = τ
  simp only [Finset.sum_add_distrib, mul_add]
  rw [pull_H τ H' (W2c t₀), pull_W τ (Hc t₀) E2, pull_b, pull_W τ X Es]

theorem pull_hidden (S M : Fin n → Fin h → ℝ) (X : Fin n → Fin d → ℝ) (E1 : Fin d → Fin h → ℝ) (e1 : Fin h → ℝ) :
    ∑ i, ∑ j, S i j * (M i j * (∑ a, X i a * E1 a j + e1 j))
      = ∑ a, ∑ j, (∑ i, X i a * (S i j * M i j)) * E1 a j + ∑ j, (∑ i, S i j * M i j) * e1 j := by
  have h1 := pull_W (fun i j => S i j * M i j) X E1
  have h2 := pull_b (fun i j => S i j * M i j) e1
  rw [← h1, ← h2, ← Finset.sum_add_distrib]
  refine Finset.sum_congr rfl fun i _ => ?_
  rw [← Finset.sum_add_distrib]
  exact Finset.sum_congr rfl fun j _ => by ring

/-- SparseMLPModel, output-side parameters (`W2, b2, W_skip`): no differentiability condition is needed. -/
theorem sparse_outer_hasDerivAt_curve (X : Fin n → Fin d → ℝ) (W1 : Fin d → Fin h → ℝ) (b1 : Fin h → ℝ)
    {W2c : ℝ → Fin h → Fin K → ℝ} {E2 : Fin h → Fin K → ℝ} {b2c : ℝ → Fin K → ℝ} {e2 : Fin K → ℝ}
    {Wsc : ℝ → Fin d → Fin K → ℝ} {Es : Fin d → Fin K → ℝ} {t₀ : ℝ}
    (hW2 : ∀ j k, HasDerivAt (fun t => W2c t j k) (E2 j k) t₀)
    (hb2 : ∀ k, HasDerivAt (fun t => b2c t k) (e2 k) t₀)
    (hWs : ∀ a k, HasDerivAt (fun t => Wsc t a k) (Es a k) t₀) (g : Fin n → Fin K → ℝ)
    {y : Fin n → Fin K → ℝ} (hy : y = sparseMlpInfer X W1 b1 (W2c t₀) (b2c t₀) (Wsc t₀)) :
    HasDerivAt (fun t => ∑ i, ∑ k, g i k * sparseMlpInfer X W1 b1 (W2c t) (b2c t) (Wsc t) i k)
      (∑ j, ∑ k, -((mlpGrads X (hidden X W1 b1) (W2c t₀) y g).W2 j k) * E2 j k
        + ∑ k, -((mlpGrads X (hidden X W1 b1) (W2c t₀) y g).b2 k) * e2 k
        + ∑ a, ∑ k, -((mlpGrads X (hidden X W1 b1) (W2c t₀) y g).Ws a k) * Es a k) t₀ := by
  simp only [sparseMlpInfer_row X W1 b1]
  have h := sparse_output_hasDerivAt_curve X (Hc := fun _ => hidden X W1 b1) (H' := fun _ _ => 0)
    (fun i j => hasDerivAt_const t₀ _) hW2 hb2 hWs g (hy.trans (funext (sparseMlpInfer_row X W1 b1 _ _ _)))
  refine h.congr_deriv ?_
  simp only [mlpGrads_eq, neg_neg, mul_zero, Finset.sum_const_zero, zero_add]

/-- SparseMLPModel, all five parameters at once, at a point where no pre-activation is 0. -/
theorem sparse_hasDerivAt_curve (X : Fin n → Fin d → ℝ)
    {W1c : ℝ → Fin d → Fin h → ℝ} {E1 : Fin d → Fin h → ℝ} {b1c : ℝ → Fin h → ℝ} {e1 : Fin h → ℝ}
    {W2c : ℝ → Fin h → Fin K → ℝ} {E2 : Fin h → Fin K → ℝ} {b2c : ℝ → Fin K → ℝ} {e2 : Fin K → ℝ}
    {Wsc : ℝ → Fin d → Fin K → ℝ} {Es : Fin d → Fin K → ℝ} {t₀ : ℝ}
    (hW1 : ∀ a j, HasDerivAt (fun t => W1c t a j) (E1 a j) t₀)
    (hb1 : ∀ j, HasDerivAt (fun t => b1c t j) (e1 j) t₀)
    (hW2 : ∀ j k, HasDerivAt (fun t => W2c t j k) (E2 j k) t₀)
    (hb2 : ∀ k, HasDerivAt (fun t => b2c t k) (e2 k) t₀)
    (hWs : ∀ a k, HasDerivAt (fun t => Wsc t a k) (Es a k) t₀)
    (hact : ∀ i j, affine X (W1c t₀) (b1c t₀) i j ≠ 0) (g : Fin n → Fin K → ℝ)
    {H : Fin n → Fin h → ℝ} (hH : H = hidden X (W1c t₀) (b1c t₀))
    {y : Fin n → Fin K → ℝ} (hy : y = sparseMlpInfer X (W1c t₀) (b1c t₀) (W2c t₀) (b2c t₀) (Wsc t₀)) :
    HasDerivAt (fun t => ∑ i, ∑ k, g i k * sparseMlpInfer X (W1c t) (b1c t) (W2c t) (b2c t) (Wsc t) i k)
      (∑ a, ∑ j, -((mlpGrads X H (W2c t₀) y g).W1 a j) * E1 a j
        + ∑ j, -((mlpGrads X H (W2c t₀) y g).b1 j) * e1 j
        + ∑ j, ∑ k, -((mlpGrads X H (W2c t₀) y g).W2 j k) * E2 j k
        + ∑ k, -((mlpGrads X H (W2c t₀) y g).b2 k) * e2 k
        + ∑ a, ∑ k, -((mlpGrads X H (W2c t₀) y g).Ws a k) * Es a k) t₀ := by
  subst hH
  simp only [sparseMlpInfer_row X]
  have h := sparse_output_hasDerivAt_curve X (Hc := fun t => hidden X (W1c t) (b1c t))
    (fun i j => hasDerivAt_relu (hasDerivAt_affine_const X hW1 hb1 i j) (hact i j)) hW2 hb2 hWs g
    (hy.trans (funext (sparseMlpInfer_row X _ _ _ _ _)))
  refine h.congr_deriv ?_
  simp only [mlpGrads_eq, neg_neg, pull_hidden]
  -- `hidden X W1 b1 i j` is `max (affine X W1 b1 i j) 0` by definition
  rfl

/-- `W` with the single entry `(a, c)` moved by `t` -/
def bump2 {r s : ℕ} (W : Fin r → Fin s → ℝ) (a : Fin r) (c : Fin s) (t : ℝ) : Fin r → Fin s → ℝ :=
  Function.update W a (Function.update (W a) c (W a c + t))

/-- `b` with the single entry `c` moved by `t` -/
def bump1 {s : ℕ} (b : Fin s → ℝ) (c : Fin s) (t : ℝ) : Fin s → ℝ :=
  Function.update b c (b c + t)

theorem bump2_apply {r s : ℕ} (W : Fin r → Fin s → ℝ) (a : Fin r) (c : Fin s) (t : ℝ) (j : Fin r) (k : Fin s) :
    bump2 W a c t j k = W j k + t * (if j = a ∧ k = c then 1 else 0) := by
  unfold bump2
  by_cases hj : j = a
  · subst hj
    by_cases hk : k = c
    · subst hk; simp
    · simp [hk]
  · simp [hj]

theorem bump1_apply {s : ℕ} (b : Fin s → ℝ) (c : Fin s) (t : ℝ) (k : Fin s) :
    bump1 b c t k = b k + t * (if k = c then 1 else 0) := by
  unfold bump1
  by_cases hk : k = c
  · subst hk; simp
  · simp [hk]

/-! The logistic function and the two-class pairing: the ingredients of the counterexample
`Props.C03.mlp_W1_entry_needs_hact` (the condition on the pre-activations cannot be dropped) and of the tie example of
Lemmas/DouglasGrad.lean. -/

theorem hasDerivAt_logistic (s : ℝ) :
    HasDerivAt (fun s : ℝ => Real.exp s / (Real.exp s + 1)) (Real.exp s / (Real.exp s + 1) ^ 2) s := by
  have hpos : 0 < Real.exp s + 1 := add_pos (Real.exp_pos s) one_pos
  refine ((Real.hasDerivAt_exp s).fun_div ((Real.hasDerivAt_exp s).add_const 1) hpos.ne').congr_deriv ?_
  rw [mul_add, mul_one, add_sub_cancel_left]

theorem pairing_fst_of_two (u : Fin 2 → ℝ) :
    ∑ k : Fin 2, (if k = 0 then (1 : ℝ) else 0) * softmaxRow u k
      = Real.exp (u 0) / (Real.exp (u 0) + Real.exp (u 1)) := by
  rw [Fin.sum_univ_two, if_pos rfl, if_neg (by decide), one_mul, zero_mul, add_zero, softmaxRow_eq, Fin.sum_univ_two]

end GemVerif
