/-
  For Props/C01WassGen.lean: what the NumPy expressions of the common first lines of `WassersteinGEMINI.evaluate`
  (Gen/Wass.lean) are, and loop invariants: what the state of its Python loops is after a given number of iterations, in
  terms of the solver results `E` the hand model of Model/Gemini.lean speaks about.  Generic in `[RealLike α]`, the
  one-vs-one gradient up to a property of `grads` that its loops maintain (`PairInv`); over ℝ that property is `GVals`:
  the source, accumulating pair by pair, ends with the sums the model takes cluster by cluster.
  The one-vs-all list of logs is served in both spellings: `…_set` for `L = [None] * K; L[k] = log` (the present source),
  `…_append` and the `LogOf α (Arr α)` instance for `L = []; L.append(…)` (harmless/h02.diff, harmless/batch2/h02.diff;
  DESIGN.md §21), which the text generated from the present source does not use.
-/
import GemVerif.Lemmas.Np4
import GemVerif.Lemmas.WassForms

set_option linter.unusedSectionVars false

namespace GemVerif.Lemmas.WassGen
open GemVerif.RealLike GemVerif.Np GemVerif.Np.Arr GemVerif.Model

section generic
variable {α : Type} [RealLike α] {n K : Nat}

/-! the common first lines: `y_pred = np.clip(y_pred, eps, 1 - eps)`, `pi = y_pred.mean(0)`, `wy = (y_pred / (pi.reshape((1, -1)) * N)).T` -/

theorem isMat_wy {y pi : Arr α} {f : Fin n → Fin K → α} (hy : IsMat y f) (hpi : IsRow pi (mean0 f)) :
    IsMat (transpose (div y (muls (reshapeRow pi) (nat n)))) (fun k i => f i k / (tab (mean0 f) k * nat n)) := by
  simp only [IsMat, np, hy.rules, hpi.rules]

/-- The three NumPy expressions of the common first lines of `WassersteinGEMINI.evaluate`, with names: `y1` is the clipped
    predictions, `pi` their column means, `wy` the weight vectors of the model.  Rewriting a goal with the three equations
    (in one `simp only`: each pass walks the whole unfolded definition) names the expressions wherever they occur, whatever
    temporaries the source uses for them. -/
theorem wass_prefix_named (ε : α) (P : Fin n → Fin K → α) :
    ∃ y1 pi wy : Arr α, Arr.clip (ofFn P) ε (1 - ε) = y1 ∧ meanAxis0 y1 = pi ∧
      transpose (div y1 (muls (reshapeRow pi) (nat n))) = wy ∧
      IsMat y1 (clipP ε P) ∧ IsRow pi (mean0 (clipP ε P)) ∧ IsMat wy (wassWeights ε P) :=
  have hy : IsMat (Arr.clip (ofFn P) ε (1 - ε)) (clipP ε P) := (isMat_ofFn P).clip ε (1 - ε)
  ⟨_, _, _, rfl, rfl, rfl, hy, hy.meanAxis0, isMat_wy hy hy.meanAxis0⟩

/-- one-vs-all: the first lines, the uniform weights `np.ones(N) / N` (`cw`), and what the call of iteration `k` returns:
    the result `E k` of the model's solver on the cost matrix, `wy[k]` and the uniform weights -/
theorem wass_ova_named (emd : (Fin n → Fin n → α) → (Fin n → α) → (Fin n → α) → Emd α n) (ε : α)
    (P : Fin n → Fin K → α) (κ : Fin n → Fin n → α) :
    ∃ (y1 pi wy cw : Arr α) (E : Fin K → Emd α n), Arr.clip (ofFn P) ε (1 - ε) = y1 ∧ meanAxis0 y1 = pi ∧
      transpose (div y1 (muls (reshapeRow pi) (nat n))) = wy ∧ divs (full 1 n (1 : α)) (nat n) = cw ∧
      IsMat y1 (clipP ε P) ∧ IsRow pi (mean0 (clipP ε P)) ∧ wy.ok = true ∧ cw.ok = true ∧
      (E = fun k => emd κ (wassWeights ε P k) fun _ => 1 / nat n) ∧
      ∀ k : Fin K, EmdR.ofModel emd (row wy k.val) cw (ofFn κ) = EmdR.ofEmd (E k) := by
  obtain ⟨y1, pi, wy, e1, e2, e3, hy, hpi, hwy⟩ := wass_prefix_named ε P
  have hcw : IsRow (divs (full 1 n (1 : α)) (nat n)) (fun _ : Fin n => (1 : α) / nat n) := by
    simp only [IsRow, np]
  exact ⟨y1, pi, wy, _, _, e1, e2, e3, rfl, hy, hpi, hwy.ok, hcw.ok, rfl,
    fun k => EmdR.ofModel_eq emd (hwy.row k) hcw (isMat_ofFn κ)⟩

/-- one-vs-one: the first lines, and what the call for the pair `(a, b)` returns: the result `E a b` of the model's
    solver on the cost matrix, `wy[a]` and `wy[b]` -/
theorem wass_ovo_named (emd : (Fin n → Fin n → α) → (Fin n → α) → (Fin n → α) → Emd α n) (ε : α)
    (P : Fin n → Fin K → α) (κ : Fin n → Fin n → α) :
    ∃ (y1 pi wy : Arr α) (E : Fin K → Fin K → Emd α n), Arr.clip (ofFn P) ε (1 - ε) = y1 ∧ meanAxis0 y1 = pi ∧
      transpose (div y1 (muls (reshapeRow pi) (nat n))) = wy ∧
      IsMat y1 (clipP ε P) ∧ IsRow pi (mean0 (clipP ε P)) ∧ wy.ok = true ∧
      (E = fun a b => emd κ (wassWeights ε P a) (wassWeights ε P b)) ∧
      ∀ a b : Fin K, EmdR.ofModel emd (row wy a.val) (row wy b.val) (ofFn κ) = EmdR.ofEmd (E a b) := by
  obtain ⟨y1, pi, wy, e1, e2, e3, hy, hpi, hwy⟩ := wass_prefix_named ε P
  exact ⟨y1, pi, wy, _, e1, e2, e3, hy, hpi, hwy.ok, rfl,
    fun a b => EmdR.ofModel_eq emd (hwy.row a) (hwy.row b) (isMat_ofFn κ)⟩

/-! one-vs-all: `for k in range(K): wasserstein_distances[k], dual_variables[k] = ot.emd2(wy[k], 1/N, affinity, log=True)` -/

/-- What the Python list the loop fills may hold for one call: the dictionary `log` itself (`List (EmdR α)`), or its entry
    `log["u"]` (`List (Arr α)`). -/
class LogOf (α : Type) (β : Type) where
  rel : {n : Nat} → β → Emd α n → Prop

instance : LogOf α (EmdR α) := ⟨fun x E => x = EmdR.ofEmd E⟩
instance : LogOf α (Arr α) := ⟨fun x E => x = Arr.ofRow E.u⟩

/-- The state `(ok, wasserstein_distances, dual_variables)` after `k` iterations: no error so far, the first `k` distances
    and list entries are those of the calls `E 0 … E (k-1)`; `len k` is the length of the list at that point (`K` all along
    when the list is pre-allocated with `[None] * K`, `k` when it grows by `append`). -/
structure OvaInv {β : Type} [LogOf α β] (E : Fin K → Emd α n) (len : Nat → Nat) (k : Nat) (st : Bool × Arr α × List β) : Prop where
  ok : st.1 = true
  wd_ok : st.2.1.ok = true
  wd_r : st.2.1.r = 1
  wd_c : st.2.1.c = K
  wd_get : ∀ j : Fin K, j.val < k → st.2.1.get 0 j.val = (E j).value
  len_eq : st.2.2.length = len k
  logs : ∀ j : Fin K, j.val < k → ∃ x, st.2.2[j.val]? = some x ∧ LogOf.rel x (E j)

theorem OvaInv.init_set (E : Fin K → Emd α n) {c : Nat} (hc : c = K) :
    OvaInv E (fun _ => K) 0 (true, zeros 1 c, List.replicate c (EmdR.none : EmdR α)) := by
  subst hc
  exact ⟨rfl, rfl, rfl, rfl, fun j hj => absurd hj (Nat.not_lt_zero _), by simp, fun j hj => absurd hj (Nat.not_lt_zero _)⟩

theorem OvaInv.init_append {β : Type} [LogOf α β] (E : Fin K → Emd α n) {c : Nat} (hc : c = K) :
    OvaInv E id 0 (true, zeros 1 c, ([] : List β)) := by
  subst hc
  exact ⟨rfl, rfl, rfl, rfl, fun j hj => absurd hj (Nat.not_lt_zero _), rfl, fun j hj => absurd hj (Nat.not_lt_zero _)⟩

private theorem wd_step {E : Fin K → Emd α n} {k : Nat} {wd : Arr α} (hk : k < K)
    (h : ∀ j : Fin K, j.val < k → wd.get 0 j.val = (E j).value) (j : Fin K) (hj : j.val < k + 1) :
    (setAt1 wd k (E ⟨k, hk⟩).value).get 0 j.val = (E j).value := by
  by_cases hjk : j.val = k
  · subst hjk; simp
  · simp only [np, hjk, h j (Nat.lt_of_le_of_ne (Nat.le_of_lt_succ hj) hjk)]

/-- one iteration, the list being pre-allocated: `L[k] = log` -/
theorem OvaInv.step_set {E : Fin K → Emd α n} {k : Nat} {st : Bool × Arr α × List (EmdR α)}
    (h : OvaInv E (fun _ => K) k st) (hk : k < K) {b : Bool} (hb : b = true) :
    OvaInv E (fun _ => K) (k + 1)
      (b, setAt1 st.2.1 k (E ⟨k, hk⟩).value, EmdR.setNth st.2.2 k (EmdR.ofEmd (E ⟨k, hk⟩))) := by
  have hlen : k < st.2.2.length := by rw [h.len_eq]; exact hk
  refine ⟨hb, by simp only [np, h.wd_ok, h.wd_r, h.wd_c, hk], h.wd_r, h.wd_c, wd_step hk h.wd_get, ?_, fun j hj => ?_⟩
  · show (EmdR.setNth st.2.2 k _).length = K
    rw [EmdR.setNth_length _ hlen]; exact h.len_eq
  · -- the entry read is `EmdR.setNth_getD`: the new log at `k`, the old entry elsewhere
    have hj' : j.val < (EmdR.setNth st.2.2 k (EmdR.ofEmd (E ⟨k, hk⟩))).length := by
      rw [EmdR.setNth_length _ hlen, h.len_eq]; exact j.isLt
    refine ⟨_, List.getElem?_eq_getElem hj', ?_⟩
    show _ = EmdR.ofEmd (E j)
    rw [← List.getD_eq_getElem _ EmdR.none hj', EmdR.setNth_getD _ hlen]
    split_ifs with hjk
    · rw [(Fin.ext hjk : j = ⟨k, hk⟩)]
    · obtain ⟨x, hx, hrel⟩ := h.logs j (Nat.lt_of_le_of_ne (Nat.le_of_lt_succ hj) hjk)
      rw [List.getD_eq_getElem?_getD, hx]
      exact hrel

/-- one iteration, the list growing: `L.append(x)`, `x` being the log of the call or its entry `"u"` -/
theorem OvaInv.step_append {β : Type} [LogOf α β] {E : Fin K → Emd α n} {k : Nat} {st : Bool × Arr α × List β}
    (h : OvaInv E id k st) (hk : k < K) {b : Bool} (hb : b = true) {x : β} (hx : LogOf.rel x (E ⟨k, hk⟩)) :
    OvaInv E id (k + 1) (b, setAt1 st.2.1 k (E ⟨k, hk⟩).value, st.2.2 ++ [x]) := by
  have hlen : st.2.2.length = k := h.len_eq
  refine ⟨hb, by simp only [np, h.wd_ok, h.wd_r, h.wd_c, hk], h.wd_r, h.wd_c, wd_step hk h.wd_get, ?_, fun j hj => ?_⟩
  · show (st.2.2 ++ [_]).length = k + 1
    rw [List.length_append, hlen]
    rfl
  · show ∃ y, (st.2.2 ++ [x])[j.val]? = some y ∧ _
    by_cases hjk : j.val = k
    · have : j = ⟨k, hk⟩ := Fin.ext hjk
      subst this
      refine ⟨x, ?_, hx⟩
      show (st.2.2 ++ [x])[k]? = some x
      rw [← hlen]
      exact List.getElem?_concat_length
    · have hj' : j.val < k := Nat.lt_of_le_of_ne (Nat.le_of_lt_succ hj) hjk
      rw [List.getElem?_append_left (hlen ▸ hj')]
      exact h.logs j hj'

theorem OvaInv.final {β : Type} [LogOf α β] {E : Fin K → Emd α n} {len : Nat → Nat} {st : Bool × Arr α × List β}
    (h : OvaInv E len K st) (hlen : len K = K) :
    st.1 = true ∧ IsRow st.2.1 (fun k : Fin K => (E k).value) ∧ st.2.2.length = K ∧
      ∀ j : Fin K, ∃ x, st.2.2[j.val]? = some x ∧ LogOf.rel x (E j) :=
  ⟨h.ok, ⟨h.wd_ok, h.wd_r, h.wd_c, fun j => h.wd_get j j.isLt⟩, h.len_eq.trans hlen, fun j => h.logs j j.isLt⟩

/-! one-vs-one: `for k1 in range(K): for k2 in range(k1 + 1, K):` -/

/-- the pair `a < b` has been processed when the loops are about to process `(k1, k2)` (lexicographic order); `(k1, 0)`
    stands for the outer loop at `k1` before its inner loop starts at `k1 + 1`, `(K, 0)` for the end -/
abbrev pairDone (k1 k2 a b : Nat) : Prop := a < b ∧ (a < k1 ∨ (a = k1 ∧ b < k2))

theorem pairDone_succ {k1 k2 : Nat} (h12 : k1 < k2) (a b : Nat) :
    pairDone k1 (k2 + 1) a b ↔ pairDone k1 k2 a b ∨ (a = k1 ∧ b = k2) := by
  simp only [pairDone, Nat.lt_succ_iff_lt_or_eq]
  constructor
  · rintro ⟨hab, h | ⟨rfl, h | rfl⟩⟩
    · exact Or.inl ⟨hab, Or.inl h⟩
    · exact Or.inl ⟨hab, Or.inr ⟨rfl, h⟩⟩
    · exact Or.inr ⟨rfl, rfl⟩
  · rintro (⟨hab, h | ⟨rfl, h⟩⟩ | ⟨rfl, rfl⟩)
    · exact ⟨hab, Or.inl h⟩
    · exact ⟨hab, Or.inr ⟨rfl, Or.inl h⟩⟩
    · exact ⟨h12, Or.inr ⟨rfl, Or.inr rfl⟩⟩

theorem not_pairDone_self {k1 k2 : Nat} (h12 : k1 < k2) : ¬ (pairDone k1 k2 k2 k1 ∨ pairDone k1 k2 k1 k2) := by
  rintro (h | h)
  · exact absurd h.1 (not_lt.mpr h12.le)
  · exact h.2.elim (lt_irrefl _) fun h => lt_irrefl _ h.2

/-- the clusters paired with `k` once `(k1, k2)` has been processed too: `k2` joins those of `k1`, `k1` those of `k2` -/
theorem paired_succ {k1 k2 : Nat} (h12 : k1 < k2) (k o : Nat) :
    (pairDone k1 (k2 + 1) k o ∨ pairDone k1 (k2 + 1) o k) ↔
      (pairDone k1 k2 k o ∨ pairDone k1 k2 o k) ∨ (k = k1 ∧ o = k2) ∨ (k = k2 ∧ o = k1) := by
  rw [pairDone_succ h12, pairDone_succ h12, or_or_or_comm, and_comm (a := o = k1)]

theorem pairDone_enter (k1 a b : Nat) : pairDone k1 0 a b ↔ pairDone k1 (k1 + 1) a b := by
  unfold pairDone; omega

theorem pairDone_leave {K : Nat} (k1 a : Nat) {b : Nat} (hb : b < K) : pairDone k1 K a b ↔ pairDone (k1 + 1) 0 a b := by
  unfold pairDone; omega

theorem not_pairDone_zero (a b : Nat) : ¬ pairDone 0 0 a b :=
  fun h => h.2.elim (Nat.not_lt_zero a) fun h => Nat.not_lt_zero b h.2

theorem pairDone_final {K a : Nat} (b : Nat) (ha : a < K) : pairDone K 0 a b ↔ a < b :=
  ⟨And.left, fun h => ⟨h, Or.inl ha⟩⟩

/-- `wasserstein_distances` when the loops are about to process `(k1, k2)`: symmetric, filled for the processed pairs -/
abbrev InvW (E : Fin K → Fin K → Emd α n) (k1 k2 : Nat) (W : Arr α) : Prop :=
  IsMat W fun a b : Fin K =>
    if pairDone k1 k2 a.val b.val then (E a b).value else if pairDone k1 k2 b.val a.val then (E b a).value else 0

theorem InvW.init (E : Fin K → Fin K → Emd α n) : InvW E 0 0 (zeros K K) :=
  ⟨rfl, rfl, rfl, fun a b => by simp only [if_neg (not_pairDone_zero _ _)]; rfl⟩

theorem InvW.congr {E : Fin K → Fin K → Emd α n} {k1 k2 l1 l2 : Nat} {W : Arr α} (h : InvW E k1 k2 W)
    (hd : ∀ a b : Nat, a < K → b < K → (pairDone k1 k2 a b ↔ pairDone l1 l2 a b)) : InvW E l1 l2 W := by
  refine ⟨h.ok, h.r, h.c, fun a b => ?_⟩
  rw [h.get a b]
  simp only [hd a.val b.val a.isLt b.isLt, hd b.val a.val b.isLt a.isLt]

theorem InvW.enter {E : Fin K → Fin K → Emd α n} {k1 : Nat} {W : Arr α} (h : InvW E k1 0 W) : InvW E k1 (k1 + 1) W :=
  h.congr fun a b _ _ => pairDone_enter k1 a b

theorem InvW.leave {E : Fin K → Fin K → Emd α n} {k1 : Nat} {W : Arr α} (h : InvW E k1 K W) : InvW E (k1 + 1) 0 W :=
  h.congr fun a _ _ hb => pairDone_leave k1 a hb

/-- one iteration of the inner loop: `W[k1, k2] = emd; W[k2, k1] = emd` -/
theorem InvW.step {E : Fin K → Fin K → Emd α n} {k1 k2 : Nat} {W : Arr α} (h : InvW E k1 k2 W) (h12 : k1 < k2) (hk2 : k2 < K) :
    InvW E k1 (k2 + 1) (setAt2 (setAt2 W k1 k2 (E ⟨k1, h12.trans hk2⟩ ⟨k2, hk2⟩).value) k2 k1 (E ⟨k1, h12.trans hk2⟩ ⟨k2, hk2⟩).value) := by
  obtain ⟨h1, h2, h3, h4⟩ := h
  have hk1 : k1 < K := h12.trans hk2
  refine ⟨by simp only [np, h1, h2, h3, hk2, hk1], h2, h3, fun a b => ?_⟩
  simp only [setAt2_get, h4 a b, pairDone_succ h12]
  by_cases hab : a.val = k1 ∧ b.val = k2
  · rw [if_neg fun h => h12.ne (hab.1.symm.trans h.1), if_pos hab, if_pos (Or.inr hab),
      (Fin.ext hab.1 : a = ⟨k1, hk1⟩), (Fin.ext hab.2 : b = ⟨k2, hk2⟩)]
  · by_cases hba : a.val = k2 ∧ b.val = k1
    · have hn : ¬ (pairDone k1 k2 a.val b.val ∨ a.val = k1 ∧ b.val = k2) := by
        rw [hba.1, hba.2]
        exact fun h => h.elim (fun h => not_pairDone_self h12 (Or.inl h)) fun h => h12.ne' h.1
      rw [if_pos hba, if_neg hn, if_pos (Or.inr ⟨hba.2, hba.1⟩),
        (Fin.ext hba.1 : a = ⟨k2, hk2⟩), (Fin.ext hba.2 : b = ⟨k1, hk1⟩)]
    · have hba' : ¬ (b.val = k1 ∧ a.val = k2) := fun h => hba ⟨h.2, h.1⟩
      simp only [hab, hba, hba', or_false, if_false]

/-- the matrix `w` of the model (`wassScoreT`, `wassGradT`) -/
theorem InvW.final {E : Fin K → Fin K → Emd α n} {W : Arr α} (h : InvW E K 0 W) :
    IsMat W (fun a b : Fin K => if a.val < b.val then (E a b).value else if b.val < a.val then (E b a).value else 0) := by
  refine ⟨h.ok, h.r, h.c, fun a b => ?_⟩
  rw [h.get a b]
  simp only [pairDone_final _ a.isLt, pairDone_final _ b.isLt]

/-- what the pair `{k, o}` adds to `grads[i, k]`:
    `2 * pi[o] * (pot / N - (pot * y_pred[:, k] / (N * N * pi[k])).sum())`, `pot` being the centred potential that column
    `k` receives from the pair, spelled as in `wassGradT` -/
def wassTerm (E : Fin K → Fin K → Emd α n) (pi : Fin K → α) (y : Fin n → Fin K → α) (k o : Fin K) (i : Fin n) : α :=
  let pot : Fin n → α :=
    if k.val < o.val then fun i => (E k o).u i - meanV (E k o).u else fun i => (E o k).v i - meanV (E o k).v
  nat 2 * pi o * (pot i / nat n - sumFin fun j => pot j * y j k / (nat n * nat n * pi k))

/-- `J k1 k2 G` is a property of `grads` that the loops maintain, `(k1, k2)` being the pair they are about to process:
    an iteration adds `T k1 k2` to column `k1` and `T k2 k1` to column `k2`.  (In a number type without laws nothing
    better than `True` is on offer; over ℝ, `GVals`.) -/
structure PairInv (T : Fin K → Fin K → Fin n → α) (J : Nat → Nat → Arr α → Prop) : Prop where
  init : ∀ r c : Nat, J 0 0 (zeros r c)
  enter : ∀ {k1 : Nat} {G : Arr α}, J k1 0 G → J k1 (k1 + 1) G
  leave : ∀ {k1 : Nat} {G : Arr α}, J k1 K G → J (k1 + 1) 0 G
  step : ∀ {k1 k2 : Nat} {G G' : Arr α}, J k1 k2 G → ∀ (h12 : k1 < k2) (hk2 : k2 < K),
    (∀ (i : Fin n) (k : Fin K), G'.get i.val k.val =
      if k.val = k2 then G.get i.val k2 + T ⟨k2, hk2⟩ ⟨k1, h12.trans hk2⟩ i
      else if k.val = k1 then G.get i.val k1 + T ⟨k1, h12.trans hk2⟩ ⟨k2, hk2⟩ i else G.get i.val k.val) → J k1 (k2 + 1) G'

theorem PairInv.trivial (T : Fin K → Fin K → Fin n → α) : PairInv T fun _ _ _ => True :=
  ⟨fun _ _ => True.intro, fun _ => True.intro, fun _ => True.intro, fun _ _ _ _ => True.intro⟩

end generic

section real
variable {n K : Nat}

/-- `grads` when the loops are about to process `(k1, k2)`: column `k` holds the terms of the processed pairs containing `k` -/
def GVals (T : Fin K → Fin K → Fin n → ℝ) (k1 k2 : Nat) (G : Arr ℝ) : Prop :=
  ∀ (i : Fin n) (k : Fin K), G.get i.val k.val =
    ∑ o : Fin K, if pairDone k1 k2 k.val o.val ∨ pairDone k1 k2 o.val k.val then T k o i else 0

theorem GVals.init (T : Fin K → Fin K → Fin n → ℝ) (r c : Nat) : GVals T 0 0 (zeros r c) := by
  intro i k
  simp only [not_pairDone_zero, or_self, if_false, Finset.sum_const_zero]
  rfl

theorem GVals.congr {T : Fin K → Fin K → Fin n → ℝ} {k1 k2 l1 l2 : Nat} {G : Arr ℝ} (h : GVals T k1 k2 G)
    (hd : ∀ a b : Nat, a < K → b < K → (pairDone k1 k2 a b ↔ pairDone l1 l2 a b)) : GVals T l1 l2 G := by
  intro i k
  rw [h i k]
  refine Finset.sum_congr rfl fun o _ => ?_
  simp only [hd k.val o.val k.isLt o.isLt, hd o.val k.val o.isLt k.isLt]

theorem GVals.enter {T : Fin K → Fin K → Fin n → ℝ} {k1 : Nat} {G : Arr ℝ} (h : GVals T k1 0 G) : GVals T k1 (k1 + 1) G :=
  h.congr fun a b _ _ => pairDone_enter k1 a b

theorem GVals.leave {T : Fin K → Fin K → Fin n → ℝ} {k1 : Nat} {G : Arr ℝ} (h : GVals T k1 K G) : GVals T (k1 + 1) 0 G :=
  h.congr fun a _ _ hb => pairDone_leave k1 a hb

theorem sum_ite_or_eq {ι : Type} [Fintype ι] [DecidableEq ι] (p : ι → Prop) [DecidablePred p] {a : ι} (ha : ¬ p a)
    (t : ι → ℝ) : ∑ o, (if p o ∨ o = a then t o else 0) = (∑ o, if p o then t o else 0) + t a := by
  have e : ∀ o, (if p o ∨ o = a then t o else 0) = (if p o then t o else 0) + if o = a then t o else 0 := fun o => by
    by_cases h : o = a
    · subst h
      rw [if_pos (Or.inr rfl), if_neg ha, if_pos rfl, zero_add]
    · simp only [h, or_false, if_false, add_zero]
  simp only [e, Finset.sum_add_distrib, Finset.sum_ite_eq', Finset.mem_univ, if_true]

/-- one iteration of the inner loop: `grads[:, k1] += T k1 k2`, `grads[:, k2] += T k2 k1` -/
theorem GVals.step {T : Fin K → Fin K → Fin n → ℝ} {k1 k2 : Nat} {G G' : Arr ℝ} (h : GVals T k1 k2 G)
    (h12 : k1 < k2) (hk2 : k2 < K)
    (hG' : ∀ (i : Fin n) (k : Fin K), G'.get i.val k.val =
      if k.val = k2 then G.get i.val k2 + T ⟨k2, hk2⟩ ⟨k1, h12.trans hk2⟩ i
      else if k.val = k1 then G.get i.val k1 + T ⟨k1, h12.trans hk2⟩ ⟨k2, hk2⟩ i else G.get i.val k.val) :
    GVals T k1 (k2 + 1) G' := by
  have hk1 : k1 < K := h12.trans hk2
  intro i k
  rw [hG' i k]
  simp only [paired_succ h12]
  -- column `k2` gets the term of `o = k1`, column `k1` the term of `o = k2`, the others nothing
  by_cases e2 : k.val = k2
  · subst e2
    rw [if_pos rfl, h i k]
    simp only [h12.ne', false_and, false_or, true_and, ← Fin.ext_iff (b := ⟨k1, hk1⟩)]
    exact (sum_ite_or_eq (fun o : Fin K => pairDone k1 k.val k.val o.val ∨ pairDone k1 k.val o.val k.val)
      (a := ⟨k1, hk1⟩) (not_pairDone_self h12) _).symm
  · by_cases e1 : k.val = k1
    · subst e1
      rw [if_neg e2, if_pos rfl, h i k]
      simp only [h12.ne, false_and, or_false, true_and, ← Fin.ext_iff (b := ⟨k2, hk2⟩)]
      exact (sum_ite_or_eq (fun o : Fin K => pairDone k.val k2 k.val o.val ∨ pairDone k.val k2 o.val k.val)
        (a := ⟨k2, hk2⟩) (fun h => not_pairDone_self h12 h.symm) _).symm
    · rw [if_neg e2, if_neg e1, h i k]
      simp only [e1, e2, false_and, or_false]

theorem GVals.final {T : Fin K → Fin K → Fin n → ℝ} {G : Arr ℝ} (h : GVals T K 0 G) (i : Fin n) (k : Fin K) :
    G.get i.val k.val = ∑ o : Fin K, if o = k then 0 else T k o i := by
  rw [h i k]
  refine Finset.sum_congr rfl fun o _ => ?_
  have e : (pairDone K 0 k.val o.val ∨ pairDone K 0 o.val k.val) ↔ ¬ o = k := by
    rw [pairDone_final _ k.isLt, pairDone_final _ o.isLt, Fin.ext_iff, ← ne_eq, ne_comm]
    exact lt_or_lt_iff_ne
  simp only [e, ite_not]

theorem GVals.pairInv (T : Fin K → Fin K → Fin n → ℝ) : PairInv T (GVals T) :=
  ⟨GVals.init T, GVals.enter, GVals.leave, GVals.step⟩

end real

end GemVerif.Lemmas.WassGen
