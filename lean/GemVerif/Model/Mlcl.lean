/-
  Executable model of `gemclus/mlcl.py`, written after the source line by line.  No Mathlib.

  * `_check_structural_constraint`, `_check_linking_constraint`  ↦  `structural`, `checkLinking`
    (the acceptor of `add_mlcl_constraint`).  Two external calls are modelled, not translated:
      - `list(set(...))`: returns SOME duplicate-free enumeration of its elements; the order CPython
        chooses is an input of the model (`uniq`); `dedup` is the first-occurrence representative;
      - `scipy.sparse.csgraph.breadth_first_order(M, s, directed=False)`: returns the nodes reachable
        from `s`; `bfsReach` computes that set (in increasing order; the code never depends on the
        order because it tests both orientations of every pair) — `Lemmas/Mlcl.lean` proves that it is
        the connected component, the harness compares it with scipy on every recorded call.
    The one place where the source before /repo commit 592eb31 (`fixed = false`) and the intended
    acceptor (`fixed = true`, the source since that commit) differ is `nodeKey`: what a BFS node (a position in `unique_indices`) is
    compared with the entries of a cannot-link pair — the position itself, or the sample index at
    that position.
  * `decorate_grads.intercept_grads`  ↦  `inject`.
-/
import GemVerif.Num

namespace GemVerif.Model.Mlcl
open GemVerif

/-- one constraint `(i, j)`: two sample indices -/
abbrev Pair := Int × Int

/-! ### `_check_structural_constraint` -/

/-- `[p[0] for p in must_link] + [p[1] for p in must_link]` -/
def endpoints (ML : List Pair) : List Int := ML.map (·.1) ++ ML.map (·.2)

/-- a canonical value of `list(set(l))`: first occurrences, in order -/
def dedup : List Int → List Int
  | [] => []
  | x :: xs => x :: (dedup xs).filter (fun y => y != x)

/-- `connection_matrix` after
    `for pair in must_link: i, j = unique_indices.index(pair[0]), unique_indices.index(pair[1]);
     connection_matrix[i, j] = connection_matrix[j, i] = 1` -/
def connMatrix (uniq : List Int) (ML : List Pair) : Nat → Nat → Bool :=
  let edges := ML.map fun p => (uniq.idxOf p.1, uniq.idxOf p.2)
  fun i j => edges.any fun e => (e.1 == i && e.2 == j) || (e.2 == i && e.1 == j)

/-- non-zero entries of an `n × n` matrix, row-major -/
def edgesOf (n : Nat) (M : Nat → Nat → Bool) : List (Nat × Nat) :=
  (List.range n).flatMap fun i => ((List.range n).filter fun j => M i j).map fun j => (i, j)

/-- a component label for every node.  (A structure, not a bare function: a definition returning a
    bare closure is eta-expanded by the compiler, which would re-evaluate `a`, `b` below at every
    call and make label look-ups exponential in the number of edges.) -/
structure Labels where
  get : Nat → Nat

/-- merge the component of `e.1` into the component of `e.2` -/
def mergeStep (lab : Labels) (e : Nat × Nat) : Labels :=
  let a := lab.get e.1
  let b := lab.get e.2
  ⟨fun v => let l := lab.get v; if l == a then b else l⟩

/-- a component label for every node of the undirected graph with adjacency matrix `M` -/
def compLabels (n : Nat) (M : Nat → Nat → Bool) : Labels :=
  (edgesOf n M).foldl mergeStep ⟨id⟩

/-- `csgraph.breadth_first_order(M, s, directed=False, return_predecessors=False)` as a set:
    the nodes `< n` connected to `s`, listed in increasing order -/
def bfsReach (n : Nat) (M : Nat → Nat → Bool) (s : Nat) : List Nat :=
  let lab := compLabels n M
  let ls := lab.get s
  (List.range n).filter fun v => lab.get v == ls

/-- `itertools.combinations(l, r=2)` -/
def pairs {β : Type} : List β → List (β × β)
  | [] => []
  | x :: xs => xs.map (fun y => (x, y)) ++ pairs xs

/-- what the BFS node `i` is compared with.  Source before /repo commit 592eb31: the node number
    itself (`i == pair_i`); since then, as intended: the sample index `unique_indices[i]`. -/
def nodeKey (fixed : Bool) (uniq : List Int) (i : Nat) : Int :=
  if fixed then uniq.getD i 0 else (i : Int)

/-- `(i == pair_i and j == pair_j) or (i == pair_j and j == pair_i)` -/
def clash (key : Nat → Int) (i j : Nat) (p : Pair) : Bool :=
  (key i == p.1 && key j == p.2) || (key i == p.2 && key j == p.1)

/-- the `while len(samples_to_explore) != 0` loop; `false` = the `ValueError` was raised.
    One iteration removes at least `samples_to_explore[0]`, so `fuel = n` iterations suffice
    (`Lemmas/Mlcl.lean`: the verdict is exact, hence the fuel never runs out). -/
def exploreLoop (key : Nat → Int) (n : Nat) (M : Nat → Nat → Bool) (CL : List Pair) :
    Nat → List Nat → Bool
  | 0, _ => true
  | _ + 1, [] => true
  | fuel + 1, s :: rest =>
    let reachable := bfsReach n M s
    let toExplore := reachable.foldl (fun l node => l.erase node) (s :: rest)
    if (pairs reachable).any (fun ij => CL.any fun p => clash key ij.1 ij.2 p) then false
    else exploreLoop key n M CL fuel toExplore

/-- `_check_structural_constraint(must_link, cannot_link)`; `true` = returns, `false` = raises
    "Triangular contradiction".  `uniq` is the value of `list(set(unique_indices))`. -/
def structural (fixed : Bool) (uniq : List Int) (ML CL : List Pair) : Bool :=
  let n := uniq.length
  let M := connMatrix uniq ML
  exploreLoop (nodeKey fixed uniq) n M CL n (List.range n)

/-! ### `_check_linking_constraint` (on inputs that pass `check_array`: lists of integer pairs) -/

inductive Verdict
  | ok
  /-- "An element is necessary in the same cluster as itself, check constraints in must-link" -/
  | selfMust
  /-- "An element cannot be in a different cluster than itself, check constraints in cannot-link" -/
  | selfCannot
  /-- "Triangular contradiction in Must-link / Cannot-link constraints" -/
  | contradiction
  deriving DecidableEq, Repr

def Verdict.token : Verdict → String
  | .ok => "ok"
  | .selfMust => "self-must"
  | .selfCannot => "self-cannot"
  | .contradiction => "contradiction"

/-- `_check_linking_constraint(must_link, cannot_link)`; an empty list is `None` -/
def checkLinking (fixed : Bool) (uniq : List Int) (ML CL : List Pair) : Verdict :=
  if ML.any (fun p => p.1 == p.2) then .selfMust
  else if CL.any (fun p => p.1 == p.2) then .selfCannot
  else if ML.length > 0 && CL.length > 0 then
    if structural fixed uniq ML CL then .ok else .contradiction
  else .ok

/-- acceptor for a given enumeration `uniq` of the must-link end points -/
def acceptsWith (fixed : Bool) (uniq : List Int) (ML CL : List Pair) : Bool :=
  checkLinking fixed uniq ML CL == .ok

/-- the source before /repo commit 592eb31: BFS positions compared with sample indices -/
def acceptsCurrent (ML CL : List Pair) : Bool := acceptsWith false (dedup (endpoints ML)) ML CL

/-- the intended acceptor: sample indices compared with sample indices -/
def acceptsFixed (ML CL : List Pair) : Bool := acceptsWith true (dedup (endpoints ML)) ML CL

/-! ### `decorate_grads` / `intercept_grads` -/

section Inject
variable {α : Type} [RealLike α] {K : Nat}

/-- rows of `y_pred` / `gradient`, addressed by their position in the batch -/
abbrev Rows (α : Type) (K : Nat) := Nat → Fin K → α

/-- `gradient[r] += d` (`sub = false`) / `gradient[r] -= d` (`sub = true`) -/
def bumpRow (sub : Bool) (g : Rows α K) (r : Nat) (d : Fin K → α) : Rows α K :=
  fun r' k => if r' == r then (if sub then g r' k - d k else g r' k + d k) else g r' k

/-- body of `for (i, j) in cannot_link:` (`sub = false`) / `in must_link:` (`sub = true`) -/
def injectPair (sub : Bool) (last : List Int) (factor : α) (y : Rows α K) (g : Rows α K)
    (p : Pair) : Rows α K :=
  if last.contains p.1 && last.contains p.2 then
    let idx0 := last.idxOf p.1
    let idx1 := last.idxOf p.2
    let g1 := bumpRow sub g idx0 (fun k => factor * (y idx0 k - y idx1 k))
    bumpRow sub g1 idx1 (fun k => factor * (y idx1 k - y idx0 k))
  else g

/-- `intercept_grads`: the gradient handed to the wrapped `_compute_grads`.
    `last = gemini_model._batchify.indices`. -/
def inject (last : List Int) (CL ML : List Pair) (factor : α) (y g : Rows α K) : Rows α K :=
  let g1 := CL.foldl (injectPair false last factor y) g
  ML.foldl (injectPair true last factor y) g1

end Inject

end GemVerif.Model.Mlcl
