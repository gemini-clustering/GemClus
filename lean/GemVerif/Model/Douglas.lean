/-
  Executable model of the Douglas differentiable tree (`gemclus/tree/douglas.py`):
  `_leaf_binning`, `_merge_leaf`, `_infer`, the bookkeeping of `_init_params`,
  `find_active_points` (as the source was before /repo commit dc5e1e7: `activeCurrent`; as the property
  wants it and the source is since: `activeFixed`) and `_compute_grads`.  Written line by line after the numpy source, generic in the
  number type: the driver runs it on `Float`, the theorems instantiate it at `ℝ`.  No Mathlib.

  Conventions.  `X : Fin n → Fin d → α` is the data, `cl : List (Nat × List α)` is
  `cut_points_list_` (feature index, cut points of that feature, in the order stored — sorted or not),
  `S : Fin L → Fin K → α` is `leaf_scores_`, `T` the temperature.  Whatever makes the Python code raise
  (feature index outside the data, empty `cut_points_list_`, `leaf_scores_` of the wrong height, mask of
  the wrong length, empty cut vector in `find_active_points`, no sample) is `none` here.
-/
import GemVerif.Num

namespace GemVerif.Model.Douglas
open GemVerif RealLike

variable {α : Type} [RealLike α]

/-! ### `np.argsort` (insertion sort on (value, position) pairs; stable) -/

/-- insert `a` in front of the first element `b` with `le a b` -/
def insertBy {β : Type} (le : β → β → Bool) (a : β) : List β → List β
  | [] => [a]
  | b :: l => if le a b then a :: b :: l else b :: insertBy le a l

/-- insertion sort -/
def isort {β : Type} (le : β → β → Bool) : List β → List β
  | [] => []
  | a :: l => insertBy le a (isort le l)

/-- the comparison used by the argsort: on the value only -/
def pairLe (p q : α × Nat) : Bool := le p.1 q.1

/-- `order = np.argsort(cut_points)` -/
def argsort (cuts : List α) : List Nat :=
  (isort pairLe cuts.zipIdx).map fun p => p.2

/-- `cut_points[order]` -/
def takeIdx (cuts : List α) (order : List Nat) : List α :=
  order.map fun i => cuts.getD i 0

/-! ### `np.cumsum`, row maximum, scikit-learn's `softmax` -/

def cumsumAux (acc : α) : List α → List α
  | [] => []
  | a :: l => (acc + a) :: cumsumAux (acc + a) l

/-- `np.cumsum` of a vector: running sums from the left, the first entry unchanged -/
def cumsum : List α → List α
  | [] => []
  | a :: l => a :: cumsumAux a l

/-- `np.max(row)`: running maximum from the left (`0` for the empty row, which never occurs) -/
def maxL : List α → α
  | [] => 0
  | a :: l => l.foldl max a

/-- `np.sum(row)`: running sum from the left -/
def sumL (l : List α) : α := l.foldl (fun s a => s + a) 0

/-- `sklearn.utils.extmath.softmax` on one row: subtract the row maximum, exponentiate,
    divide by the row sum. -/
def softmaxRow (z : List α) : List α :=
  let m := maxL z
  let e := z.map fun v => exp (v - m)
  let s := sumL e
  e.map fun v => v / s

/-! ### `_leaf_binning` -/

/-- `W = np.linspace(1, n + 1, n + 1)` : exactly `1, 2, …, n + 1` -/
def linspaceW (n : Nat) : List α := (List.range (n + 1)).map fun j => nat (j + 1)

/-- `sorted_cut_points = cut_points[np.argsort(cut_points)]` -/
def sortedCuts (cuts : List α) : List α := takeIdx cuts (argsort cuts)

/-- `b = np.cumsum(np.concatenate([np.zeros(1), -sorted_cut_points]))` -/
def bias (cuts : List α) : List α := cumsum (0 :: (sortedCuts cuts).map fun c => -c)

/-- `logits = X @ W + b` for the single sample value `x` (one row of the `n × 1` slice) -/
def logits (x : α) (cuts : List α) : List α :=
  List.zipWith (fun w b => x * w + b) (linspaceW cuts.length) (bias cuts)

/-- membership part of `_leaf_binning(X, cut_points)` for one sample:
    `softmax(logits / self.temperature)` -/
def binning (T : α) (x : α) (cuts : List α) : List α :=
  softmaxRow ((logits x cuts).map fun v => v / T)

/-- `_leaf_binning` for one sample: (memberships, order) -/
def leafBinning (T : α) (x : α) (cuts : List α) : List α × List Nat :=
  (binning T x cuts, argsort cuts)

/-! ### `_merge_leaf`, `_infer` -/

/-- `_merge_leaf` on one sample: `np.einsum("ij,ik->ijk", a, b).reshape((-1, J·K))`, i.e. entry
    `j * len(b) + k` is `a[j] * b[k]`. -/
def kron (a b : List α) : List α := a.flatMap fun aj => b.map fun bk => aj * bk

/-- `reduce(self._merge_leaf, all_binnings)`; `reduce` of an empty sequence raises -/
def mergeAll : List (List α) → Option (List α)
  | [] => none
  | b :: bs => some (bs.foldl kron b)

/-- value of feature `f` of a sample, `0` outside the data (never read: see `inRange`) -/
def xget {d : Nat} (x : Fin d → α) (f : Nat) : α := if h : f < d then x ⟨f, h⟩ else 0

/-- every feature index of `cut_points_list_` addresses a column of the data; otherwise
    `X[:, f:f+1]` is an empty slice and `X @ W` raises -/
def inRange (d : Nat) (cl : List (Nat × List α)) : Bool := cl.all fun z => decide (z.1 < d)

/-- `all_binnings` of `_infer` for one sample -/
def binnings {d : Nat} (T : α) (x : Fin d → α) (cl : List (Nat × List α)) : List (List α) :=
  cl.map fun z => binning T (xget x z.1) z.2

/-- `self._leaf` (one row): the merged leaf memberships -/
def leafRow {d : Nat} (T : α) (x : Fin d → α) (cl : List (Nat × List α)) : Option (List α) :=
  if inRange d cl then mergeAll (binnings T x cl) else none

/-- `y_pred = leaf @ self.leaf_scores_` (one row) -/
def scoreRow {L K : Nat} (leaf : List α) (S : Fin L → Fin K → α) : List α :=
  List.ofFn fun k : Fin K => sumFin fun l : Fin L => leaf.getD l.val 0 * S l k

/-- `_infer(X)` for one sample: `softmax(leaf @ leaf_scores_)`; the matrix product raises when
    `leaf_scores_` does not have one row per leaf -/
def inferRow {d L K : Nat} (T : α) (x : Fin d → α) (cl : List (Nat × List α)) (S : Fin L → Fin K → α) :
    Option (List α) :=
  match leafRow T x cl with
  | none => none
  | some leaf => if leaf.length = L then some (softmaxRow (scoreRow leaf S)) else none

/-- `_infer(X)`: row by row -/
def infer {n d L K : Nat} (T : α) (X : Fin n → Fin d → α) (cl : List (Nat × List α))
    (S : Fin L → Fin K → α) : Fin n → Option (List α) :=
  fun i => inferRow T (X i) cl S

/-! ### `_init_params` (bookkeeping only; the values are random draws) -/

/-- the feature indices that receive cut points: all of them without a mask, the `True` positions
    of the mask otherwise; a mask whose length differs from `X.shape[1]` raises `ValueError` -/
def usedFeatures (mask : Option (List Bool)) (d : Nat) : Option (List Nat) :=
  match mask with
  | none => some (List.range d)
  | some m =>
    if m.length != d then none
    else some ((List.range d).filter fun i => m.getD i false)

/-- `num_leaf`: `(n_cuts + 1) ** X.shape[1]` without a mask, `(n_cuts + 1) ** len(cut_points_list_)`
    with one -/
def numLeaf (nCuts : Nat) (mask : Option (List Bool)) (d : Nat) : Option Nat :=
  match mask with
  | none => some ((nCuts + 1) ^ d)
  | some _ => (usedFeatures mask d).map fun u => (nCuts + 1) ^ u.length

/-- `cut_points_list_` given the drawn values (`draw f` = the `n_cuts` normal draws of feature `f`) -/
def initCutList (mask : Option (List Bool)) (d : Nat) (draw : Nat → List α) : Option (List (Nat × List α)) :=
  (usedFeatures mask d).map fun u => u.map fun f => (f, draw f)

/-! ### `find_active_points` -/

/-- `cut_points.min()` ; raises on an empty vector -/
def minL? : List α → Option α
  | [] => none
  | a :: l => some (l.foldl min a)

/-- `cut_points.max()` ; raises on an empty vector -/
def maxL? : List α → Option α
  | [] => none
  | a :: l => some (l.foldl max a)

/-- `np.all(p(feature))` -/
def colAll {n : Nat} (p : α → Bool) (col : Fin n → α) : Bool := (List.finRange n).all fun i => p (col i)

/-- the test of the source before /repo commit dc5e1e7:
    `not (np.all(feature <= min_threshold) or np.all(feature >= max_threshold))` -/
def testCurrent {n : Nat} (col : Fin n → α) (cuts : List α) : Option Bool :=
  match minL? cuts, maxL? cuts with
  | some mn, some mx => some (!(colAll (fun v => le v mn) col || colAll (fun v => le mx v) col))
  | _, _ => none

/-- the test the property asks for: some cut point lies strictly between the smallest and the
    largest value taken by the feature, `np.any((feature.min() < cut_points) & (cut_points < feature.max()))` -/
def testFixed {n : Nat} (col : Fin n → α) (cuts : List α) : Option Bool :=
  match minL? (List.ofFn col), maxL? (List.ofFn col) with
  | some lo, some hi => some (cuts.any fun c => lt lo c && lt c hi)
  | _, _ => none

/-- the loop over `cut_points_list_` -/
def activeLoop {n d : Nat} (test : (Fin n → α) → List α → Option Bool) (X : Fin n → Fin d → α) :
    List (Nat × List α) → Option (List Nat)
  | [] => some []
  | z :: rest =>
    if h : z.1 < d then
      match test (fun i => X i ⟨z.1, h⟩) z.2, activeLoop test X rest with
      | some b, some r => some (if b then z.1 :: r else r)
      | _, _ => none
    else none  -- IndexError

def activeWith {n d : Nat} (test : (Fin n → α) → List α → Option Bool) (X : Fin n → Fin d → α)
    (cl : List (Nat × List α)) : Option (List Nat) :=
  if n = 0 then none                -- check_array: at least one sample
  else if d < cl.length then none   -- "The passed data has fewer features than ..."
  else activeLoop test X cl

/-- `find_active_points` of the source before /repo commit dc5e1e7 -/
def activeCurrent {n d : Nat} (X : Fin n → Fin d → α) (cl : List (Nat × List α)) : Option (List Nat) :=
  activeWith testCurrent X cl

/-- `find_active_points` as the property describes it -/
def activeFixed {n d : Nat} (X : Fin n → Fin d → α) (cl : List (Nat × List α)) : Option (List Nat) :=
  activeWith testFixed X cl

/-! ### `_compute_grads` (back-propagation; serves C03)

  Reads `self._leaf`, `self._all_binnings`, `self._all_orders` as retained by the `_infer(X)` call that
  precedes it in `fit` (same `X`): the model recomputes them from `X`. -/

local instance (priority := low) instInhabitedGrads : Inhabited α := ⟨0⟩

/-- `np.argsort` of an integer vector (used on `order`, a permutation: gives its inverse) -/
def argsortNat (l : List Nat) : List Nat :=
  (isort (fun p q : Nat × Nat => decide (p.1 ≤ q.1)) l.zipIdx).map fun p => p.2

/-- the axis lengths `len(x[1]) + 1` of `axes_for_reshape` -/
def radices (cl : List (Nat × List α)) : List Nat := cl.map fun z => z.2.length + 1

/-- coordinate along axis `i` of the flat leaf index `l` in the C-order reshape to `radices` -/
def digit (rs : List Nat) (i l : Nat) : Nat := (l / (rs.drop (i + 1)).prod) % rs.getD i 1

/-- `_compute_grads(X, y_pred, gradient)`: the list `updates` — first `-leaf_score_backprop`
    (row-major `L × K`), then `-cut_grad` for every entry of `cut_points_list_`. -/
def computeGrads {n d L K : Nat} (T : α) (X : Fin n → Fin d → α) (cl : List (Nat × List α))
    (S : Fin L → Fin K → α) (yPred grad : Fin n → Fin K → α) : Option (List (List α)) :=
  match (List.finRange n).mapM (fun r => leafRow T (X r) cl) with
  | none => none
  | some leaves =>
    if leaves.all (fun lf => lf.length == L) then
      let leaf : Fin n → Fin L → α := fun r l => (leaves.getD r.val []).getD l.val 0
      -- y_pred_grad = y_pred * (gradient - (y_pred * gradient).sum(1, keepdims=True))
      let ypg : Fin n → Fin K → α :=
        tab2 fun r k => yPred r k * (grad r k - sumFin fun k' => yPred r k' * grad r k')
      -- leaf_score_backprop = self._leaf.T @ y_pred_grad
      let lsb : List α := (List.finRange L).flatMap fun l => (List.finRange K).map fun k =>
        -(sumFin fun r => leaf r l * ypg r k)
      -- binning_backprop = (y_pred_grad @ self.leaf_scores_.T).reshape(axes) * self._leaf.reshape(axes)
      let bb : Fin n → Fin L → α := tab2 fun r l => (sumFin fun k => ypg r k * S l k) * leaf r l
      let rs := radices cl
      let cutGrads : List (List α) := cl.zipIdx.map fun zi =>
        let z := zi.1
        let i := zi.2
        let ci := z.2.length
        -- self._all_binnings[i]
        let B : Fin n → Fin (ci + 1) → α := tab2 fun r j => (binning T (xget (X r) z.1) z.2).getD j.val 0
        -- weighted_grad = binning_backprop.sum(axes_for_sum)   (already carries the membership of this feature)
        let wg : Fin n → Fin (ci + 1) → α := tab2 fun r j =>
          sumFin fun l : Fin L => if digit rs i l.val = j.val then bb r l else 0
        -- bin_grad = weighted_grad - B * weighted_grad.sum(1, keepdims=True); bin_grad /= temperature
        let bg : Fin n → Fin (ci + 1) → α := tab2 fun r j =>
          (wg r j - B r j * sumFin fun j' => wg r j') / T
        -- bias_grad = bin_grad.sum(0)[1:]
        let biasGrad : List α := (List.finRange (ci + 1)).tail.map fun j => sumFin fun r => bg r j
        -- cumsum_grad = -np.cumsum(bias_grad[::-1])[::-1]
        let cumsumGrad : List α := (cumsum biasGrad.reverse).reverse.map fun v => -v
        -- cut_grad = cumsum_grad[np.argsort(self._all_orders[i])] ; updates += [-cut_grad]
        (argsortNat (argsort z.2)).map fun p => -(cumsumGrad.getD p 0)
      some (lsb :: cutGrads)
    else none

end GemVerif.Model.Douglas
