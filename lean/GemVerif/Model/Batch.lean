/-
  Executable model of the mini-batch machinery of GemClus (property C10).  No Mathlib.

  Source units, modelled line by line:

  * `gemclus/_base_gemini.py::DiscriminativeModel._batchify`
        random_state = check_random_state(random_state)
        all_indices = random_state.permutation(len(X))                     -- `perm` (external: numpy RNG)
        batch_size = len(X) if self.batch_size is None else self.batch_size
        j = 0
        while j < len(X):
            batch_indices = all_indices[j:j + batch_size]                  -- `(perm.drop j).take bs`
            X_batch = X[batch_indices]                                     -- `gather X idx`
            if affinity_matrix is not None:
                affinity_batch = affinity_matrix[batch_indices][:, batch_indices]   -- `block A idx`
            else:
                affinity_batch = None
            yield X_batch, affinity_batch
            j += batch_size
  * `DiscriminativeModel.fit` (loop skeleton): `for i in range(max_iter): for batch in _batchify(..): … _update_weights`
    and `n_iter_ = max_iter`; `_parameter_constraints` of `batch_size` and `max_iter`.
  * `gemclus/nonparametric/_categorical_models.py::CategoricalModel._batchify`:  `yield X, affinity_matrix`.
  * `gemclus/mlcl.py::add_mlcl_constraint.decorate_batch`.
  * `gemclus/sparse/_base_sparse.py::compute_val_score` (slices `j:j+batch_size`) and the epoch loop of `_path`.

  The permutation drawn by `random_state.permutation(len(X))` is an input of the model (`perm`); numpy guarantees
  `perm.length = len(X)`, so the loop bound `len(X)` is `perm.length` here.
-/

namespace GemVerif.Model.Batch

/-- A matrix as a list of rows (numpy 2-D array; entries are opaque for batching). -/
abbrev Mat (α : Type) := List (List α)

/-! ### `_batchify` : the index lists -/

/-- The `while j < len(X)` loop of `_batchify`, started at `j`, with the effective `batch_size = bs ≥ 1`:
    yields `all_indices[j:j+bs]` and advances `j += bs`. -/
def batchLoop (all : List Nat) (bs : Nat) (hbs : 0 < bs) (j : Nat) : List (List Nat) :=
  if j < all.length then
    ((all.drop j).take bs) :: batchLoop all bs hbs (j + bs)
  else []
termination_by all.length - j
decreasing_by omega

/-- Index lists yielded by one call of `DiscriminativeModel._batchify` when the RNG returned `perm`.
    `batch_size = None` ↦ `len(X)` (and the loop does not run at all on empty data).
    `some 0` cannot reach this code (`_validate_params` rejects it, see `fitRun`; the Python loop would never
    advance); the model value `[]` for it is never asked for by the driver, and is what lets `batches_len` and
    `batches_nonempty` (Props/C10) be stated for every `bs`, `0` included. -/
def batchify (perm : List Nat) : Option Nat → List (List Nat)
  | none => if h : 0 < perm.length then batchLoop perm perm.length h 0 else []
  | some bs => if h : 0 < bs then batchLoop perm bs h 0 else []

/-! ### fancy indexing -/

/-- `X[idx]` for an integer index array (rows gathered in the order of `idx`). -/
def gather {β : Type} [Inhabited β] (X : List β) (idx : List Nat) : List β := idx.map (fun i => X[i]!)

/-- `M[:, idx]`: the same gather inside every row. -/
def gatherCols {α : Type} [Inhabited α] (M : Mat α) (idx : List Nat) : Mat α := M.map (fun row => gather row idx)

/-- `affinity_matrix[batch_indices][:, batch_indices]` -/
def block {α : Type} [Inhabited α] (A : Mat α) (idx : List Nat) : Mat α := gatherCols (gather A idx) idx

/-- What `_batchify` yields: the data rows and the affinity block (or `None`). -/
structure Batch (β α : Type) where
  data : List β
  aff : Option (Mat α)
deriving Repr, BEq, DecidableEq

/-- One yielded pair of `_batchify` for the index list `idx`. -/
def mkBatch {β α : Type} [Inhabited β] [Inhabited α] (X : List β) (A : Option (Mat α)) (idx : List Nat) : Batch β α :=
  { data := gather X idx
    aff := match A with
      | some A => some (block A idx)
      | none => none }

/-- All pairs yielded by one call `DiscriminativeModel._batchify(X, affinity_matrix, random_state)`. -/
def batchifyData {β α : Type} [Inhabited β] [Inhabited α] (X : List β) (A : Option (Mat α)) (perm : List Nat)
    (bs : Option Nat) : List (Batch β α) :=
  (batchify perm bs).map (mkBatch X A)

/-- `CategoricalModel._batchify`: `yield X, affinity_matrix` (once, no RNG, no `batch_size`). -/
def batchifyCategorical {β α : Type} (X : List β) (A : Option (Mat α)) : List (Batch β α) := [⟨X, A⟩]

/-! ### `mlcl.decorate_batch` -/

/-- A batch yielded by the decorated `_batchify`, together with the value of `disguise_batch.indices` at that yield. -/
structure DecBatch (β α : Type) where
  data : List β
  aff : Option (Mat α)
  recorded : List Nat
deriving Repr, BEq, DecidableEq

/-- `decorate_batch(func)`:
      indices = np.arange(len(X))
      for subset, affinity_batch in func(indices, affinity_matrix, random_state):
          disguise_batch.indices = subset.tolist()
          yield X[subset], affinity_batch
    `inner` is the undecorated `_batchify` (applied to the index vector instead of the data). -/
def decorate {β α : Type} [Inhabited β] (inner : List Nat → Option (Mat α) → List (Batch Nat α))
    (X : List β) (A : Option (Mat α)) : List (DecBatch β α) :=
  let indices := List.range X.length
  (inner indices A).map fun b => { data := gather X b.data, aff := b.aff, recorded := b.data }

/-- decorated `DiscriminativeModel._batchify` -/
def batchifyDecorated {β α : Type} [Inhabited β] [Inhabited α] (X : List β) (A : Option (Mat α)) (perm : List Nat)
    (bs : Option Nat) : List (DecBatch β α) :=
  decorate (fun ind A' => batchifyData ind A' perm bs) X A

/-- decorated `CategoricalModel._batchify` -/
def batchifyCategoricalDecorated {β α : Type} [Inhabited β] (X : List β) (A : Option (Mat α)) : List (DecBatch β α) :=
  decorate (fun ind A' => batchifyCategorical ind A') X A

/-! ### `fit` : epochs and optimiser steps -/

/-- Index lists of all optimiser steps of `fit`, in order: `for i in range(max_iter): for … in _batchify(…)`;
    `perms i` is the permutation drawn in epoch `i`.  One `_update_weights` per element. -/
def fitSteps (maxIter : Nat) (perms : Nat → List Nat) (bs : Option Nat) : List (List Nat) :=
  (List.range maxIter).flatMap fun i => batchify (perms i) bs

/-- number of `optimiser_.update_params` calls of `fit` -/
def fitStepCount (maxIter : Nat) (perms : Nat → List Nat) (bs : Option Nat) : Nat := (fitSteps maxIter perms bs).length

/-- the steps of a `CategoricalModel.fit`: one full batch per epoch -/
def fitStepsCategorical (maxIter n : Nat) : List (List Nat) :=
  (List.range maxIter).flatMap fun _ => [List.range n]

/-- Result of the batching skeleton of `fit`. -/
structure FitTrace where
  epochs : List (List (List Nat))   -- per epoch, the index lists of its batches
  steps : Nat                       -- `update_params` calls
  nIter : Nat                       -- `n_iter_`
deriving Repr, BEq, DecidableEq

/-- `_parameter_constraints`: `"batch_size": [Interval(Integral, 1, None, closed="left"), None]`,
    `"max_iter": [Interval(Integral, 1, None, closed="left")]` — checked by `self._validate_params()` first in `fit`. -/
def paramsValid (maxIter : Int) (bs : Option Int) : Bool :=
  decide (1 ≤ maxIter) && (match bs with | none => true | some b => decide (1 ≤ b))

/-- The batching skeleton of `DiscriminativeModel.fit` (`categorical = true`: `CategoricalModel`, whose
    constructor has no `batch_size`, so `self.batch_size` is `None` and `_batchify` is overridden).
    `perms` are the successive results of `random_state.permutation(n)`.  Invalid hyper-parameters are rejected
    as the code does. -/
def fitRun (categorical : Bool) (n : Nat) (maxIter : Int) (bs : Option Int) (perms : Nat → List Nat) :
    Except String FitTrace :=
  if !paramsValid maxIter bs then .error "InvalidParameterError" else
  let mi := maxIter.toNat
  let b := bs.map Int.toNat
  let epochs := (List.range mi).map fun i => if categorical then [List.range n] else batchify (perms i) b
  .ok { epochs := epochs, steps := epochs.flatten.length, nIter := mi }

/-! ### `compute_val_score` : contiguous validation blocks -/

/-- Index ranges `j:j+batch_size` visited by `compute_val_score` (`j = 0; while j < len(X): …; j += batch_size`);
    `_path` passes `batch_size = clf.batch_size`, or `len(X)` when it is `None`. -/
def valBlocks (n : Nat) (bs : Nat) : List (List Nat) :=
  if h : 0 < bs then batchLoop (List.range n) bs h 0 else []

/-- `X[j:j+bs]` -/
def slice {β : Type} (X : List β) (j bs : Nat) : List β := (X.drop j).take bs

/-- `y[j:j+bs][:, j:j+bs]` -/
def sliceBlock {α : Type} (y : Mat α) (j bs : Nat) : Mat α := (slice y j bs).map fun row => slice row j bs

/-- The loop of `compute_val_score` for a user-supplied affinity `y` (`y is not None`), started at `j`:
      X_batch = X[j:j + batch_size];  affinity = y[j:j+batch_size][:, j:j+batch_size];  j += batch_size -/
def valLoop {β α : Type} (X : List β) (y : Mat α) (bs : Nat) (hbs : 0 < bs) (j : Nat) : List (Batch β α) :=
  if j < X.length then
    ⟨slice X j bs, some (sliceBlock y j bs)⟩ :: valLoop X y bs hbs (j + bs)
  else []
termination_by X.length - j
decreasing_by omega

/-- The `(X_batch, affinity)` pairs of `compute_val_score` for a user-supplied affinity `y`. -/
def valBatches {β α : Type} (X : List β) (y : Mat α) (bs : Nat) : List (Batch β α) :=
  if h : 0 < bs then valLoop X y bs h 0 else []

/-- batch size used by `_path` for validation: `clf.batch_size if clf.batch_size is not None else len(X)` -/
def pathBatchSize (n : Nat) : Option Nat → Nat
  | none => n
  | some b => b

end GemVerif.Model.Batch
