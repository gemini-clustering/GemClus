/-
  Executable model of `Tree.predict` of gemclus/tree/kauri.py AS THE NUMPY CODE IS WRITTEN: the recursion works on the
  whole array, splits its rows with two Boolean masks, recurses on the two sub-arrays and scatters the answers back:

      def predict(self, X, node=0):
          if node < 0 or node > self.n_nodes:
              raise ValueError(...)
          if self.children_left[node] == -1:
              return self.target[node] * np.ones(len(X), dtype=np.int64)
          else:
              if self.categorical_nodes[node]:                                   # never set by `fit`: not modelled
                  X_left = X[:, self.features[node]] == self.thresholds
              else:
                  X_left = X[:, self.features[node]] <= self.thresholds[node]
              X_right = ~X_left
              predictions = np.zeros(len(X), dtype=np.int64)
              predictions[X_left] = self.predict(X[X_left], self.children_left[node])
              predictions[X_right] = self.predict(X[X_right], self.children_right[node])
              return predictions

  (`Model.Kauri.Tree.route` is the per-row reading of the same function; `Props/C18.lean`
  (`tree_predict_node_eq_route`) proves the two agree on well-formed trees.)  Everything that makes the Python code raise is `none`: node outside `0..n_nodes`, an index past the
  end of a list, a threshold or a feature that is `None`, a mask assignment with the wrong number of values, recursion
  that does not end (`fuel` exhausted: Python's RecursionError on a cyclic tree).  One deviation, outside what `fit`
  can build: a NEGATIVE feature index is `none` here, numpy would count the column from the end (rows are total
  functions `Nat → α` in this model, they have no width).  No Mathlib.
-/
import GemVerif.Model.Kauri

namespace GemVerif.Model.Kauri
open GemVerif RealLike

variable {α : Type} [RealLike α]

/-- `X[mask]`: the rows whose mask entry is `True`, in their order -/
def selectRows {β : Type} : List β → List Bool → List β
  | x :: xs, m :: ms => if m then x :: selectRows xs ms else selectRows xs ms
  | _, _ => []

/-- `predictions[mask] = vals`: the `True` positions of `mask` receive the entries of `vals` in order; numpy raises when
    the mask has another length than `predictions` or when the number of values differs from the number of `True`s
    (a length-1 `vals` would be broadcast by numpy: never produced here, the recursion returns one value per row) -/
def maskAssign : List Int → List Bool → List Int → Option (List Int)
  | [], [], [] => some []
  | p :: ps, m :: ms, vals =>
    if m then
      match vals with
      | v :: vs => (maskAssign ps ms vs).map (v :: ·)
      | [] => none
    else (maskAssign ps ms vals).map (p :: ·)
  | _, _, _ => none

/-- `Tree.predict(X, node)` on the whole array `X` (a list of rows) -/
def Tree.predictMask (t : Tree α) : Nat → Int → List (Nat → α) → Option (List Int)
  | 0, _, _ => none
  | fuel + 1, node, X =>
    if node < 0 || node > (t.nNodes : Int) then none            -- ValueError
    else
      let k := node.toNat
      match t.left[k]? with
      | none => none                                              -- IndexError
      | some l =>
        if l == -1 then
          -- self.target[node] * np.ones(len(X), dtype=np.int64)
          (t.target[k]?).map fun c => List.replicate X.length c
        else
          match t.feat[k]?, t.thr[k]?, t.right[k]? with
          | some (some f), some (some th), some r =>
            if f < 0 then none else
            -- X_left = X[:, self.features[node]] <= self.thresholds[node] ; X_right = ~X_left
            let xLeft := X.map fun x => le (x f.toNat) th
            let xRight := xLeft.map not
            match t.predictMask fuel l (selectRows X xLeft), t.predictMask fuel r (selectRows X xRight) with
            | some pl, some pr =>
              -- predictions = np.zeros(len(X)); predictions[X_left] = …; predictions[X_right] = …
              (maskAssign (List.replicate X.length 0) xLeft pl).bind fun p => maskAssign p xRight pr
            | _, _ => none
          | _, _, _ => none

/-- the per-row reading: every row routed on its own (`fuel` = recursion budget of `Tree.route`) -/
def Tree.routeAll (t : Tree α) (fuel : Nat) {n : Nat} (X : Fin n → Nat → α) : Fin n → Int :=
  fun i => t.route (X i) fuel 0

end GemVerif.Model.Kauri
