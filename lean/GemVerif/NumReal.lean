/-
  The real-number instance of `RealLike`, and the simp lemmas that turn a model term
  instantiated at ℝ into ordinary Mathlib mathematics.  Proof files import this.
-/
import GemVerif.Num
import Mathlib.Analysis.SpecialFunctions.Log.Basic
import Mathlib.Analysis.SpecialFunctions.Sqrt
import Mathlib.Algebra.BigOperators.Fin
import Mathlib.Algebra.BigOperators.Field

namespace GemVerif

noncomputable instance : RealLike ℝ where
  log := Real.log
  sqrt := Real.sqrt
  exp := Real.exp
  abs x := |x|
  max a b := Max.max a b
  min a b := Min.min a b
  lt a b := decide (a < b)
  le a b := decide (a ≤ b)
  beq a b := decide (a = b)

namespace RealLike
@[simp] theorem log_real (x : ℝ) : RealLike.log x = Real.log x := rfl
@[simp] theorem sqrt_real (x : ℝ) : RealLike.sqrt x = Real.sqrt x := rfl
@[simp] theorem exp_real (x : ℝ) : RealLike.exp x = Real.exp x := rfl
@[simp] theorem abs_real (x : ℝ) : RealLike.abs x = |x| := rfl
@[simp] theorem max_real (x y : ℝ) : RealLike.max x y = Max.max x y := rfl
@[simp] theorem min_real (x y : ℝ) : RealLike.min x y = Min.min x y := rfl
@[simp] theorem lt_real (x y : ℝ) : RealLike.lt x y = decide (x < y) := rfl
@[simp] theorem le_real (x y : ℝ) : RealLike.le x y = decide (x ≤ y) := rfl
@[simp] theorem beq_real (x y : ℝ) : RealLike.beq x y = decide (x = y) := rfl
@[simp] theorem nat_real (n : Nat) : (RealLike.nat n : ℝ) = (n : ℝ) := rfl
@[simp] theorem half_real : (RealLike.half : ℝ) = 1 / 2 := by
  simp only [RealLike.half, nat_real, Nat.cast_ofNat]
theorem sq_real (x : ℝ) : RealLike.sq x = x ^ 2 := by simp [RealLike.sq, pow_two]

theorem clip_real (x lo hi : ℝ) : RealLike.clip x lo hi = Min.min (Max.max x lo) hi := rfl

theorem clip_of_mem {x lo hi : ℝ} (h1 : lo ≤ x) (h2 : x ≤ hi) : RealLike.clip x lo hi = x := by
  rw [clip_real, max_eq_left h1, min_eq_left h2]
end RealLike

@[simp] theorem sumFin_eq_sum {n : Nat} (f : Fin n → ℝ) : sumFin f = ∑ i, f i :=
  List.sum_ofFn

@[simp] theorem tab_apply {α : Type} [Inhabited α] {n : Nat} (f : Fin n → α) (i : Fin n) :
    (tab f) i = f i := by
  simp [tab, Tab.get]

@[simp] theorem tab_get {α : Type} [Inhabited α] {n : Nat} (f : Fin n → α) (i : Fin n) :
    Tab.get (tab f) i = f i := tab_apply f i

@[simp] theorem tab2_apply {α : Type} [Inhabited α] {n k : Nat} (f : Fin n → Fin k → α)
    (i : Fin n) (j : Fin k) : (tab2 f) i j = f i j := by
  simp [tab2, Tab2.get]

@[simp] theorem tab2_get {α : Type} [Inhabited α] {n k : Nat} (f : Fin n → Fin k → α)
    (i : Fin n) (j : Fin k) : Tab2.get (tab2 f) i j = f i j := tab2_apply f i j

theorem tab_coe {α : Type} [Inhabited α] {n : Nat} (f : Fin n → α) : (⇑(tab f) : Fin n → α) = f := by
  funext i; simp

theorem tab2_coe {α : Type} [Inhabited α] {n k : Nat} (f : Fin n → Fin k → α) :
    (⇑(tab2 f) : Fin n → Fin k → α) = f := by
  funext i j; simp

end GemVerif
