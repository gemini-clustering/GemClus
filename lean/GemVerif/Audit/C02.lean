import GemVerif.Props.C02
import GemVerif.Props.C02Wass
import GemVerif.Props.C02Fast
import GemVerif.Props.C01Gen
import GemVerif.Props.C01WassGen
#print axioms GemVerif.Props.C02.klGrad_clipped_zero
#print axioms GemVerif.Props.C02.tvGrad_clipped_zero
#print axioms GemVerif.Props.C02.hellingerGrad_clipped_zero
#print axioms GemVerif.Props.C02.chi2Grad_clipped_zero
#print axioms GemVerif.Props.C02.mmdGrad_clipped_zero
#print axioms GemVerif.Props.C02.wassGradT_clipped_zero
#print axioms GemVerif.Props.C02.wassGrad_clipped_zero
#print axioms GemVerif.Props.C02.kl_ova_hasDerivAt
#print axioms GemVerif.Props.C02.kl_ovo_hasDerivAt
#print axioms GemVerif.Props.C02.chi2_ova_hasDerivAt
#print axioms GemVerif.Props.C02.chi2_ovo_hasDerivAt
#print axioms GemVerif.Props.C02.hellinger_ova_hasDerivAt
#print axioms GemVerif.Props.C02.hellinger_ovo_hasDerivAt
#print axioms GemVerif.Props.C02.tv_ova_hasDerivAt
#print axioms GemVerif.Props.C02.mmd_ova_hasDerivAt
#print axioms GemVerif.Props.C02.tv_ovo_hasDerivAt
#print axioms GemVerif.Props.C02.mmd_ovo_hasDerivAt
#print axioms GemVerif.Props.C02Wass.wass_ova_hasDerivAt
#print axioms GemVerif.Props.C02Wass.wass_ovo_hasDerivAt
#print axioms GemVerif.Props.C02Wass.wass_ova_hasDerivAt_of_envelope
#print axioms GemVerif.Props.C02Wass.wass_ovo_hasDerivAt_of_envelope
#print axioms GemVerif.Props.C02Wass.wassGrad_shift_invariant
#print axioms GemVerif.Props.C02Wass.emdEnvelopeAt_shift_invariant
#print axioms GemVerif.Props.C02Fast.mmdAlphaFast_eq
#print axioms GemVerif.Props.C02Fast.mmdGammaFast_eq
#print axioms GemVerif.Props.C02Fast.mmdDeltaOvoFast_eq
#print axioms GemVerif.Props.C02Fast.mmdDeltaOvaFast_eq
#print axioms GemVerif.Props.C02Fast.mmdScoreFast_eq
#print axioms GemVerif.Props.C02Fast.mmdGradFast_eq
#print axioms GemVerif.Props.C02Fast.mmdGradFast_apply
#print axioms GemVerif.Props.C01Gen.eqv_ofScalar_spelled_out
#print axioms GemVerif.Props.C01Gen.raised_not_eqv
#print axioms GemVerif.Props.C01Gen.kl_ova_eq
#print axioms GemVerif.Props.C01Gen.kl_ova_grad_snd_eq
#print axioms GemVerif.Props.C01Gen.kl_ova_grad_fst_eq
#print axioms GemVerif.Props.C01Gen.kl_ovo_eq
#print axioms GemVerif.Props.C01Gen.kl_ovo_grad_snd_eq
#print axioms GemVerif.Props.C01Gen.kl_ovo_grad_fst_eq
#print axioms GemVerif.Props.C01Gen.tv_ova_eq
#print axioms GemVerif.Props.C01Gen.tv_ova_grad_snd_eq
#print axioms GemVerif.Props.C01Gen.tv_ova_grad_fst_eq
#print axioms GemVerif.Props.C01Gen.hellinger_ova_eq
#print axioms GemVerif.Props.C01Gen.hellinger_ova_grad_snd_eq
#print axioms GemVerif.Props.C01Gen.hellinger_ova_grad_fst_eq
#print axioms GemVerif.Props.C01Gen.hellinger_ovo_eq
#print axioms GemVerif.Props.C01Gen.hellinger_ovo_grad_snd_eq
#print axioms GemVerif.Props.C01Gen.hellinger_ovo_grad_fst_eq
#print axioms GemVerif.Props.C01Gen.chi2_ova_eq
#print axioms GemVerif.Props.C01Gen.chi2_ova_grad_snd_eq
#print axioms GemVerif.Props.C01Gen.chi2_ova_grad_fst_eq
#print axioms GemVerif.Props.C01Gen.chi2_ovo_grad_snd_eq
#print axioms GemVerif.Props.C01Gen.mmd_ova_eq
#print axioms GemVerif.Props.C01Gen.mmd_ova_grad_fst_eq
#print axioms GemVerif.Props.C01Gen.mmd_ova_grad_empty_raises
#print axioms GemVerif.Props.C01Gen.mmd_ovo_eq
#print axioms GemVerif.Props.C01Gen.mmd_ovo_grad_fst_eq
#print axioms GemVerif.Props.C01Gen.chi2_ovo_eq_of
#print axioms GemVerif.Props.C01Gen.tv_ovo_eq_of
#print axioms GemVerif.Props.C01Gen.tv_ovo_grad_snd_eq_of
#print axioms GemVerif.Props.C01Gen.chi2_ovo_eq
#print axioms GemVerif.Props.C01Gen.chi2_ovo_grad_fst_eq
#print axioms GemVerif.Props.C01Gen.tv_ovo_eq
#print axioms GemVerif.Props.C01Gen.tv_ovo_grad_snd_eq
#print axioms GemVerif.Props.C01Gen.tv_ovo_grad_fst_eq
#print axioms GemVerif.Props.C01Gen.mmd_ova_grad_snd_eq
#print axioms GemVerif.Props.C01Gen.mmd_ovo_grad_snd_eq
#print axioms GemVerif.Props.C01WassGen.wass_ova_units
#print axioms GemVerif.Props.C01WassGen.wass_ova_eq
#print axioms GemVerif.Props.C01WassGen.wass_ova_grad_eq
#print axioms GemVerif.Props.C01WassGen.wass_ovo_eq
#print axioms GemVerif.Props.C01WassGen.wass_ovo_grad_spec
#print axioms GemVerif.Props.C01WassGen.wass_ovo_grad_fst_eq
#print axioms GemVerif.Props.C01WassGen.wass_ova_grad_no_cluster_raises
#print axioms GemVerif.Props.C01WassGen.ofModel_spelled_out
#print axioms GemVerif.Props.C01WassGen.wass_ovo_grad_snd_eq
