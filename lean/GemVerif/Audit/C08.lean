import GemVerif.Props.C08
import GemVerif.Props.C08Max
import GemVerif.Props.C08Stocks
#print axioms GemVerif.Props.C08.leftStar_eq_dJ
#print axioms GemVerif.Props.C08.rightStar_eq_dJ
#print axioms GemVerif.Props.C08.leftSwitch_eq_dJ
#print axioms GemVerif.Props.C08.rightSwitch_eq_dJ
#print axioms GemVerif.Props.C08.doubleStar_eq_dJ
#print axioms GemVerif.Props.C08.corrective_eq_dJ
#print axioms GemVerif.Props.C08.realloc_eq
#print axioms GemVerif.Props.C08.realloc_eq_dJ
#print axioms GemVerif.Props.C08Max.admissible_iff
#print axioms GemVerif.Props.C08Max.switch_guard_redundant
#print axioms GemVerif.Props.C08Max.realloc_guard_redundant
#print axioms GemVerif.Props.C08Max.computeAllSplits_ge_best
#print axioms GemVerif.Props.C08Max.computeAllSplits_max
#print axioms GemVerif.Props.C08Max.computeAllSplits_attained
#print axioms GemVerif.Props.C08Max.candAt_fields
#print axioms GemVerif.Props.C08Max.evaluated_iff
#print axioms GemVerif.Props.C08Max.findBestSplit_uses_candAt
#print axioms GemVerif.Props.C08Max.evaluatedB_iff
#print axioms GemVerif.Props.C08Max.findBestSplit_max
#print axioms GemVerif.Props.C08Max.findBestSplit_attained
#print axioms GemVerif.Props.C08Max.findBestSplit_gain_nonneg
#print axioms GemVerif.Props.C08Max.no_positive_gain_means_none
#print axioms GemVerif.Props.C08Max.fitStep_applies_best
#print axioms GemVerif.Props.C08Max.fit_stops_only_without_positive_gain
#print axioms GemVerif.Props.C08Stocks.stock_def
#print axioms GemVerif.Props.C08Stocks.parts_spec
#print axioms GemVerif.Props.C08Stocks.labels_spec
#print axioms GemVerif.Props.C08Stocks.labelsBefore_eq_labels
#print axioms GemVerif.Props.C08Stocks.wf_iff
#print axioms GemVerif.Props.C08Stocks.objective_eq_sum_over_clusters
#print axioms GemVerif.Props.C08Stocks.sl_square_is_stock
#print axioms GemVerif.Props.C08Stocks.sr_square_is_stock
#print axioms GemVerif.Props.C08Stocks.leaf_square_is_stock
#print axioms GemVerif.Props.C08Stocks.sl_clusters_is_stock
#print axioms GemVerif.Props.C08Stocks.sr_clusters_is_stock
#print axioms GemVerif.Props.C08Stocks.gammaDiag_is_stock
#print axioms GemVerif.Props.C08Stocks.cluster_sizes_is_card
#print axioms GemVerif.Props.C08Stocks.sizes_are_cards
#print axioms GemVerif.Props.C08Stocks.accumulators_are_stocks
#print axioms GemVerif.Props.C08Stocks.leftStar_gain_is_increase
#print axioms GemVerif.Props.C08Stocks.rightStar_gain_is_increase
#print axioms GemVerif.Props.C08Stocks.leftSwitch_gain_is_increase
#print axioms GemVerif.Props.C08Stocks.rightSwitch_gain_is_increase
#print axioms GemVerif.Props.C08Stocks.doubleStar_gain_is_increase
#print axioms GemVerif.Props.C08Stocks.realloc_gain_is_increase
#print axioms GemVerif.Props.C08Stocks.admissible_gain_is_increase
#print axioms GemVerif.Props.C08Stocks.wf_of_fullInv
#print axioms GemVerif.Props.C08Stocks.clusters_nonempty_of_fullInv
#print axioms GemVerif.Props.C08Stocks.applySplit_relabels
#print axioms GemVerif.Props.C08Stocks.stepGain_def
#print axioms GemVerif.Props.C08Stocks.runGains_def
#print axioms GemVerif.Props.C08Stocks.fitStep_gain_is_increase
#print axioms GemVerif.Props.C08Stocks.gains_telescope
#print axioms GemVerif.Props.C08Stocks.run_gains_sum
#print axioms GemVerif.Props.C08Stocks.root_score
#print axioms GemVerif.Props.C08Stocks.fit_final_score
#print axioms GemVerif.Props.C08Stocks.chosen_split_gives_largest_increase
#print axioms GemVerif.Props.C08Stocks.stop_means_no_alternative_increases
