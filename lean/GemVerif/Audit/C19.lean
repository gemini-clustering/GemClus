import GemVerif.Props.C19
import GemVerif.Props.C19Names
#print axioms GemVerif.Props.C19.print_leaf
#print axioms GemVerif.Props.C19.print_eq_render
#print axioms GemVerif.Props.C19.read_render_line
#print axioms GemVerif.Props.C19.read_print
#print axioms GemVerif.Props.C19.parse_print_prefix
#print axioms GemVerif.Props.C19.parse_print
#print axioms GemVerif.Props.C19.rules_eval
#print axioms GemVerif.Props.C19.print_parse_eval
#print axioms GemVerif.Props.C19.split_print
#print axioms GemVerif.Props.C19.print_parse_eval_text
#print axioms GemVerif.Props.C19.print_parse_eval_lines
#print axioms GemVerif.Props.C19.readBack_distinct
#print axioms GemVerif.Props.C19.print_parse_eval_distinct
#print axioms GemVerif.Props.C19.default_names_distinct
#print axioms GemVerif.Props.C19.user_names_distinct
#print axioms GemVerif.Props.C19.wellFormed_init
#print axioms GemVerif.Props.C19.wellFormed_addChild
#print axioms GemVerif.Props.C19Names.validate_none
#print axioms GemVerif.Props.C19Names.validate_accepts_iff
#print axioms GemVerif.Props.C19Names.validate_accepts_covers
#print axioms GemVerif.Props.C19Names.validate_rejects_notOneDim
#print axioms GemVerif.Props.C19Names.validate_outcomes
#print axioms GemVerif.Props.C19Names.validate_rejects_tooFew
#print axioms GemVerif.Props.C19Names.leavesNoFeature_init
#print axioms GemVerif.Props.C19Names.leavesNoFeature_addChild
#print axioms GemVerif.Props.C19Names.lookups_in_range
#print axioms GemVerif.Props.C19Names.accepted_prints_named
#print axioms GemVerif.Props.C19Names.none_prints_default
#print axioms GemVerif.Props.C19Names.rejected_prints_nothing
#print axioms GemVerif.Props.C19Names.raises_iff_rejected
#print axioms GemVerif.Props.C19Names.raises_prints_nothing
#print axioms GemVerif.Props.C19Names.named_lines_relabel
#print axioms GemVerif.Props.C19Names.named_print_parse_eval
#print axioms GemVerif.Props.C19Names.named_print_parse_eval_text
