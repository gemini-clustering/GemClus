import GemVerif.Props.C10
#print axioms GemVerif.Props.C10.batches_concat
#print axioms GemVerif.Props.C10.batches_len
#print axioms GemVerif.Props.C10.batches_nonempty
#print axioms GemVerif.Props.C10.batches_count
#print axioms GemVerif.Props.C10.count_is_ceil
#print axioms GemVerif.Props.C10.batches_count_ceil
#print axioms GemVerif.Props.C10.batches_get
#print axioms GemVerif.Props.C10.batches_get_length
#print axioms GemVerif.Props.C10.batches_partition
#print axioms GemVerif.Props.C10.batches_cover_unique
#print axioms GemVerif.Props.C10.batchify_large
#print axioms GemVerif.Props.C10.batchify_none
#print axioms GemVerif.Props.C10.batchify_none_eq
#print axioms GemVerif.Props.C10.block_entries
#print axioms GemVerif.Props.C10.block_shape
#print axioms GemVerif.Props.C10.block_entries_fn
#print axioms GemVerif.Props.C10.yields_spec
#print axioms GemVerif.Props.C10.yields_none
#print axioms GemVerif.Props.C10.yields_length
#print axioms GemVerif.Props.C10.fit_step_count
#print axioms GemVerif.Props.C10.fit_step_count_none
#print axioms GemVerif.Props.C10.fitRun_valid
#print axioms GemVerif.Props.C10.fitRun_rejects
#print axioms GemVerif.Props.C10.categorical_full
#print axioms GemVerif.Props.C10.categorical_fit
#print axioms GemVerif.Props.C10.decorated_eq_plain
#print axioms GemVerif.Props.C10.decorated_records
#print axioms GemVerif.Props.C10.decorated_none
#print axioms GemVerif.Props.C10.decorated_categorical
#print axioms GemVerif.Props.C10.valBlocks_concat
#print axioms GemVerif.Props.C10.valBlocks_get
#print axioms GemVerif.Props.C10.valBatches_spec
#print axioms GemVerif.Props.C10.valBlocks_eq_batchify
