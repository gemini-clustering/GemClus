import GemVerif.Props.C05
import GemVerif.Props.C05Gen
#print axioms GemVerif.Props.C05.glProx_strong_min
#print axioms GemVerif.Props.C05.glProx_unique_minimiser
#print axioms GemVerif.Props.C05.linear_prox_row_eq
#print axioms GemVerif.Props.C05.model_norm_is_two_norm
#print axioms GemVerif.Props.C05.linear_prox_small_row
#print axioms GemVerif.Props.C05.linear_prox_large_row
#print axioms GemVerif.Props.C05.linear_prox_strong_min
#print axioms GemVerif.Props.C05.flat_group_norm
#print axioms GemVerif.Props.C05.group_linear_prox_row
#print axioms GemVerif.Props.C05.group_linear_prox_uncovered
#print axioms GemVerif.Props.C05.group_linear_prox_strong_min
#print axioms GemVerif.Props.C05.hier_prox_beta_eq
#print axioms GemVerif.Props.C05.hier_prox_theta_eq
#print axioms GemVerif.Props.C05.hier_prox_feasible
#print axioms GemVerif.Props.C05.hier_kkt_optimal
#print axioms GemVerif.Props.C05.hier_prox_stationary
#print axioms GemVerif.Props.C05.hier_prox_optimal
#print axioms GemVerif.Props.C05.hier_prox_optimal_coords
#print axioms GemVerif.Props.C05.hier_prox_zero_row
#print axioms GemVerif.Props.C05.hier_prox_optimal_in_scope
#print axioms GemVerif.Props.C05.hier_prox_optimal_in_scope_coords
#print axioms GemVerif.Props.C05.mlp_prox_optimal
#print axioms GemVerif.Props.C05.group_mlp_prox_optimal
#print axioms GemVerif.Props.C05.sortDesc_is_the_rearrangement
#print axioms GemVerif.Props.C05Gen.isMat_spelled_out
#print axioms GemVerif.Props.C05Gen.raised_not_eqv
#print axioms GemVerif.Props.C05Gen.soft_threshold_isMat
#print axioms GemVerif.Props.C05Gen.soft_threshold_eq
#print axioms GemVerif.Props.C05Gen.linear_prox_grad_isMat
#print axioms GemVerif.Props.C05Gen.linear_prox_grad_eq
#print axioms GemVerif.Props.C05Gen.mlp_prox_grad_spec
#print axioms GemVerif.Props.C05Gen.mlp_prox_grad_eq
#print axioms GemVerif.Props.C05Gen.mlp_prox_grad_index_error
#print axioms GemVerif.Props.C05Gen.isPartialMat_spelled_out
#print axioms GemVerif.Props.C05Gen.group_linear_prox_grad_isPartialMat
#print axioms GemVerif.Props.C05Gen.group_linear_prox_grad_eq
#print axioms GemVerif.Props.C05Gen.group_mlp_prox_grad_isPartialMat
#print axioms GemVerif.Props.C05Gen.group_mlp_prox_grad_eq
#print axioms GemVerif.Props.C05Gen.mlp_prox_grad_eq_real
#print axioms GemVerif.Props.C05Gen.group_mlp_prox_grad_eq_real
