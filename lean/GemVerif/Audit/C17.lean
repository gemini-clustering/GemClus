import GemVerif.Props.C17
import GemVerif.Props.C01Gen
import GemVerif.Props.C05Gen
import GemVerif.Props.C01WassGen
#print axioms GemVerif.Props.C17.clipped_in_window
#print axioms GemVerif.Props.C17.kl_defined
#print axioms GemVerif.Props.C17.tv_defined
#print axioms GemVerif.Props.C17.hellinger_defined
#print axioms GemVerif.Props.C17.chi2_defined
#print axioms GemVerif.Props.C17.mmd_defined
#print axioms GemVerif.Props.C17.wasserstein_defined
#print axioms GemVerif.Props.C17.softmax_normaliser_pos
#print axioms GemVerif.Props.C17.linear_prox_defined
#print axioms GemVerif.Props.C17.hier_prox_denominator_pos
#print axioms GemVerif.Props.C17.douglas_divisors_pos
#print axioms GemVerif.Props.C17.kauri_gain_denominators
#print axioms GemVerif.Props.C17.leftStar_cleared
#print axioms GemVerif.Props.C01Gen.eqv_ofScalar_spelled_out
#print axioms GemVerif.Props.C01Gen.raised_not_eqv
#print axioms GemVerif.Props.C01Gen.kl_ova_eq
#print axioms GemVerif.Props.C01Gen.kl_ova_grad_snd_eq
#print axioms GemVerif.Props.C01Gen.kl_ova_grad_fst_eq
#print axioms GemVerif.Props.C01Gen.kl_ovo_eq
#print axioms GemVerif.Props.C01Gen.kl_ovo_grad_snd_eq
#print axioms GemVerif.Props.C01Gen.kl_ovo_grad_fst_eq
#print axioms GemVerif.Props.C01Gen.tv_ova_eq
#print axioms GemVerif.Props.C01Gen.tv_ova_grad_snd_eq
#print axioms GemVerif.Props.C01Gen.tv_ova_grad_fst_eq
#print axioms GemVerif.Props.C01Gen.hellinger_ova_eq
#print axioms GemVerif.Props.C01Gen.hellinger_ova_grad_snd_eq
#print axioms GemVerif.Props.C01Gen.hellinger_ova_grad_fst_eq
#print axioms GemVerif.Props.C01Gen.hellinger_ovo_eq
#print axioms GemVerif.Props.C01Gen.hellinger_ovo_grad_snd_eq
#print axioms GemVerif.Props.C01Gen.hellinger_ovo_grad_fst_eq
#print axioms GemVerif.Props.C01Gen.chi2_ova_eq
#print axioms GemVerif.Props.C01Gen.chi2_ova_grad_snd_eq
#print axioms GemVerif.Props.C01Gen.chi2_ova_grad_fst_eq
#print axioms GemVerif.Props.C01Gen.chi2_ovo_grad_snd_eq
#print axioms GemVerif.Props.C01Gen.mmd_ova_eq
#print axioms GemVerif.Props.C01Gen.mmd_ova_grad_fst_eq
#print axioms GemVerif.Props.C01Gen.mmd_ova_grad_empty_raises
#print axioms GemVerif.Props.C01Gen.mmd_ovo_eq
#print axioms GemVerif.Props.C01Gen.mmd_ovo_grad_fst_eq
#print axioms GemVerif.Props.C01Gen.chi2_ovo_eq_of
#print axioms GemVerif.Props.C01Gen.tv_ovo_eq_of
#print axioms GemVerif.Props.C01Gen.tv_ovo_grad_snd_eq_of
#print axioms GemVerif.Props.C01Gen.chi2_ovo_eq
#print axioms GemVerif.Props.C01Gen.chi2_ovo_grad_fst_eq
#print axioms GemVerif.Props.C01Gen.tv_ovo_eq
#print axioms GemVerif.Props.C01Gen.tv_ovo_grad_snd_eq
#print axioms GemVerif.Props.C01Gen.tv_ovo_grad_fst_eq
#print axioms GemVerif.Props.C01Gen.mmd_ova_grad_snd_eq
#print axioms GemVerif.Props.C01Gen.mmd_ovo_grad_snd_eq
#print axioms GemVerif.Props.C05Gen.isMat_spelled_out
#print axioms GemVerif.Props.C05Gen.raised_not_eqv
#print axioms GemVerif.Props.C05Gen.soft_threshold_isMat
#print axioms GemVerif.Props.C05Gen.soft_threshold_eq
#print axioms GemVerif.Props.C05Gen.linear_prox_grad_isMat
#print axioms GemVerif.Props.C05Gen.linear_prox_grad_eq
#print axioms GemVerif.Props.C05Gen.mlp_prox_grad_spec
#print axioms GemVerif.Props.C05Gen.mlp_prox_grad_eq
#print axioms GemVerif.Props.C05Gen.mlp_prox_grad_index_error
#print axioms GemVerif.Props.C05Gen.isPartialMat_spelled_out
#print axioms GemVerif.Props.C05Gen.group_linear_prox_grad_isPartialMat
#print axioms GemVerif.Props.C05Gen.group_linear_prox_grad_eq
#print axioms GemVerif.Props.C05Gen.group_mlp_prox_grad_isPartialMat
#print axioms GemVerif.Props.C05Gen.group_mlp_prox_grad_eq
#print axioms GemVerif.Props.C05Gen.mlp_prox_grad_eq_real
#print axioms GemVerif.Props.C05Gen.group_mlp_prox_grad_eq_real
#print axioms GemVerif.Props.C01WassGen.wass_ova_units
#print axioms GemVerif.Props.C01WassGen.wass_ova_eq
#print axioms GemVerif.Props.C01WassGen.wass_ova_grad_eq
#print axioms GemVerif.Props.C01WassGen.wass_ovo_eq
#print axioms GemVerif.Props.C01WassGen.wass_ovo_grad_spec
#print axioms GemVerif.Props.C01WassGen.wass_ovo_grad_fst_eq
#print axioms GemVerif.Props.C01WassGen.wass_ova_grad_no_cluster_raises
#print axioms GemVerif.Props.C01WassGen.ofModel_spelled_out
#print axioms GemVerif.Props.C01WassGen.wass_ovo_grad_snd_eq
