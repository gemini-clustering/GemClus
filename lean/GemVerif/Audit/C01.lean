import GemVerif.Props.C01
import GemVerif.Props.C02Fast
import GemVerif.Props.C01Gen
import GemVerif.Props.C01WassGen
#print axioms GemVerif.Props.C01.kl_ova_eq_spec
#print axioms GemVerif.Props.C01.kl_ovo_eq_spec
#print axioms GemVerif.Props.C01.tv_ova_eq_spec
#print axioms GemVerif.Props.C01.tv_ovo_eq_spec
#print axioms GemVerif.Props.C01.hellinger_ova_eq_spec_gen
#print axioms GemVerif.Props.C01.hellinger_ova_eq_spec
#print axioms GemVerif.Props.C01.hellinger_ovo_eq_spec_gen
#print axioms GemVerif.Props.C01.hellinger_ovo_eq_spec
#print axioms GemVerif.Props.C01.chi2_ova_eq_spec_gen
#print axioms GemVerif.Props.C01.chi2_ova_eq_spec
#print axioms GemVerif.Props.C01.chi2_ovo_eq_spec_gen
#print axioms GemVerif.Props.C01.chi2_ovo_eq_spec
#print axioms GemVerif.Props.C01.mmd_ova_eq_spec
#print axioms GemVerif.Props.C01.mmd_ovo_eq_spec
#print axioms GemVerif.Props.C01.wassWeights_eq_cond
#print axioms GemVerif.Props.C01.wassWeights_prob
#print axioms GemVerif.Props.C01.unif_prob
#print axioms GemVerif.Props.C01.wass_ova_eq_spec
#print axioms GemVerif.Props.C01.wass_ovo_eq_spec_of_on_cond
#print axioms GemVerif.Props.C01.wass_ovo_eq_spec
#print axioms GemVerif.Props.C01.registry_ok
#print axioms GemVerif.Props.C01.registry_names
#print axioms GemVerif.Props.C02Fast.mmdAlphaFast_eq
#print axioms GemVerif.Props.C02Fast.mmdGammaFast_eq
#print axioms GemVerif.Props.C02Fast.mmdDeltaOvoFast_eq
#print axioms GemVerif.Props.C02Fast.mmdDeltaOvaFast_eq
#print axioms GemVerif.Props.C02Fast.mmdScoreFast_eq
#print axioms GemVerif.Props.C02Fast.mmdGradFast_eq
#print axioms GemVerif.Props.C02Fast.mmdGradFast_apply
#print axioms GemVerif.Props.C01Gen.eqv_ofScalar_spelled_out
#print axioms GemVerif.Props.C01Gen.raised_not_eqv
#print axioms GemVerif.Props.C01Gen.kl_ova_eq
#print axioms GemVerif.Props.C01Gen.kl_ova_grad_snd_eq
#print axioms GemVerif.Props.C01Gen.kl_ova_grad_fst_eq
#print axioms GemVerif.Props.C01Gen.kl_ovo_eq
#print axioms GemVerif.Props.C01Gen.kl_ovo_grad_snd_eq
#print axioms GemVerif.Props.C01Gen.kl_ovo_grad_fst_eq
#print axioms GemVerif.Props.C01Gen.tv_ova_eq
#print axioms GemVerif.Props.C01Gen.tv_ova_grad_snd_eq
#print axioms GemVerif.Props.C01Gen.tv_ova_grad_fst_eq
#print axioms GemVerif.Props.C01Gen.hellinger_ova_eq
#print axioms GemVerif.Props.C01Gen.hellinger_ova_grad_snd_eq
#print axioms GemVerif.Props.C01Gen.hellinger_ova_grad_fst_eq
#print axioms GemVerif.Props.C01Gen.hellinger_ovo_eq
#print axioms GemVerif.Props.C01Gen.hellinger_ovo_grad_snd_eq
#print axioms GemVerif.Props.C01Gen.hellinger_ovo_grad_fst_eq
#print axioms GemVerif.Props.C01Gen.chi2_ova_eq
#print axioms GemVerif.Props.C01Gen.chi2_ova_grad_snd_eq
#print axioms GemVerif.Props.C01Gen.chi2_ova_grad_fst_eq
#print axioms GemVerif.Props.C01Gen.chi2_ovo_grad_snd_eq
#print axioms GemVerif.Props.C01Gen.mmd_ova_eq
#print axioms GemVerif.Props.C01Gen.mmd_ova_grad_fst_eq
#print axioms GemVerif.Props.C01Gen.mmd_ova_grad_empty_raises
#print axioms GemVerif.Props.C01Gen.mmd_ovo_eq
#print axioms GemVerif.Props.C01Gen.mmd_ovo_grad_fst_eq
#print axioms GemVerif.Props.C01Gen.chi2_ovo_eq_of
#print axioms GemVerif.Props.C01Gen.tv_ovo_eq_of
#print axioms GemVerif.Props.C01Gen.tv_ovo_grad_snd_eq_of
#print axioms GemVerif.Props.C01Gen.chi2_ovo_eq
#print axioms GemVerif.Props.C01Gen.chi2_ovo_grad_fst_eq
#print axioms GemVerif.Props.C01Gen.tv_ovo_eq
#print axioms GemVerif.Props.C01Gen.tv_ovo_grad_snd_eq
#print axioms GemVerif.Props.C01Gen.tv_ovo_grad_fst_eq
#print axioms GemVerif.Props.C01Gen.mmd_ova_grad_snd_eq
#print axioms GemVerif.Props.C01Gen.mmd_ovo_grad_snd_eq
#print axioms GemVerif.Props.C01WassGen.wass_ova_units
#print axioms GemVerif.Props.C01WassGen.wass_ova_eq
#print axioms GemVerif.Props.C01WassGen.wass_ova_grad_eq
#print axioms GemVerif.Props.C01WassGen.wass_ovo_eq
#print axioms GemVerif.Props.C01WassGen.wass_ovo_grad_spec
#print axioms GemVerif.Props.C01WassGen.wass_ovo_grad_fst_eq
#print axioms GemVerif.Props.C01WassGen.wass_ova_grad_no_cluster_raises
#print axioms GemVerif.Props.C01WassGen.ofModel_spelled_out
#print axioms GemVerif.Props.C01WassGen.wass_ovo_grad_snd_eq
