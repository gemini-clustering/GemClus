import GemVerif.Props.C18
import GemVerif.Props.C15Gen
#print axioms GemVerif.Props.C18.linear_row
#print axioms GemVerif.Props.C18.linear_index_map
#print axioms GemVerif.Props.C18.mlp_row
#print axioms GemVerif.Props.C18.mlp_index_map
#print axioms GemVerif.Props.C18.sparse_mlp_row
#print axioms GemVerif.Props.C18.sparse_mlp_index_map
#print axioms GemVerif.Props.C18.douglas_row
#print axioms GemVerif.Props.C18.douglas_index_map
#print axioms GemVerif.Props.C18.kernel_rim_row
#print axioms GemVerif.Props.C18.kernel_rim_index_map
#print axioms GemVerif.Props.C18.linear_same_row
#print axioms GemVerif.Props.C18.mlp_same_row
#print axioms GemVerif.Props.C18.sparse_mlp_same_row
#print axioms GemVerif.Props.C18.douglas_same_row
#print axioms GemVerif.Props.C18.kernel_rim_same_row
#print axioms GemVerif.Props.C18.predict_row
#print axioms GemVerif.Props.C18.predict_index_map
#print axioms GemVerif.Props.C18.linear_predict_index_map
#print axioms GemVerif.Props.C18.mlp_predict_index_map
#print axioms GemVerif.Props.C18.sparse_mlp_predict_index_map
#print axioms GemVerif.Props.C18.douglas_predict_index_map
#print axioms GemVerif.Props.C18.kernel_rim_predict_index_map
#print axioms GemVerif.Props.C18.argmax_row_eq_list
#print axioms GemVerif.Props.C18.kernel_rim_train_proba
#print axioms GemVerif.Props.C18.kernel_rim_train_labels
#print axioms GemVerif.Props.C18.kernel_rim_train_index_map
#print axioms GemVerif.Props.C18.kernel_rim_batch_rows
#print axioms GemVerif.Props.C18.route_index_map
#print axioms GemVerif.Props.C18.tree_predict_node_eq_route
#print axioms GemVerif.Props.C18.tree_predict_eq_route
#print axioms GemVerif.Props.C18.tree_predict_index_map
#print axioms GemVerif.Props.C18.route_fuel_irrelevant
#print axioms GemVerif.Props.C18.fitted_tree_well_formed
#print axioms GemVerif.Props.C18.kauri_predict_train_eq_labels
#print axioms GemVerif.Props.C18.kauri_predict_train_index_map
#print axioms GemVerif.Props.C18.kauri_fit_predict_train
#print axioms GemVerif.Props.C18.linear_index_map_float
#print axioms GemVerif.Props.C18.mlp_index_map_float
#print axioms GemVerif.Props.C15Gen.isRows_spelled_out
#print axioms GemVerif.Props.C15Gen.raised_not_isRows
#print axioms GemVerif.Props.C15Gen.leaf_binning_unfolded
#print axioms GemVerif.Props.C15Gen.leaf_binning_order_generic
#print axioms GemVerif.Props.C15Gen.leaf_binning_isRows
#print axioms GemVerif.Props.C15Gen.leaf_binning_eq
#print axioms GemVerif.Props.C15Gen.leaf_binning_order_eq
#print axioms GemVerif.Props.C15Gen.merge_leaf_isRows
#print axioms GemVerif.Props.C15Gen.merge_leaf_empty_raises
#print axioms GemVerif.Props.C15Gen.infer_eq
#print axioms GemVerif.Props.C15Gen.infer_ofFn_eq
#print axioms GemVerif.Props.C15Gen.infer_empty_raises
#print axioms GemVerif.Props.C15Gen.infer_out_of_range_raises
#print axioms GemVerif.Props.C15Gen.infer_wrong_leaf_count_raises
#print axioms GemVerif.Props.C15Gen.updatesAre_spelled_out
#print axioms GemVerif.Props.C15Gen.compute_grads_closed_form
#print axioms GemVerif.Props.C15Gen.compute_grads_eq
