import GemVerif.Props.C12
#print axioms GemVerif.Props.C12.checked_by_class
#print axioms GemVerif.Props.C12.tables_complete
#print axioms GemVerif.Props.C12.eighteen_estimators
#print axioms GemVerif.Props.C12.fitting_reads_subset_config
#print axioms GemVerif.Props.C12.fit_reads_only_config
#print axioms GemVerif.Props.C12.path_reads_only_config
#print axioms GemVerif.Props.C12.config_untouched_except_known
#print axioms GemVerif.Props.C12.config_untouched_on_return
#print axioms GemVerif.Props.C12.fit_predict_score_never_assign_config
#print axioms GemVerif.Props.C12.init_identity
#print axioms GemVerif.Props.C12.init_stores_each_param
#print axioms GemVerif.Props.C12.observers_keep_inputs
#print axioms GemVerif.Props.C12.observers_read_model
#print axioms GemVerif.Props.C12.history_independence
#print axioms GemVerif.Props.C12.refit_same_object
