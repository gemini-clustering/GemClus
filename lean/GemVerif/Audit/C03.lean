import GemVerif.Props.C03
import GemVerif.Props.C03Douglas
import GemVerif.Props.C03Gen
import GemVerif.Props.C15Gen
import GemVerif.Props.C03Optim
#print axioms GemVerif.Props.C03.softmaxRow_closed_form
#print axioms GemVerif.Props.C03.softmaxRow_positive
#print axioms GemVerif.Props.C03.softmaxRow_sums_to_one
#print axioms GemVerif.Props.C03.softmax_jacobian
#print axioms GemVerif.Props.C03.softmax_jacobian_direction
#print axioms GemVerif.Props.C03.linear_direction
#print axioms GemVerif.Props.C03.linear_W_entry
#print axioms GemVerif.Props.C03.linear_b_entry
#print axioms GemVerif.Props.C03.categoricalGrad_eq
#print axioms GemVerif.Props.C03.categorical_direction
#print axioms GemVerif.Props.C03.categorical_entry
#print axioms GemVerif.Props.C03.rim_direction
#print axioms GemVerif.Props.C03.rim_W_entry
#print axioms GemVerif.Props.C03.rim_b_entry
#print axioms GemVerif.Props.C03.kernelRim_direction
#print axioms GemVerif.Props.C03.kernelRim_W_entry
#print axioms GemVerif.Props.C03.kernelRim_b_entry
#print axioms GemVerif.Props.C03.sparse_outer_direction
#print axioms GemVerif.Props.C03.sparse_direction
#print axioms GemVerif.Props.C03.sparse_W1_entry
#print axioms GemVerif.Props.C03.sparse_b1_entry
#print axioms GemVerif.Props.C03.sparse_W2_entry
#print axioms GemVerif.Props.C03.sparse_b2_entry
#print axioms GemVerif.Props.C03.sparse_Ws_entry
#print axioms GemVerif.Props.C03.mlp_outer_direction
#print axioms GemVerif.Props.C03.mlp_direction
#print axioms GemVerif.Props.C03.mlp_W1_entry
#print axioms GemVerif.Props.C03.mlp_b1_entry
#print axioms GemVerif.Props.C03.mlp_W2_entry
#print axioms GemVerif.Props.C03.mlp_b2_entry
#print axioms GemVerif.Props.C03.mlp_W1_entry_needs_hact
#print axioms GemVerif.Props.C03Douglas.pred_eq_inferM
#print axioms GemVerif.Props.C03Douglas.computeGrads_returns
#print axioms GemVerif.Props.C03Douglas.leaf_scores_direction
#print axioms GemVerif.Props.C03Douglas.leaf_scores_entry
#print axioms GemVerif.Props.C03Douglas.all_parameters_direction
#print axioms GemVerif.Props.C03Douglas.cut_points_direction
#print axioms GemVerif.Props.C03Douglas.cut_point_entry
#print axioms GemVerif.Props.C03Douglas.cut_points_ties_excluded
#print axioms GemVerif.Props.C03Gen.eqv_ofFn_spelled_out
#print axioms GemVerif.Props.C03Gen.matmul_shape_error_not_eqv
#print axioms GemVerif.Props.C03Gen.linear_infer_eq
#print axioms GemVerif.Props.C03Gen.linear_compute_grads_eq
#print axioms GemVerif.Props.C03Gen.rim_update_weights_eq
#print axioms GemVerif.Props.C03Gen.kernel_rim_compute_grads_eq
#print axioms GemVerif.Props.C03Gen.mlp_infer_eq
#print axioms GemVerif.Props.C03Gen.mlp_infer_retained_eq
#print axioms GemVerif.Props.C03Gen.mlp_compute_grads_eq
#print axioms GemVerif.Props.C03Gen.categorical_infer_eq
#print axioms GemVerif.Props.C03Gen.categorical_compute_grads_eq
#print axioms GemVerif.Props.C03Gen.sparse_mlp_infer_eq
#print axioms GemVerif.Props.C03Gen.sparse_mlp_infer_retained_eq
#print axioms GemVerif.Props.C03Gen.sparse_mlp_compute_grads_eq
#print axioms GemVerif.Props.C15Gen.isRows_spelled_out
#print axioms GemVerif.Props.C15Gen.raised_not_isRows
#print axioms GemVerif.Props.C15Gen.leaf_binning_unfolded
#print axioms GemVerif.Props.C15Gen.leaf_binning_order_generic
#print axioms GemVerif.Props.C15Gen.leaf_binning_isRows
#print axioms GemVerif.Props.C15Gen.leaf_binning_eq
#print axioms GemVerif.Props.C15Gen.leaf_binning_order_eq
#print axioms GemVerif.Props.C15Gen.merge_leaf_isRows
#print axioms GemVerif.Props.C15Gen.merge_leaf_empty_raises
#print axioms GemVerif.Props.C15Gen.infer_eq
#print axioms GemVerif.Props.C15Gen.infer_ofFn_eq
#print axioms GemVerif.Props.C15Gen.infer_empty_raises
#print axioms GemVerif.Props.C15Gen.infer_out_of_range_raises
#print axioms GemVerif.Props.C15Gen.infer_wrong_leaf_count_raises
#print axioms GemVerif.Props.C15Gen.updatesAre_spelled_out
#print axioms GemVerif.Props.C15Gen.compute_grads_closed_form
#print axioms GemVerif.Props.C15Gen.compute_grads_eq
#print axioms GemVerif.Props.C03Optim.powNat_eq
#print axioms GemVerif.Props.C03Optim.sgd_first_step_nesterov
#print axioms GemVerif.Props.C03Optim.sgd_first_step_plain
#print axioms GemVerif.Props.C03Optim.sgd_first_step_descent
#print axioms GemVerif.Props.C03Optim.sgd_plain_run
#print axioms GemVerif.Props.C03Optim.sgd_zero_history_fixed
#print axioms GemVerif.Props.C03Optim.adam_v_nonneg
#print axioms GemVerif.Props.C03Optim.adam_lr_pos
#print axioms GemVerif.Props.C03Optim.adam_step_descent
#print axioms GemVerif.Props.C03Optim.adam_first_step_descent
#print axioms GemVerif.Props.C03Optim.adam_zero_history_fixed
#print axioms GemVerif.Props.C03Optim.sparse_threshold_adam
#print axioms GemVerif.Props.C03Optim.adam_lr_first
#print axioms GemVerif.Props.C03Optim.adam_first_step_bounded
#print axioms GemVerif.Props.C03Optim.sgd_consistent_sign
#print axioms GemVerif.Props.C03Optim.eliminated_row_stays_zero_adam
#print axioms GemVerif.Props.C03Optim.eliminated_row_stays_zero_sgd
