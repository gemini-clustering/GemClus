import GemVerif.Props.C13
import GemVerif.Props.C02Fast
import GemVerif.Props.C13Wass
import GemVerif.Props.C01Gen
import GemVerif.Props.C01WassGen
#print axioms GemVerif.Props.C13.kl_sample_perm
#print axioms GemVerif.Props.C13.tv_sample_perm
#print axioms GemVerif.Props.C13.hellinger_sample_perm
#print axioms GemVerif.Props.C13.chi2_sample_perm
#print axioms GemVerif.Props.C13.mmd_sample_perm
#print axioms GemVerif.Props.C13.kl_grad_sample_perm
#print axioms GemVerif.Props.C13.tv_grad_sample_perm
#print axioms GemVerif.Props.C13.hellinger_grad_sample_perm
#print axioms GemVerif.Props.C13.chi2_grad_sample_perm
#print axioms GemVerif.Props.C13.mmd_grad_sample_perm
#print axioms GemVerif.Props.C13.kl_cluster_perm
#print axioms GemVerif.Props.C13.tv_cluster_perm
#print axioms GemVerif.Props.C13.hellinger_cluster_perm
#print axioms GemVerif.Props.C13.chi2_cluster_perm
#print axioms GemVerif.Props.C13.mmd_cluster_perm
#print axioms GemVerif.Props.C13.kl_grad_cluster_perm
#print axioms GemVerif.Props.C13.tv_grad_cluster_perm
#print axioms GemVerif.Props.C13.hellinger_grad_cluster_perm
#print axioms GemVerif.Props.C13.chi2_grad_cluster_perm
#print axioms GemVerif.Props.C13.mmd_grad_cluster_perm
#print axioms GemVerif.Props.C13.KL_nonneg
#print axioms GemVerif.Props.C13.TV_bounds
#print axioms GemVerif.Props.C13.H2_bounds
#print axioms GemVerif.Props.C13.chi2_nonneg
#print axioms GemVerif.Props.C13.MMD_nonneg
#print axioms GemVerif.Props.C13.KL_boundedBelow
#print axioms GemVerif.Props.C13.TV_boundedBelow
#print axioms GemVerif.Props.C13.H2_boundedBelow
#print axioms GemVerif.Props.C13.chi2_boundedBelow
#print axioms GemVerif.Props.C13.MMD_boundedBelow
#print axioms GemVerif.Props.C13.TV_boundedAbove
#print axioms GemVerif.Props.C13.H2_boundedAbove
#print axioms GemVerif.Props.C13.spec_scores_nonneg
#print axioms GemVerif.Props.C13.spec_tv_hellinger_le_one
#print axioms GemVerif.Props.C13.klScore_nonneg
#print axioms GemVerif.Props.C13.tvScore_bounds
#print axioms GemVerif.Props.C13.hellingerScore_bounds
#print axioms GemVerif.Props.C13.chi2Score_ge_half
#print axioms GemVerif.Props.C13.mmdScore_nonneg
#print axioms GemVerif.Props.C13.tvScore_nonneg
#print axioms GemVerif.Props.C13.kl_indep_zero
#print axioms GemVerif.Props.C13.tv_indep_zero
#print axioms GemVerif.Props.C13.mmd_indep_zero
#print axioms GemVerif.Props.C13.hellinger_indep_zero
#print axioms GemVerif.Props.C13.chi2_indep_half
#print axioms GemVerif.Props.C13.mi_balanced_partition
#print axioms GemVerif.Props.C13.kl_add_empty
#print axioms GemVerif.Props.C13.tv_add_empty
#print axioms GemVerif.Props.C13.hellinger_add_empty
#print axioms GemVerif.Props.C13.chi2_add_empty
#print axioms GemVerif.Props.C13.mmd_add_empty
#print axioms GemVerif.Props.C13.grad_add_empty_zero
#print axioms GemVerif.Props.C13.closed_simplex_guards
#print axioms GemVerif.Props.C02Fast.mmdAlphaFast_eq
#print axioms GemVerif.Props.C02Fast.mmdGammaFast_eq
#print axioms GemVerif.Props.C02Fast.mmdDeltaOvoFast_eq
#print axioms GemVerif.Props.C02Fast.mmdDeltaOvaFast_eq
#print axioms GemVerif.Props.C02Fast.mmdScoreFast_eq
#print axioms GemVerif.Props.C02Fast.mmdGradFast_eq
#print axioms GemVerif.Props.C02Fast.mmdGradFast_apply
#print axioms GemVerif.Props.C13Wass.wass_sample_perm
#print axioms GemVerif.Props.C13Wass.wass_grad_sample_perm
#print axioms GemVerif.Props.C13Wass.wass_calls_in_open_simplex
#print axioms GemVerif.Props.C13Wass.wass_sample_perm_of_global
#print axioms GemVerif.Props.C13Wass.wass_grad_sample_perm_of_global
#print axioms GemVerif.Props.C13Wass.wass_ova_cluster_perm
#print axioms GemVerif.Props.C13Wass.wass_ovo_cluster_perm
#print axioms GemVerif.Props.C13Wass.wass_ovo_grad_cluster_perm
#print axioms GemVerif.Props.C13Wass.wass_ovo_cluster_perm_of_global
#print axioms GemVerif.Props.C13Wass.wass_ovo_grad_cluster_perm_of_global
#print axioms GemVerif.Props.C13Wass.wass_nonneg
#print axioms GemVerif.Props.C13Wass.wass_nonneg_of_global
#print axioms GemVerif.Props.C13Wass.wass_indep_zero
#print axioms GemVerif.Props.C13Wass.wass_indep_weights_uniform
#print axioms GemVerif.Props.C13Wass.wass_add_empty
#print axioms GemVerif.Props.C13Wass.wass_grad_add_empty
#print axioms GemVerif.Props.C01Gen.eqv_ofScalar_spelled_out
#print axioms GemVerif.Props.C01Gen.raised_not_eqv
#print axioms GemVerif.Props.C01Gen.kl_ova_eq
#print axioms GemVerif.Props.C01Gen.kl_ova_grad_snd_eq
#print axioms GemVerif.Props.C01Gen.kl_ova_grad_fst_eq
#print axioms GemVerif.Props.C01Gen.kl_ovo_eq
#print axioms GemVerif.Props.C01Gen.kl_ovo_grad_snd_eq
#print axioms GemVerif.Props.C01Gen.kl_ovo_grad_fst_eq
#print axioms GemVerif.Props.C01Gen.tv_ova_eq
#print axioms GemVerif.Props.C01Gen.tv_ova_grad_snd_eq
#print axioms GemVerif.Props.C01Gen.tv_ova_grad_fst_eq
#print axioms GemVerif.Props.C01Gen.hellinger_ova_eq
#print axioms GemVerif.Props.C01Gen.hellinger_ova_grad_snd_eq
#print axioms GemVerif.Props.C01Gen.hellinger_ova_grad_fst_eq
#print axioms GemVerif.Props.C01Gen.hellinger_ovo_eq
#print axioms GemVerif.Props.C01Gen.hellinger_ovo_grad_snd_eq
#print axioms GemVerif.Props.C01Gen.hellinger_ovo_grad_fst_eq
#print axioms GemVerif.Props.C01Gen.chi2_ova_eq
#print axioms GemVerif.Props.C01Gen.chi2_ova_grad_snd_eq
#print axioms GemVerif.Props.C01Gen.chi2_ova_grad_fst_eq
#print axioms GemVerif.Props.C01Gen.chi2_ovo_grad_snd_eq
#print axioms GemVerif.Props.C01Gen.mmd_ova_eq
#print axioms GemVerif.Props.C01Gen.mmd_ova_grad_fst_eq
#print axioms GemVerif.Props.C01Gen.mmd_ova_grad_empty_raises
#print axioms GemVerif.Props.C01Gen.mmd_ovo_eq
#print axioms GemVerif.Props.C01Gen.mmd_ovo_grad_fst_eq
#print axioms GemVerif.Props.C01Gen.chi2_ovo_eq_of
#print axioms GemVerif.Props.C01Gen.tv_ovo_eq_of
#print axioms GemVerif.Props.C01Gen.tv_ovo_grad_snd_eq_of
#print axioms GemVerif.Props.C01Gen.chi2_ovo_eq
#print axioms GemVerif.Props.C01Gen.chi2_ovo_grad_fst_eq
#print axioms GemVerif.Props.C01Gen.tv_ovo_eq
#print axioms GemVerif.Props.C01Gen.tv_ovo_grad_snd_eq
#print axioms GemVerif.Props.C01Gen.tv_ovo_grad_fst_eq
#print axioms GemVerif.Props.C01Gen.mmd_ova_grad_snd_eq
#print axioms GemVerif.Props.C01Gen.mmd_ovo_grad_snd_eq
#print axioms GemVerif.Props.C01WassGen.wass_ova_units
#print axioms GemVerif.Props.C01WassGen.wass_ova_eq
#print axioms GemVerif.Props.C01WassGen.wass_ova_grad_eq
#print axioms GemVerif.Props.C01WassGen.wass_ovo_eq
#print axioms GemVerif.Props.C01WassGen.wass_ovo_grad_spec
#print axioms GemVerif.Props.C01WassGen.wass_ovo_grad_fst_eq
#print axioms GemVerif.Props.C01WassGen.wass_ova_grad_no_cluster_raises
#print axioms GemVerif.Props.C01WassGen.ofModel_spelled_out
#print axioms GemVerif.Props.C01WassGen.wass_ovo_grad_snd_eq
