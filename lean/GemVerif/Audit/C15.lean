import GemVerif.Props.C15
import GemVerif.Props.C15Gen
#print axioms GemVerif.Props.C15.infer_reads_used_only
#print axioms GemVerif.Props.C15.used_features_mem
#print axioms GemVerif.Props.C15.unused_inert
#print axioms GemVerif.Props.C15.mask_length_check
#print axioms GemVerif.Props.C15.used_features_count
#print axioms GemVerif.Props.C15.leaf_count
#print axioms GemVerif.Props.C15.infer_accepts_iff
#print axioms GemVerif.Props.C15.binning_prob
#print axioms GemVerif.Props.C15.kron_prob
#print axioms GemVerif.Props.C15.leaf_prob
#print axioms GemVerif.Props.C15.leaf_defined
#print axioms GemVerif.Props.C15.sorted_cuts_spec
#print axioms GemVerif.Props.C15.logit_step
#print axioms GemVerif.Props.C15.argmax_bin
#print axioms GemVerif.Props.C15.cell_bin_bound
#print axioms GemVerif.Props.C15.cell_bin_tendsto
#print axioms GemVerif.Props.C15.binning_perm_invariant
#print axioms GemVerif.Props.C15.infer_perm_invariant
#print axioms GemVerif.Props.C15.leaf_cell_bound
#print axioms GemVerif.Props.C15.leafIndex_of_cells
#print axioms GemVerif.Props.C15.infer_tendsto
#print axioms GemVerif.Props.C15.infer_same_cell
#print axioms GemVerif.Props.C15.activeFixed_iff_spec
#print axioms GemVerif.Props.C15.spec_iff_min_max
#print axioms GemVerif.Props.C15.active_rejects
#print axioms GemVerif.Props.C15.activeCurrent_ne_spec
#print axioms GemVerif.Props.C15.activeCurrent_ne_spec_real
#print axioms GemVerif.Props.C15.activeCurrent_single_cut
#print axioms GemVerif.Props.C15Gen.isRows_spelled_out
#print axioms GemVerif.Props.C15Gen.raised_not_isRows
#print axioms GemVerif.Props.C15Gen.leaf_binning_unfolded
#print axioms GemVerif.Props.C15Gen.leaf_binning_order_generic
#print axioms GemVerif.Props.C15Gen.leaf_binning_isRows
#print axioms GemVerif.Props.C15Gen.leaf_binning_eq
#print axioms GemVerif.Props.C15Gen.leaf_binning_order_eq
#print axioms GemVerif.Props.C15Gen.merge_leaf_isRows
#print axioms GemVerif.Props.C15Gen.merge_leaf_empty_raises
#print axioms GemVerif.Props.C15Gen.infer_eq
#print axioms GemVerif.Props.C15Gen.infer_ofFn_eq
#print axioms GemVerif.Props.C15Gen.infer_empty_raises
#print axioms GemVerif.Props.C15Gen.infer_out_of_range_raises
#print axioms GemVerif.Props.C15Gen.infer_wrong_leaf_count_raises
#print axioms GemVerif.Props.C15Gen.updatesAre_spelled_out
#print axioms GemVerif.Props.C15Gen.compute_grads_closed_form
#print axioms GemVerif.Props.C15Gen.compute_grads_eq
