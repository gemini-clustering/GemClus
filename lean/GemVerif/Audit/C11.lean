import GemVerif.Props.C11
import GemVerif.Props.C11Cong
#print axioms GemVerif.Props.C11.estimators_complete
#print axioms GemVerif.Props.C11.all_forward
#print axioms GemVerif.Props.C11.mmd_estimators_forward
#print axioms GemVerif.Props.C11.wasserstein_estimators_forward
#print axioms GemVerif.Props.C11.mi_estimators_forward
#print axioms GemVerif.Props.C11.kernelrim_gemini_ignores_base_kernel
#print axioms GemVerif.Props.C11.generic_estimators_forward
#print axioms GemVerif.Props.C11.instance_is_itself
#print axioms GemVerif.Props.C11.registry_consistent
#print axioms GemVerif.Props.C11.mmd_affinity_as_documented
#print axioms GemVerif.Props.C11.wasserstein_affinity_as_documented
#print axioms GemVerif.Props.C11.generic_affinity_as_documented
#print axioms GemVerif.Props.C11.mi_affinity_is_none
#print axioms GemVerif.Props.C11.missing_matrix_is_error
#print axioms GemVerif.Props.C11.mmd_precomputed_eq_named
#print axioms GemVerif.Props.C11.mmd_precomputed_same_objective
#print axioms GemVerif.Props.C11.wasserstein_precomputed_eq_named
#print axioms GemVerif.Props.C11.wasserstein_precomputed_same_objective
#print axioms GemVerif.Props.C11.mmd_callable_is_f_of_X
#print axioms GemVerif.Props.C11.kauri_precomputed_eq_named
#print axioms GemVerif.Props.C11.kauri_missing_matrix_falls_back_to_linear
#print axioms GemVerif.Props.C11.kernelrim_kernel_between_new_and_training
#print axioms GemVerif.Props.C11.mmd_dispatch_precomputed_eq_named
#print axioms GemVerif.Props.C11.wasserstein_dispatch_precomputed_eq_named
#print axioms GemVerif.Props.C11Cong.mmd_congruence
#print axioms GemVerif.Props.C11Cong.wasserstein_congruence
#print axioms GemVerif.Props.C11Cong.instance_is_itself_any
#print axioms GemVerif.Props.C11Cong.instance_congruence
#print axioms GemVerif.Props.C11Cong.generic_mmd_instance_congruence
#print axioms GemVerif.Props.C11Cong.generic_wasserstein_instance_congruence
#print axioms GemVerif.Props.C11Cong.downstream_congruence
#print axioms GemVerif.Props.C11Cong.kauri_downstream_congruence
