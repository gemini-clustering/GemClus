import GemVerif.Props.C16
#print axioms GemVerif.Props.C16.tables_agree
#print axioms GemVerif.Props.C16.documented_parameters_exist
#print axioms GemVerif.Props.C16.rows_agree
#print axioms GemVerif.Props.C16.no_false_rejection_estimators
#print axioms GemVerif.Props.C16.no_false_rejection_functions
#print axioms GemVerif.Props.C16.knownDeviations_are_deviations
#print axioms GemVerif.Props.C16.no_false_acceptance_estimators
#print axioms GemVerif.Props.C16.no_false_acceptance_functions
#print axioms GemVerif.Props.C16.lateRejected_pass_the_table
#print axioms GemVerif.Props.C16.unvalidated_are_the_rows_without_entry
#print axioms GemVerif.Props.C16.decorator_keys_name_parameters
#print axioms GemVerif.Props.C16.string_sets_resolved
#print axioms GemVerif.Props.C16.checkGroups_translation
#print axioms GemVerif.Props.C16.checkGroups_characterisation
#print axioms GemVerif.Props.C16.kauri_inequality
#print axioms GemVerif.Props.C16.douglas_mask_length
